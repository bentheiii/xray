/-
For C18.  The char-start table of a `FencedString` over `cs` is `charStartsFrom 0 cs` (the UTF-8 offset of every
character); the lemmas say that taking, dropping and slicing bytes at such offsets is taking, dropping and slicing
characters, so that every operation on a well-formed string (`FS.wf`) is the list operation on its code points.
-/
import XrayModel.FString
namespace XrayModel.FStr
open FS

/-- the representation invariant: no table over an all-ASCII buffer, or the full table.  Weaker than the source
comment "empty iff ASCII" on purpose: `substring` of a non-ASCII string can return an ASCII string *with* a table,
and every operation is correct for both forms; `from_string` gives the canonical one (`fromString_spec`). -/
def FS.wf (s : FS) : Prop :=
  (s.starts = [] ∧ ∀ c ∈ s.buf, c.utf8Size = 1) ∨ s.starts = charStartsFrom 0 s.buf

theorem byteLen_append (a b : List Char) : byteLen (a ++ b) = byteLen a + byteLen b := by
  induction a with
  | nil => simp [byteLen]
  | cons c cs ih => simp [byteLen, ih]; omega

theorem byteLen_ascii {cs : List Char} (h : ∀ c ∈ cs, c.utf8Size = 1) : byteLen cs = cs.length := by
  induction cs with
  | nil => rfl
  | cons c cs ih =>
    rw [byteLen, h c (by simp), ih fun d hd => h d (by simp [hd]), List.length_cons]; omega

theorem byteLen_take_ascii {cs : List Char} (h : ∀ c ∈ cs, c.utf8Size = 1) {i : Nat} (hi : i ≤ cs.length) :
    byteLen (cs.take i) = i := by
  rw [byteLen_ascii fun c hc => h c (List.mem_of_mem_take hc), List.length_take, Nat.min_eq_left hi]

theorem byteLen_take_length (cs : List Char) : byteLen (cs.take cs.length) = byteLen cs := by simp

theorem length_charStartsFrom (o : Nat) (cs : List Char) : (charStartsFrom o cs).length = cs.length := by
  induction cs generalizing o with
  | nil => rfl
  | cons c cs ih => simp [charStartsFrom, ih]

theorem charStartsFrom_eq_nil {o : Nat} {cs : List Char} : charStartsFrom o cs = [] ↔ cs = [] := by
  cases cs <;> simp [charStartsFrom]

theorem charStartsFrom_append (o : Nat) (a b : List Char) :
    charStartsFrom o (a ++ b) = charStartsFrom o a ++ charStartsFrom (o + byteLen a) b := by
  induction a generalizing o with
  | nil => rfl
  | cons c cs ih => simp [charStartsFrom, ih, byteLen, Nat.add_assoc]

theorem map_add_charStartsFrom (o k : Nat) (cs : List Char) :
    (charStartsFrom o cs).map (· + k) = charStartsFrom (o + k) cs := by
  induction cs generalizing o with
  | nil => rfl
  | cons c cs ih => simp [charStartsFrom, ih, Nat.add_right_comm]

theorem drop_charStartsFrom (o : Nat) (cs : List Char) (i : Nat) :
    (charStartsFrom o cs).drop i = charStartsFrom (o + byteLen (cs.take i)) (cs.drop i) := by
  induction cs generalizing o i with
  | nil => simp [charStartsFrom]
  | cons c cs ih => cases i <;> simp [charStartsFrom, byteLen, ih, Nat.add_assoc]

theorem take_charStartsFrom (o : Nat) (cs : List Char) (k : Nat) :
    (charStartsFrom o cs).take k = charStartsFrom o (cs.take k) := by
  induction cs generalizing o k with
  | nil => simp [charStartsFrom]
  | cons c cs ih => cases k <;> simp [charStartsFrom, ih]

theorem getElem?_charStartsFrom (o : Nat) (cs : List Char) (i : Nat) :
    (charStartsFrom o cs)[i]? = if i < cs.length then some (o + byteLen (cs.take i)) else none := by
  rw [← List.head?_drop, drop_charStartsFrom]
  split
  · obtain ⟨c, r, h⟩ := List.exists_cons_of_ne_nil (l := cs.drop i) (by simp; omega)
    simp [h, charStartsFrom]
  · simp [List.drop_eq_nil_of_le (Nat.le_of_not_lt ‹_›), charStartsFrom]

theorem charStartsFrom_ascii (o : Nat) (cs : List Char) (h : ∀ c ∈ cs, c.utf8Size = 1) :
    charStartsFrom o cs = (List.range cs.length).map (· + o) := by
  induction cs generalizing o with
  | nil => rfl
  | cons c cs ih =>
    simp [charStartsFrom, List.range_succ_eq_map, ih _ fun d hd => h d (by simp [hd]), h c,
      Function.comp_def, Nat.add_comm, Nat.add_left_comm]

theorem rebase_charStartsFrom (b o : Nat) (cs : List Char) (h : b ≤ o) :
    rebase b (charStartsFrom o cs) = .ok (charStartsFrom (o - b) cs) := by
  induction cs generalizing o with
  | nil => rfl
  | cons c cs ih =>
    rw [charStartsFrom, rebase, if_neg (by omega), ih _ (by omega), charStartsFrom,
      show o + c.utf8Size - b = o - b + c.utf8Size by omega]
    rfl

theorem rebase_self (o : Nat) (cs : List Char) : rebase o (charStartsFrom o cs) = .ok (charStartsFrom 0 cs) := by
  rw [rebase_charStartsFrom _ _ _ (Nat.le_refl _), Nat.sub_self]

theorem dropBytes_cons {c : Char} {n : Nat} (h : c.utf8Size ≤ n) (cs : List Char) :
    dropBytes (c :: cs) n = dropBytes cs (n - c.utf8Size) := by
  cases n with
  | zero => have := c.utf8Size_pos; omega
  | succ n => rw [dropBytes, if_pos h]

theorem takeBytes_cons {c : Char} {n : Nat} (h : c.utf8Size ≤ n) (cs : List Char) :
    takeBytes (c :: cs) n = (takeBytes cs (n - c.utf8Size)).map (c :: ·) := by
  cases n with
  | zero => have := c.utf8Size_pos; omega
  | succ n => rw [takeBytes, if_pos h]

theorem dropBytes_append (a b : List Char) : dropBytes (a ++ b) (byteLen a) = some b := by
  induction a with
  | nil => cases b <;> rfl
  | cons c a ih => rw [List.cons_append, byteLen, dropBytes_cons (by omega), Nat.add_sub_cancel_left, ih]

theorem takeBytes_append (a b : List Char) : takeBytes (a ++ b) (byteLen a) = some a := by
  induction a with
  | nil => cases b <;> rfl
  | cons c a ih =>
    rw [List.cons_append, byteLen, takeBytes_cons (by omega), Nat.add_sub_cancel_left, ih]; rfl

theorem slice_append (a b c : List Char) : slice (a ++ b ++ c) (byteLen a) (byteLen (a ++ b)) = some b := by
  rw [slice, byteLen_append, if_pos (by omega), List.append_assoc, dropBytes_append, Nat.add_sub_cancel_left]
  exact takeBytes_append b c

theorem dropBytes_take (cs : List Char) (i : Nat) : dropBytes cs (byteLen (cs.take i)) = some (cs.drop i) := by
  simpa using dropBytes_append (cs.take i) (cs.drop i)

theorem slice_take (cs : List Char) {i j : Nat} (hij : i ≤ j) :
    slice cs (byteLen (cs.take i)) (byteLen (cs.take j)) = some ((cs.drop i).take (j - i)) := by
  have := slice_append (cs.take i) ((cs.drop i).take (j - i)) ((cs.drop i).drop (j - i))
  rwa [← List.take_add, List.drop_drop, Nat.add_sub_cancel' hij, List.take_append_drop] at this

theorem wf_ascii_of_nil {s : FS} (hs : s.wf) (h : s.starts = []) : ∀ c ∈ s.buf, c.utf8Size = 1 := by
  rcases hs with hs | hs
  · exact hs.2
  · simp [charStartsFrom_eq_nil.mp (hs ▸ h)]

/-- the two representations, told apart the way the code does it: by whether the table is empty -/
theorem wf_cases {s : FS} (h : s.wf) :
    (s.starts = [] ∧ ∀ c ∈ s.buf, c.utf8Size = 1) ∨ (s.starts ≠ [] ∧ s.starts = charStartsFrom 0 s.buf) := by
  by_cases he : s.starts = []
  · exact Or.inl ⟨he, wf_ascii_of_nil h he⟩
  · exact Or.inr ⟨he, h.resolve_left fun h => he h.1⟩

theorem len_chars (s : FS) (h : s.wf) : s.len = s.buf.length := by
  rcases wf_cases h with ⟨h1, h2⟩ | ⟨h1, h2⟩
  · simp [FS.len, h1, byteLen_ascii h2]
  · simp [FS.len, h1, h2 ▸ length_charStartsFrom 0 s.buf]

/-- the test of `from_string` (a gap between adjacent offsets, or between the last one, `l`, and the end `n`)
fails exactly on ASCII text -/
theorem notAscii_eq_false (o n l : Nat) (c : Char) (cs : List Char) (hn : n = o + byteLen (c :: cs))
    (hl : (charStartsFrom o (c :: cs)).getLast? = some l) :
    (hasGap (charStartsFrom o (c :: cs)) || decide (l + 1 < n)) = false ↔ ∀ d ∈ c :: cs, d.utf8Size = 1 := by
  have := c.utf8Size_pos
  induction cs generalizing o c with
  | nil => simp [charStartsFrom, hasGap, byteLen] at hn hl ⊢; omega
  | cons c2 cs ih =>
    have h := ih (o + c.utf8Size) c2 (by simpa [byteLen, Nat.add_assoc] using hn)
      (by simpa [charStartsFrom] using hl) c2.utf8Size_pos
    have e : ¬ o + 1 < o + c.utf8Size ↔ c.utf8Size = 1 := by omega
    simp only [charStartsFrom, hasGap, List.forall_mem_cons, Bool.or_eq_false_iff,
      decide_eq_false_iff_not] at h ⊢
    exact and_assoc.trans (and_congr e h)

theorem fromString_spec (cs : List Char) :
    (fromString cs).buf = cs ∧ (fromString cs).wf ∧
    ((fromString cs).starts = [] ↔ ∀ c ∈ cs, c.utf8Size = 1) := by
  cases cs with
  | nil => simp [fromString, charStartsFrom, empty, FS.wf]
  | cons c cs =>
    rw [fromString.eq_def]
    split
    · rename_i he; cases he
    · split
      · rename_i l hl
        have hf := notAscii_eq_false 0 _ l c cs (Nat.zero_add _).symm hl
        by_cases ha : ∀ d ∈ c :: cs, d.utf8Size = 1
        · rw [hf.mpr ha]
          exact ⟨rfl, Or.inl ⟨rfl, ha⟩, by simpa using ha⟩
        · rw [Bool.of_not_eq_false (mt hf.mp ha)]
          exact ⟨rfl, Or.inr rfl, iff_of_false (by simp [charStartsFrom]) ha⟩
      · rename_i hl; simp [charStartsFrom] at hl

theorem Res.bind_eq_ok {α β} {r : Res α} {f : α → Res β} {v : β} (h : r.bind f = .ok v) :
    ∃ x, r = .ok x ∧ f x = .ok v := by
  cases r with
  | ok x => exact ⟨x, rfl, h⟩
  | _ => cases h

theorem substr_of_substring (s : FS) (a : Nat) (e : Option Nat) (r : FS) (h : s.substring a e = .ok r) :
    s.substr a e = .ok r.buf := by
  unfold FS.substring at h
  unfold FS.substr
  split at h
  · obtain ⟨b, hb, h⟩ := Res.bind_eq_ok h
    cases h; rwa [if_pos ‹_›]
  · obtain ⟨sb, hsb, h⟩ := Res.bind_eq_ok h
    rw [if_neg ‹_›, hsb]
    simp only [Res.bind]
    split at h <;>
    · obtain ⟨b, hb, h⟩ := Res.bind_eq_ok h
      obtain ⟨_, _, h⟩ := Res.bind_eq_ok h
      obtain ⟨_, _, h⟩ := Res.bind_eq_ok h
      cases h; exact hb

theorem substring_clip (s : FS) (a : Nat) {b : Nat} (h : s.len ≤ b) : s.substring a (some b) = s.substring a none := by
  unfold FS.substring
  split
  · simp [asciiSub, Nat.not_lt.mpr h]
  · rw [FS.len, if_neg ‹_›] at h
    simp [List.getElem?_eq_none h]

theorem vecSlice_charStartsFrom (cs : List Char) {a n : Nat} (han : a ≤ n) (hn : n ≤ cs.length) :
    vecSlice (charStartsFrom 0 cs) a n =
      .ok (charStartsFrom (byteLen (cs.take a)) ((cs.drop a).take (n - a))) := by
  rw [vecSlice, if_pos ⟨han, by rwa [length_charStartsFrom]⟩, drop_charStartsFrom, take_charStartsFrom,
    Nat.zero_add]

theorem startByte_table {s : FS} (h : s.starts = charStartsFrom 0 s.buf) {a : Nat} (ha : a ≤ s.buf.length) :
    s.startByte a = .ok (byteLen (s.buf.take a)) := by
  rw [startByte, h, length_charStartsFrom, getElem?_charStartsFrom]
  split
  · simp [*]
  · rw [if_pos (by omega), Nat.zero_add]

theorem Res.ok_bind {α β} (v : α) (f : α → Res β) : (Res.ok v).bind f = f v := rfl

theorem substring_none (s : FS) (hs : s.wf) (a : Nat) (ha : a ≤ s.buf.length) :
    ∃ r, s.substring a none = .ok r ∧ r.wf ∧ r.buf = s.buf.drop a := by
  have hd := dropBytes_take s.buf a
  rcases wf_cases hs with ⟨h1, h2⟩ | ⟨h1, h2⟩
  · rw [byteLen_take_ascii h2 ha] at hd
    simp only [FS.substring, h1, List.isEmpty_nil, if_true, asciiSub, sliceFrom, hd, optSlice, Res.ok_bind]
    exact ⟨_, rfl, Or.inl ⟨rfl, fun c hc => h2 c (List.mem_of_mem_drop hc)⟩, rfl⟩
  · have e1 := vecSlice_charStartsFrom s.buf ha (Nat.le_refl _)
    rw [show (s.buf.drop a).take (s.buf.length - a) = s.buf.drop a from List.take_of_length_le (by simp)] at e1
    simp only [FS.substring, List.isEmpty_iff, h1, if_false, startByte_table h2 ha, Option.bind_none, sliceFrom, hd,
      optSlice, Res.ok_bind]
    rw [h2, length_charStartsFrom, e1, Res.ok_bind, rebase_self]
    exact ⟨_, rfl, Or.inr rfl, rfl⟩

theorem substring_lt (s : FS) (hs : s.wf) (a b : Nat) (hab : a ≤ b) (hb : b < s.buf.length) :
    ∃ r, s.substring a (some b) = .ok r ∧ r.wf ∧ r.buf = (s.buf.drop a).take (b - a) := by
  have hsl := slice_take s.buf hab
  rcases wf_cases hs with ⟨h1, h2⟩ | ⟨h1, h2⟩
  · rw [byteLen_take_ascii h2 (by omega), byteLen_take_ascii h2 (by omega)] at hsl
    simp only [FS.substring, h1, List.isEmpty_nil, if_true, asciiSub, len_chars s hs, hb, hsl, optSlice, Res.ok_bind]
    exact ⟨_, rfl, Or.inl ⟨rfl, fun c hc => h2 c (List.mem_of_mem_drop (List.mem_of_mem_take hc))⟩, rfl⟩
  · have e1 := vecSlice_charStartsFrom s.buf hab (Nat.le_of_lt hb)
    have hsb := startByte_table h2 (Nat.le_of_lt (Nat.lt_of_le_of_lt hab hb))
    simp only [FS.substring, List.isEmpty_iff, h1, if_false, hsb, Option.bind_some, Res.ok_bind]
    rw [h2, getElem?_charStartsFrom, if_pos hb, Nat.zero_add]
    simp only [hsl, optSlice, Option.getD_some, e1, rebase_self, Res.ok_bind]
    exact ⟨_, rfl, Or.inr rfl, rfl⟩

theorem substring_some (s : FS) (hs : s.wf) (a b : Nat) (ha : a ≤ s.buf.length) (hab : a ≤ b) :
    ∃ r, s.substring a (some b) = .ok r ∧ r.wf ∧ r.buf = (s.buf.drop a).take (b - a) := by
  by_cases hb : b < s.buf.length
  · exact substring_lt s hs a b hab hb
  · rw [substring_clip s a (by rw [len_chars s hs]; omega), List.take_of_length_le (by simp; omega)]
    exact substring_none s hs a ha

theorem substr_none (s : FS) (hs : s.wf) (a : Nat) (ha : a ≤ s.buf.length) :
    s.substr a none = .ok (s.buf.drop a) := by
  obtain ⟨r, h1, _, h3⟩ := substring_none s hs a ha
  rw [substr_of_substring s a _ r h1, h3]

theorem substr_some (s : FS) (hs : s.wf) (a b : Nat) (ha : a ≤ s.buf.length) (hab : a ≤ b) :
    s.substr a (some b) = .ok ((s.buf.drop a).take (b - a)) := by
  obtain ⟨r, h1, _, h3⟩ := substring_some s hs a b ha hab
  rw [substr_of_substring s a _ r h1, h3]

/-- the table the operations effectively work with: in an ASCII buffer every byte starts a character -/
def FS.effTable (s : FS) : List Nat := if s.starts.isEmpty then List.range (byteLen s.buf) else s.starts

theorem effTable_wf (s : FS) (hs : s.wf) : s.effTable = charStartsFrom 0 s.buf := by
  rcases wf_cases hs with ⟨h1, h2⟩ | ⟨h1, h2⟩
  · simp [FS.effTable, h1, charStartsFrom_ascii 0 _ h2, byteLen_ascii h2]
  · rw [FS.effTable, if_neg (by simpa using h1), h2]

theorem push_eq (s o : FS) (h : ¬ (s.starts.isEmpty ∧ o.starts.isEmpty)) :
    s.push o = ⟨s.buf ++ o.buf, s.effTable ++ o.effTable.map (· + byteLen s.buf)⟩ := by
  unfold FS.push FS.effTable
  cases hs : s.starts.isEmpty <;> cases ho : o.starts.isEmpty <;> simp_all

theorem push_spec (s o : FS) (hs : s.wf) (ho : o.wf) : (s.push o).wf ∧ (s.push o).buf = s.buf ++ o.buf := by
  by_cases h : s.starts.isEmpty ∧ o.starts.isEmpty
  · simp only [FS.push, h, Bool.and_self, if_true, and_true]
    refine Or.inl ⟨rfl, fun c hc => ?_⟩
    exact (List.mem_append.mp hc).elim (wf_ascii_of_nil hs (List.isEmpty_iff.mp h.1) c)
      (wf_ascii_of_nil ho (List.isEmpty_iff.mp h.2) c)
  · rw [push_eq s o h, effTable_wf s hs, effTable_wf o ho, map_add_charStartsFrom]
    exact ⟨Or.inr (charStartsFrom_append 0 _ _).symm, rfl⟩

theorem pushAscii_spec (s : FS) (t : List Char) (hs : s.wf) (ht : ∀ c ∈ t, c.utf8Size = 1) :
    (s.pushAscii t).wf ∧ (s.pushAscii t).buf = s.buf ++ t := by
  rcases wf_cases hs with ⟨h1, h2⟩ | ⟨h1, h2⟩
  · simp only [FS.pushAscii, h1, List.isEmpty_nil, if_true, and_true]
    exact Or.inl ⟨rfl, fun c hc => (List.mem_append.mp hc).elim (h2 c) (ht c)⟩
  · simp only [FS.pushAscii, List.isEmpty_iff, h1, if_false, and_true]
    refine Or.inr ?_
    rw [h2, charStartsFrom_append, charStartsFrom_ascii _ _ ht, byteLen_ascii ht, Nat.zero_add]

def occAt (n cs : List Char) (i : Nat) : Prop := n.isPrefixOf (cs.drop i) = true

theorem occAt_drop (n cs : List Char) (a i : Nat) : occAt n (cs.drop a) i ↔ occAt n cs (a + i) := by
  simp [occAt, List.drop_drop]

theorem strFind_spec (hay n : List Char) :
    match strFind hay n with
    | some b => ∃ i, i ≤ hay.length ∧ b = byteLen (hay.take i) ∧ occAt n hay i ∧ ∀ j, j < i → ¬ occAt n hay j
    | none => ∀ j, j ≤ hay.length → ¬ occAt n hay j := by
  induction hay with
  | nil => cases n <;> simp [strFind, occAt, byteLen]
  | cons c cs ih =>
    unfold strFind
    by_cases hp : n.isPrefixOf (c :: cs) = true
    · rw [if_pos hp]
      exact ⟨0, Nat.zero_le _, rfl, hp, fun _ h => absurd h (Nat.not_lt_zero _)⟩
    · rw [if_neg hp]
      cases hr : strFind cs n with
      | some b =>
        rw [hr] at ih
        obtain ⟨i, hi, hb, ho, hmin⟩ := ih
        refine ⟨i + 1, Nat.succ_le_succ hi, by simp [byteLen, hb, Nat.add_comm], ho, fun j hj => ?_⟩
        cases j with
        | zero => exact hp
        | succ j => exact hmin j (Nat.lt_of_succ_lt_succ hj)
      | none =>
        rw [hr] at ih
        intro j hj
        cases j with
        | zero => exact hp
        | succ j => exact ih j (Nat.le_of_succ_le_succ hj)

theorem strRFind_spec (hay n : List Char) :
    match strRFind hay n with
    | some b => ∃ i, i ≤ hay.length ∧ b = byteLen (hay.take i) ∧ occAt n hay i ∧ ∀ j, i < j → j ≤ hay.length → ¬ occAt n hay j
    | none => ∀ j, j ≤ hay.length → ¬ occAt n hay j := by
  induction hay with
  | nil => cases n <;> simp [strRFind, occAt, byteLen]; omega
  | cons c cs ih =>
    unfold strRFind
    cases hr : strRFind cs n with
    | some b =>
      rw [hr] at ih
      obtain ⟨i, hi, hb, ho, hmax⟩ := ih
      refine ⟨i + 1, Nat.succ_le_succ hi, by simp [byteLen, hb, Nat.add_comm], ho, fun j hj hjl => ?_⟩
      cases j with
      | zero => omega
      | succ j => exact hmax j (Nat.lt_of_succ_lt_succ hj) (Nat.le_of_succ_le_succ hjl)
    | none =>
      rw [hr] at ih
      have hs : ∀ j, 0 < j → j ≤ (c :: cs).length → ¬ occAt n (c :: cs) j
        | j + 1, _, hj => ih j (Nat.le_of_succ_le_succ hj)
      by_cases hp : n.isPrefixOf (c :: cs) = true
      · simp only [if_pos hp]
        exact ⟨0, Nat.zero_le _, rfl, hp, hs⟩
      · simp only [if_neg hp]
        intro j hj
        cases j with
        | zero => exact hp
        | succ j => exact hs _ (Nat.succ_pos j) hj

theorem slice_zero_take (cs : List Char) (i : Nat) : slice cs 0 (byteLen (cs.take i)) = some (cs.take i) := by
  simpa [byteLen] using slice_take cs (Nat.zero_le i)

theorem findFrom_spec (s n : FS) (hs : s.wf) (st : Nat) (hst : st ≤ s.buf.length) :
    (∃ i, findFrom s n st = .ok (some i) ∧ st ≤ i ∧ occAt n.buf s.buf i ∧
        ∀ j, st ≤ j → j < i → ¬ occAt n.buf s.buf j) ∨
    (findFrom s n st = .ok none ∧ ∀ j, st ≤ j → j ≤ s.buf.length → ¬ occAt n.buf s.buf j) := by
  -- positions `j ≥ st` of the string are the positions `j - st` of the text searched
  have shift (j : Nat) (h : st ≤ j) : occAt n.buf s.buf j ↔ occAt n.buf (s.buf.drop st) (j - st) := by
    rw [occAt_drop, Nat.add_sub_cancel' h]
  rw [findFrom, len_chars s hs, if_neg (Nat.not_lt.mpr hst), substr_none s hs st hst, Res.ok_bind]
  have := strFind_spec (s.buf.drop st) n.buf
  cases hf : strFind (s.buf.drop st) n.buf with
  | none =>
    rw [hf] at this
    exact Or.inr ⟨rfl, fun j h1 h2 => mt (shift j h1).mp (this _ (by simp; omega))⟩
  | some b =>
    rw [hf] at this
    obtain ⟨i, hi, hb, ho, hmin⟩ := this
    simp only [hb, slice_zero_take, optSlice, Res.ok_bind, List.length_take, Nat.min_eq_left hi]
    refine Or.inl ⟨_, rfl, Nat.le_add_left _ _, (shift _ (Nat.le_add_left _ _)).mpr (by simpa using ho),
      fun j h1 h2 => mt (shift j h1).mp (hmin _ (by omega))⟩

theorem rfindTo_spec (s n : FS) (e : Option Nat) (hay : List Char) (h : s.substr 0 e = .ok hay) :
    (∃ i, rfindTo s n e = .ok (some i) ∧ occAt n.buf hay i ∧
        ∀ j, i < j → j ≤ hay.length → ¬ occAt n.buf hay j) ∨
    (rfindTo s n e = .ok none ∧ ∀ j, j ≤ hay.length → ¬ occAt n.buf hay j) := by
  rw [rfindTo, h, Res.ok_bind]
  have := strRFind_spec hay n.buf
  cases hf : strRFind hay n.buf with
  | none => rw [hf] at this; exact Or.inr ⟨rfl, this⟩
  | some b =>
    rw [hf] at this
    obtain ⟨i, hi, hb, ho, hmax⟩ := this
    simp only [hb, slice_zero_take, optSlice, Res.ok_bind, List.length_take, Nat.min_eq_left hi]
    exact Or.inl ⟨i, rfl, ho, hmax⟩

theorem toUsize_eq_some {v : Int} {n : Nat} : toUsize v = some n ↔ v = n ∧ n < usizeLimit := by
  unfold toUsize
  split
  · simp; omega
  · split <;> simp <;> omega

theorem get_spec (s : FS) (hs : s.wf) (i : Int) (hlen : s.buf.length < usizeLimit)
    (hlo : -(s.buf.length : Int) ≤ i) (hhi : i < s.buf.length) :
    ∃ r, get s i = .ok r ∧ r.wf ∧
      r.buf = (s.buf.drop (if i < 0 then i + s.buf.length else i).toNat).take 1 := by
  obtain ⟨k, hk⟩ : ∃ k : Nat, (if i < 0 then i + (s.buf.length : Int) else i) = k :=
    ⟨_, (Int.toNat_of_nonneg (by split <;> omega)).symm⟩
  have hkl : k < s.buf.length := by split at hk <;> omega
  rw [get, len_chars s hs, hk]
  simp only [toUsize_eq_some.mpr ⟨rfl, Nat.lt_trans hkl hlen⟩, if_neg (Nat.not_le.mpr hkl)]
  simpa using substring_some s hs k (k + 1) (Nat.le_of_lt hkl) (Nat.le_succ k)

theorem get_out_of_range (s : FS) (hs : s.wf) (i : Int)
    (h : i < -(s.buf.length : Int) ∨ (s.buf.length : Int) ≤ i) : ∃ m, get s i = .err m := by
  rw [get, len_chars s hs]
  cases hu : toUsize (if i < 0 then i + (s.buf.length : Int) else i) with
  | none => exact ⟨_, rfl⟩
  | some k =>
    have := (toUsize_eq_some.mp hu).1
    exact ⟨_, if_pos (by split at this <;> omega)⟩

theorem find_some (s n : FS) (hn : n.buf ≠ []) (st : Nat) (h64 : st < usizeLimit) :
    find s n (some st) = findFrom s n st := by
  simp [find, hn, toUsize_eq_some.mpr ⟨rfl, h64⟩]

theorem rfind_some (s n : FS) (hn : n.buf ≠ []) (e : Nat) (h64 : e < usizeLimit) :
    rfind s n (some e) = rfindTo s n (some e) := by
  simp [rfind, hn, toUsize_eq_some.mpr ⟨rfl, h64⟩]

theorem find_spec (s n : FS) (hs : s.wf) (hn : n.buf ≠ []) (st : Nat) (hst : st ≤ s.buf.length)
    (h64 : st < usizeLimit) :
    (∃ i, find s n (some st) = .ok (some i) ∧ st ≤ i ∧ occAt n.buf s.buf i ∧
        ∀ j, st ≤ j → j < i → ¬ occAt n.buf s.buf j) ∨
    (find s n (some st) = .ok none ∧ ∀ j, st ≤ j → j ≤ s.buf.length → ¬ occAt n.buf s.buf j) := by
  rw [find_some s n hn st h64]
  exact findFrom_spec s n hs st hst

theorem rfind_spec (s n : FS) (hs : s.wf) (hn : n.buf ≠ []) (e : Nat) (h64 : e < usizeLimit) :
    (∃ i, rfind s n (some e) = .ok (some i) ∧ occAt n.buf (s.buf.take e) i ∧
        ∀ j, i < j → j ≤ (s.buf.take e).length → ¬ occAt n.buf (s.buf.take e) j) ∨
    (rfind s n (some e) = .ok none ∧ ∀ j, j ≤ (s.buf.take e).length → ¬ occAt n.buf (s.buf.take e) j) := by
  rw [rfind_some s n hn e h64]
  exact rfindTo_spec s n (some e) _ (by simpa using substr_some s hs 0 e (Nat.zero_le _) (Nat.zero_le _))

/-! ### no index handling reaches a Rust panic -/

def Res.isPanic {α} : Res α → Prop
  | .panic _ => True
  | _ => False

theorem Res.not_isPanic_of_ok {α} {r : Res α} {v : α} (h : r = .ok v) : ¬ r.isPanic := h ▸ id

theorem get_no_panic (s : FS) (hs : s.wf) (i : Int) : ¬ (get s i).isPanic := by
  rw [get, len_chars s hs]
  split
  · exact id
  · rename_i k _
    split
    · exact id
    · obtain ⟨r, h, _⟩ := substring_some s hs k (k + 1) (by omega) (Nat.le_succ k)
      exact Res.not_isPanic_of_ok h

theorem find_no_panic (s n : FS) (hs : s.wf) (st : Option Int) : ¬ (find s n st).isPanic := by
  unfold find
  split
  · exact id
  · split
    · exact id
    · rename_i k _
      by_cases hk : k ≤ s.buf.length
      · rcases findFrom_spec s n hs k hk with ⟨_, h, _⟩ | ⟨h, _⟩ <;> exact Res.not_isPanic_of_ok h
      · rw [findFrom, len_chars s hs, if_pos (Nat.lt_of_not_le hk)]
        exact id

theorem rfind_no_panic (s n : FS) (hs : s.wf) (e : Option Int) : ¬ (rfind s n e).isPanic := by
  unfold rfind
  split
  · exact id
  · split
    · exact id
    · rename_i k _
      have ⟨hay, h⟩ : ∃ hay, s.substr 0 k = .ok hay := by
        cases k with
        | none => exact ⟨_, substr_none s hs 0 (Nat.zero_le _)⟩
        | some k => exact ⟨_, substr_some s hs 0 k (Nat.zero_le _) (Nat.zero_le _)⟩
      rcases rfindTo_spec s n k hay h with ⟨_, h, _⟩ | ⟨h, _⟩ <;> exact Res.not_isPanic_of_ok h

theorem substring_no_panic (s : FS) (hs : s.wf) (a b : Int) : ¬ (FStr.substring s a b).isPanic := by
  rw [FStr.substring, len_chars s hs]
  split
  · exact id
  · rename_i st _
    dsimp only
    generalize (if b < 0 then b + (s.buf.length : Int) else b) = v
    split
    · exact id
    · rename_i e _
      split
      · exact id
      · split
        · exact id
        · obtain ⟨r, h, _⟩ := substring_some s hs st e (by omega) (by omega)
          exact Res.not_isPanic_of_ok h

theorem encodeChar_length (c : Char) : (encodeChar c).length = c.utf8Size := by
  have le {n : UInt32} (h : c.toNat ≤ n.toNat) : c.val ≤ n := UInt32.le_iff_toNat_le.mpr h
  have gt {n : UInt32} (h : ¬ c.toNat ≤ n.toNat) : n < c.val := UInt32.lt_iff_toNat_lt.mpr (Nat.lt_of_not_le h)
  unfold encodeChar
  dsimp only
  split
  · exact (Char.utf8Size_eq_one_iff.mpr (le ‹_›)).symm
  · split
    · exact (Char.utf8Size_eq_two_iff.mpr ⟨gt ‹_›, le ‹_›⟩).symm
    · split
      · exact (Char.utf8Size_eq_three_iff.mpr ⟨gt ‹_›, le ‹_›⟩).symm
      · exact (Char.utf8Size_eq_four_iff.mpr (gt ‹_›)).symm

/-- the UTF-8 encoding shown by the driver has exactly the byte length the model computes with -/
theorem encode_length (cs : List Char) : (encode cs).length = byteLen cs := by
  induction cs with
  | nil => rfl
  | cons c cs ih =>
    simp only [encode, List.flatMap_cons, List.length_append, byteLen] at ih ⊢
    rw [encodeChar_length, ih]

end XrayModel.FStr
