/- finite denotations of the open slice, of aggregate / reduce without an initial state, and of enumerate (C16) -/
import XrayProofs.GenConsumers
namespace XrayModel.Gen

theorem den_slice_open {L it xs} (k : Nat) (perm : Permits) (h : Den L it xs) (hv : noViol xs)
    (hc : perm.covers k) : Den L (.slice it k perm none) (xs.drop k) := by
  obtain ⟨n, h1, rfl⟩ := h
  exact ⟨n, (frame_slice L).after_none tSlice_done h1 ((k, none), perm),
    by rw [outs_slice L n it k perm none hc, sliceItems_noViol _ _ _ hv]; rfl⟩

/-- the running results of `aggregate(f)`: the first element, then the fold -/
def scan1 (h : V → V → V) : List V → List V
  | [] => []
  | v :: vs => v :: scanV h v vs

theorem scanItems_agg1_some (h : V → V → V) (vs : List V) (a : V) :
    scanItems (agg1Step (pureF2 h)) (.val (.tup [a])) (vs.map Item.val) =
      (scanV h a vs).map (fun r => Item.val (.tup [r])) := by
  induction vs generalizing a with
  | nil => rfl
  | cons v vs ih => simp [scanItems, agg1Step, pureF2, scanV, ih]

theorem scanItems_agg1 (h : V → V → V) (vs : List V) :
    scanItems (agg1Step (pureF2 h)) (.val (.tup [])) (vs.map Item.val) =
      (scan1 h vs).map (fun r => Item.val (.tup [r])) := by
  cases vs with
  | nil => rfl
  | cons v vs => simp [scanItems, agg1Step, scan1, scanItems_agg1_some]

theorem scan1_last (h : V → V → V) (v : V) (vs : List V) :
    (scan1 h (v :: vs)).getLast? = some (vs.foldl h v) := scanV_last h vs v

theorem scan1_length (h : V → V → V) (vs : List V) : (scan1 h vs).length = vs.length := by
  cases vs <;> simp [scan1, scanV_length]

/-! ### enumerate: the zip of the mapped counter with a finite generator -/

theorem den_inv {L it xs} : Den L it xs → ∃ j it1, skipsTo L j it it1 ∧
    (match xs with
     | [] => step L it1 = .done
     | x :: xs => ∃ it', step L it1 = .yield x it' ∧ Den L it' xs) :=
  Den.ind (motive := fun it xs _ => ∃ j it1, skipsTo L j it it1 ∧
      (match (generalizing := false) xs with
       | [] => step L it1 = .done
       | x :: xs => ∃ it', step L it1 = .yield x it' ∧ Den L it' xs))
    (fun {it} hs => ⟨0, it, rfl, hs⟩)
    (fun hs _ ⟨j, it1, hj, hm⟩ => ⟨j + 1, it1, ⟨_, hs, hj⟩, hm⟩)
    (fun {it _ s _} hs h _ => ⟨0, it, rfl, s, hs, h⟩) it xs

/-- the zip ends when its second part ends (the first has been pulled once more: the look-ahead of one) -/
theorem zip_ends_second (L : Option Nat) (a a1 a' b b1 : It) (ja jb : Nat) (x : Item)
    (ha : skipsTo L ja a a1) (hxa : step L a1 = .yield x a') (hx : x ≠ .viol)
    (hb : skipsTo L jb b b1) (hdb : step L b1 = .done) :
    outs L (ja + (1 + (jb + 1))) (.zip [a, b] [] [] false) = [] ∧
    after L (ja + (1 + (jb + 1))) (.zip [a, b] [] [] false) = none := by
  obtain ⟨acc', bad', h1, _⟩ := zip_pull ha hxa hx b [] [] [] false
  rw [← Nat.add_assoc, (skipsTo_run h1 _).1, (skipsTo_run h1 _).2]
  exact zip_pull_done hb hdb [] [a'] acc' bad'

def enumItems (f : F) : Nat → List Item → List Item
  | _, [] => []
  | i, x :: xs => pairItem (f (.val (.int i))) x :: enumItems f (i + 1) xs

theorem enumerate_den_aux (L : Option Nat) (f : F) (hf : ∀ i : Nat, f (.val (.int i)) ≠ .viol) :
    ∀ (xs : List Item) (i : Nat) (it : It), Den L it xs → noViol xs →
      Den L (.zip [.count i (some f), it] [] [] false) (enumItems f i xs) := by
  intro xs
  induction xs with
  | nil =>
    intro i it h _
    obtain ⟨jb, b1, hb, hdb⟩ := den_inv h
    have := zip_ends_second L (.count i (some f)) _ (.count (i + 1) (some f)) it b1 0 jb _ rfl rfl (hf i) hb hdb
    exact ⟨_, this.2, this.1⟩
  | cons x xs ih =>
    intro i it h hv
    obtain ⟨jb, b1, hb, b', hyb, hd⟩ := den_inv h
    have hr := zip_round L (.count i (some f)) _ (.count (i + 1) (some f)) it b1 b' 0 jb _ x rfl rfl (hf i) hb hyb
      (hv x (List.mem_cons_self ..))
    exact den_prepend _ hr.1 hr.2 (ih (i + 1) b' hd fun y hy => hv y (List.mem_cons_of_mem _ hy))

end XrayModel.Gen
