/- the needed-prefix theorem: the first n steps of a pipeline depend only on the first n steps of its source (C16) -/
import XrayProofs.GenFrame
namespace XrayModel.Gen

def Agree (L : Option Nat) : Nat → It → It → Prop
  | 0, _, _ => True
  | n + 1, a, b =>
    match step L a, step L b with
    | .done, .done => True
    | .skip s, .skip t => Agree L n s t
    | .yield x s, .yield y t => x = y ∧ Agree L n s t
    | _, _ => False

theorem agree_refl (L : Option Nat) : ∀ n a, Agree L n a a := by
  intro n
  induction n with
  | zero => intro a; trivial
  | succ n ih => intro a; simp only [Agree]; cases step L a <;> simp [ih]

theorem agree_mono (L : Option Nat) : ∀ n a b, Agree L (n + 1) a b → Agree L n a b := by
  intro n
  induction n with
  | zero => intro a b _; trivial
  | succ n ih =>
    intro a b h
    rw [Agree] at h ⊢
    rcases ha : step L a with ⟨x, s⟩ | s | _ <;> rcases hb : step L b with ⟨y, t⟩ | t | _ <;>
      simp only [ha, hb] at h ⊢
    · exact ⟨h.1, ih _ _ h.2⟩
    · exact ih _ _ h

theorem agree_outs (L : Option Nat) : ∀ n a b, Agree L n a b → outs L n a = outs L n b := by
  intro n
  induction n with
  | zero => intro a b _; rfl
  | succ n ih =>
    intro a b h
    rw [Agree] at h
    rw [outs, outs]
    rcases ha : step L a with ⟨x, s⟩ | s | _ <;> rcases hb : step L b with ⟨y, t⟩ | t | _ <;>
      simp only [ha, hb] at h ⊢
    · rw [h.1, ih _ _ h.2]
    · exact ih _ _ h

/-- `hT` is `Frame L C T` written out -/
theorem agree_frame {α : Type} (L : Option Nat) (C : α → It → It) (T : α → Sh → TO α)
    (hT : ∀ a it, step L (C a it) =
      match step L it with
      | .done => (T a .done).toOut (fun a' => C a' it)
      | .skip s => (T a .skip).toOut (fun a' => C a' s)
      | .yield x s => (T a (.yld x)).toOut (fun a' => C a' s)) :
    ∀ n a it it', Agree L n it it' → Agree L n (C a it) (C a it') := by
  intro n
  induction n with
  | zero => intro a it it' _; trivial
  | succ n ih =>
    intro a it it' h
    have hm := agree_mono L n it it' h
    rw [Agree] at h ⊢
    rw [hT a it, hT a it']
    rcases h1 : step L it with ⟨x, s⟩ | s | _ <;> rcases h2 : step L it' with ⟨y, t⟩ | t | _ <;>
      simp only [h1, h2] at h ⊢
    · obtain ⟨rfl, h⟩ := h
      cases T a (.yld x) <;> simp only [TO.toOut]
      · exact ih _ _ _ h
      · exact ⟨trivial, ih _ _ _ h⟩
    · cases T a .skip <;> simp only [TO.toOut]
      · exact ih _ _ _ h
      · exact ⟨trivial, ih _ _ _ h⟩
    · cases T a .done <;> simp only [TO.toOut]
      · exact ih _ _ _ hm
      · exact ⟨trivial, ih _ _ _ hm⟩

theorem agree_map (L : Option Nat) (f : F) (n : Nat) (a b : It) (h : Agree L n a b) :
    Agree L n (.map a f) (.map b f) :=
  agree_frame L _ _ (frame_map L f) n () a b h

theorem agree_filter (L : Option Nat) (p : P) (perm : Permits) (n : Nat) (a b : It) (h : Agree L n a b) :
    Agree L n (.filter a p perm) (.filter b p perm) :=
  agree_frame L _ _ (frame_filter L p) n ((), perm) a b h

theorem agree_takeWhile (L : Option Nat) (p : P) (n : Nat) (a b : It) (h : Agree L n a b) :
    Agree L n (.takeWhile a p) (.takeWhile b p) :=
  agree_frame L _ _ (frame_takeWhile L p) n () a b h

theorem agree_skipUntil (L : Option Nat) (p : P) (found : Bool) (perm : Permits) (n : Nat) (a b : It)
    (h : Agree L n a b) : Agree L n (.skipUntil a p found perm) (.skipUntil b p found perm) :=
  agree_frame L _ _ (frame_skipUntil L p) n (found, perm) a b h

theorem agree_slice (L : Option Nat) (k : Nat) (perm : Permits) (t : Option Nat) (n : Nat) (a b : It)
    (h : Agree L n a b) : Agree L n (.slice a k perm t) (.slice b k perm t) :=
  agree_frame L _ _ (frame_slice L) n ((k, t), perm) a b h

/-- the first step of `aggregate` yields the initial state without touching its source -/
theorem agree_aggregate (L : Option Nat) (f : F2) (st : Item) (first : Bool) (n : Nat) (a b : It)
    (h : Agree L n a b) : Agree L n (.aggregate a st f first) (.aggregate b st f first) := by
  have run := fun n h => agree_frame L _ _ (frame_aggregate L f) n st a b h
  cases first with
  | false => exact run n h
  | true =>
    cases n with
    | zero => trivial
    | succ n =>
      rw [Agree, step_aggregate_first, step_aggregate_first]
      exact ⟨rfl, run n (agree_mono L n a b h)⟩

theorem agree_withCount (L : Option Nat) (eq : V → V → Bool) (seen : List (V × Nat)) (n : Nat) (a b : It)
    (h : Agree L n a b) : Agree L n (.withCount a eq seen) (.withCount b eq seen) :=
  agree_frame L _ _ (frame_withCount L eq) n seen a b h

theorem agree_windows (L : Option Nat) (size : Nat) (mem : List V) (perm : Permits) (n : Nat) (a b : It)
    (h : Agree L n a b) : Agree L n (.windows a size mem perm) (.windows b size mem perm) :=
  agree_frame L _ _ (frame_windows L size) n (mem, perm) a b h

theorem agree_budget (L : Option Nat) (perm : Permits) (n : Nat) (a b : It) (h : Agree L n a b) :
    Agree L n (.budget a perm) (.budget b perm) :=
  agree_frame L _ _ (frame_budget L) n perm a b h

theorem agree_group (L : Option Nat) (eq : P2) (cur : List V) (perm : Permits) (flushed : Bool) (n : Nat) (a b : It)
    (h : Agree L n a b) : Agree L n (.group a eq cur perm flushed) (.group b eq cur perm flushed) :=
  agree_frame L _ _ (frame_group L eq) n ((cur, flushed), perm) a b h

/-- the unary adaptors of the model (every constructor of `G` with exactly one generator argument, except `repeat`,
which restarts its argument) -/
inductive UA where
  | map (f : F)
  | filter (p : P)
  | slice (a : Nat) (b : Option Nat)
  | takeWhile (p : P)
  | skipUntil (p : P)
  | aggregate (init : Item) (f : F2)
  | withCount (eq : V → V → Bool)
  | group (eq : P2)
  | windows (k : Nat)

def UA.toG : UA → G → G
  | .map f, g => .map g f
  | .filter p, g => .filter g p
  | .slice a b, g => .slice g a b
  | .takeWhile p, g => .takeWhile g p
  | .skipUntil p, g => .skipUntil g p
  | .aggregate i f, g => .aggregate g i f
  | .withCount e, g => .withCount g e
  | .group e, g => .group g e
  | .windows k, g => .windows g k

def UA.apply (L : Option Nat) : UA → It → It
  | .map f, it => .map it f
  | .filter p, it => .filter it p (Permits.ofLimit L)
  | .slice a b, it => .slice it a (Permits.ofLimit L) (b.map (· - a))
  | .takeWhile p, it => .takeWhile it p
  | .skipUntil p, it => .skipUntil it p false (Permits.ofLimit L)
  | .aggregate i f, it => .aggregate it i f true
  | .withCount e, it => .withCount it e []
  | .group e, it => .group it e [] (Permits.ofLimit L) false
  | .windows k, it => .windows it k [] (Permits.ofLimit L)

theorem start_toG (L : Option Nat) (A : UA) (g : G) : (A.toG g).start L = A.apply L (g.start L) := by
  cases A <;> rfl

theorem agree_ua (L : Option Nat) (A : UA) (n : Nat) (a b : It) (h : Agree L n a b) :
    Agree L n (A.apply L a) (A.apply L b) := by
  cases A with
  | map f => exact agree_map L f n a b h
  | filter p => exact agree_filter L p _ n a b h
  | slice k t => exact agree_slice L k _ _ n a b h
  | takeWhile p => exact agree_takeWhile L p n a b h
  | skipUntil p => exact agree_skipUntil L p false _ n a b h
  | aggregate i f => exact agree_aggregate L f i true n a b h
  | withCount e => exact agree_withCount L e [] n a b h
  | group e => exact agree_group L e [] _ false n a b h
  | windows k => exact agree_windows L k [] _ n a b h

def pipeG (As : List UA) (g : G) : G := As.foldl (fun g A => A.toG g) g
def pipeIt (L : Option Nat) (As : List UA) (it : It) : It := As.foldl (fun it A => A.apply L it) it

theorem start_pipeG (L : Option Nat) : ∀ (As : List UA) (g : G), (pipeG As g).start L = pipeIt L As (g.start L) := by
  intro As
  induction As with
  | nil => intro g; rfl
  | cons A As ih => intro g; simp only [pipeG, pipeIt, List.foldl_cons] at ih ⊢; rw [ih, start_toG]

theorem agree_pipe (L : Option Nat) : ∀ (As : List UA) (n : Nat) (a b : It), Agree L n a b →
    Agree L n (pipeIt L As a) (pipeIt L As b) := by
  intro As
  induction As with
  | nil => intro n a b h; exact h
  | cons A As ih => intro n a b h; exact ih n _ _ (agree_ua L A n a b h)

theorem agree_arr_prefix (L : Option Nat) : ∀ (pre r1 r2 : List V) (n : Nat), n ≤ pre.length →
    Agree L n (.arr (pre ++ r1)) (.arr (pre ++ r2)) := by
  intro pre
  induction pre with
  | nil => intro r1 r2 n h; have : n = 0 := by simpa using h
           subst this; trivial
  | cons v pre ih =>
    intro r1 r2 n h
    cases n with
    | zero => trivial
    | succ n =>
      rw [Agree]
      simp only [List.cons_append, step]
      exact ⟨trivial, ih r1 r2 n (by simpa using h)⟩

end XrayModel.Gen
