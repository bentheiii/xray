/-
Bitwise operations of the model (`iland`, `ilor`, `ilxor` in `XrayModel/LazyInt.lean`): they are the two's-complement
operations (bit by bit), commutative, and closed on the `i64` range.
-/
import XrayProofs.LazyInt
namespace XrayModel.Bits
open XrayModel LB

/-- bit `i` of the (infinite) two's-complement expansion -/
def tbit (x : Int) (i : Nat) : Bool :=
  match x with
  | .ofNat m => m.testBit i
  | .negSucc m => !m.testBit i

theorem iland_tbit (a b : Int) (i : Nat) : tbit (iland a b) i = (tbit a i && tbit b i) := by
  cases a <;> cases b <;> simp only [iland, tbit, Nat.testBit_and, Nat.testBit_or, Nat.testBit_xor] <;>
    cases Nat.testBit _ i <;> cases Nat.testBit _ i <;> rfl

theorem ilor_tbit (a b : Int) (i : Nat) : tbit (ilor a b) i = (tbit a i || tbit b i) := by
  cases a <;> cases b <;> simp only [ilor, tbit, Nat.testBit_and, Nat.testBit_or, Nat.testBit_xor] <;>
    cases Nat.testBit _ i <;> cases Nat.testBit _ i <;> rfl

theorem ilxor_tbit (a b : Int) (i : Nat) : tbit (ilxor a b) i = (tbit a i ^^ tbit b i) := by
  cases a <;> cases b <;> simp only [ilxor, tbit, Nat.testBit_xor] <;>
    cases Nat.testBit _ i <;> cases Nat.testBit _ i <;> rfl

theorem iland_comm (a b : Int) : iland a b = iland b a := by
  cases a <;> cases b <;> simp only [iland, Nat.and_comm, Nat.or_comm]
theorem ilor_comm (a b : Int) : ilor a b = ilor b a := by
  cases a <;> cases b <;> simp only [ilor, Nat.and_comm, Nat.or_comm]
theorem ilxor_comm (a b : Int) : ilxor a b = ilxor b a := by
  cases a <;> cases b <;> simp only [ilxor, Nat.xor_comm]

/-- `negSucc m` is `-(m + 1)`: the `i64` range is the same bound on `m` on both sides -/
theorem fits_cases (v : Int) : fits v = true ↔
    (match v with | .ofNat m => m < 2 ^ 63 | .negSucc m => m < 2 ^ 63) := by
  rw [fits_iff]
  cases v with
  | ofNat m => simp only [Int.ofNat_eq_natCast]; omega
  | negSucc m => simp only [Int.negSucc_eq]; omega

theorem iland_fits (a b : Int) (ha : fits a = true) (hb : fits b = true) : fits (iland a b) = true := by
  rw [fits_cases] at *
  cases a <;> cases b <;> simp only [iland] at * <;> rename_i m n
  · exact Nat.and_lt_two_pow m hb
  · exact Nat.xor_lt_two_pow ha (Nat.and_lt_two_pow m hb)
  · exact Nat.xor_lt_two_pow hb (Nat.and_lt_two_pow n ha)
  · exact Nat.or_lt_two_pow ha hb

theorem ilor_fits (a b : Int) (ha : fits a = true) (hb : fits b = true) : fits (ilor a b) = true := by
  rw [fits_cases] at *
  cases a <;> cases b <;> simp only [ilor] at * <;> rename_i m n
  · exact Nat.or_lt_two_pow ha hb
  · exact Nat.xor_lt_two_pow hb (Nat.and_lt_two_pow n ha)
  · exact Nat.xor_lt_two_pow ha (Nat.and_lt_two_pow m hb)
  · exact Nat.and_lt_two_pow m hb

theorem ilxor_fits (a b : Int) (ha : fits a = true) (hb : fits b = true) : fits (ilxor a b) = true := by
  rw [fits_cases] at *
  cases a <;> cases b <;> simp only [ilxor] at * <;> exact Nat.xor_lt_two_pow ha hb

theorem bitand_spec (a b : LB) (ha : a.wf) (hb : b.wf) :
    (LB.bitand a b).wf ∧ (LB.bitand a b).den = iland a.den b.den := by
  cases a <;> cases b <;> simp only [LB.bitand, ofInt_wf, ofInt_den, den_short, den_long, true_and]
  · exact ⟨iland_fits _ _ ha hb, trivial⟩
  · exact iland_comm _ _

theorem bitor_spec (a b : LB) (ha : a.wf) (hb : b.wf) :
    (LB.bitor a b).wf ∧ (LB.bitor a b).den = ilor a.den b.den := by
  cases a <;> cases b <;> simp only [LB.bitor, ofInt_wf, ofInt_den, den_short, den_long, true_and]
  · exact ⟨ilor_fits _ _ ha hb, trivial⟩
  · exact ilor_comm _ _

theorem bitxor_spec (a b : LB) (ha : a.wf) (hb : b.wf) :
    (LB.bitxor a b).wf ∧ (LB.bitxor a b).den = ilxor a.den b.den := by
  cases a <;> cases b <;> simp only [LB.bitxor, ofInt_wf, ofInt_den, den_short, den_long, true_and]
  · exact ⟨ilxor_fits _ _ ha hb, trivial⟩
  · exact ilxor_comm _ _

end XrayModel.Bits
