/-
C11 — helper lemmas: the invariant every piece of evaluation keeps on the log, and termination
with enough fuel.  Both go through `andThen`, the way `evalAll`, `repeatN`, `seq` and `wrap` put one
piece after another; only the `.arg` step of `runSteps` is split by hand, because with `raise` an
error value ends the run as well.
-/
import XrayModel.Perm
namespace XrayModel.Perm

def isFail : Entry → Bool
  | .guard _ _ false => true
  | _ => false

def clean (n : Log) : Prop := ∀ e ∈ n, isFail e = false

/-- what the discipline demands of one entry: an effect happened at a site of the table that has a
    guard for a permission which covers it and is granted; a guard passed exactly when the
    permission set says so -/
def EntryOK (T : List Site) (P : PermissionSet) : Entry → Prop
  | .effect s k =>
    ∃ site p, T[s]? = some site ∧ p ∈ checksOf site.steps ∧ okPerm site.name p k = true ∧ P.get p = true
  | .guard _ p b => b = P.get p

def Shape (n : Log) (r : Res) : Prop :=
  (clean n ∧ r.isViol = false) ∨
  (∃ pre s p, n = pre ++ [Entry.guard s p false] ∧ clean pre ∧ r = .viol p.id)

def Inv (T : List Site) (P : PermissionSet) (l : Log) (out : Res × Log) : Prop :=
  ∃ n, out.2 = l ++ n ∧ (∀ e ∈ n, EntryOK T P e) ∧ Shape n out.1

theorem clean_nil : clean [] := by intro e he; cases he

theorem clean_append {a b : Log} (ha : clean a) (hb : clean b) : clean (a ++ b) := by
  intro e he
  rcases List.mem_append.mp he with h | h
  · exact ha e h
  · exact hb e h

theorem Inv.nil {T P l r} (h : r.isViol = false) : Inv T P l (r, l) :=
  ⟨[], (List.append_nil l).symm, (fun _ he => nomatch he), .inl ⟨clean_nil, h⟩⟩

theorem Inv.step {T P l r1 l1 out} (h1 : Inv T P l (r1, l1)) (hr : r1.isViol = false)
    (h2 : Inv T P l1 out) : Inv T P l out := by
  obtain ⟨n1, e1, ok1, sh1⟩ := h1
  obtain ⟨n2, e2, ok2, sh2⟩ := h2
  have c1 : clean n1 := by
    rcases sh1 with ⟨c, _⟩ | ⟨_, _, _, _, _, hv⟩
    · exact c
    · cases (show r1 = _ from hv); cases hr
  refine ⟨n1 ++ n2, by rw [e2, show l1 = l ++ n1 from e1, List.append_assoc], ?_, ?_⟩
  · intro e he
    rcases List.mem_append.mp he with h | h
    · exact ok1 e h
    · exact ok2 e h
  · rcases sh2 with ⟨c2, hv⟩ | ⟨pre, s, p, hn, cp, hv⟩
    · exact .inl ⟨clean_append c1 c2, hv⟩
    · exact .inr ⟨n1 ++ pre, s, p, by rw [hn, List.append_assoc], clean_append c1 cp, hv⟩

theorem Inv.push {T P l out} (e : Entry) (hc : isFail e = false) (hok : EntryOK T P e)
    (h2 : Inv T P (l ++ [e]) out) : Inv T P l out := by
  have h1 : Inv T P l (Res.val, l ++ [e]) := by
    refine ⟨[e], rfl, ?_, .inl ⟨?_, rfl⟩⟩
    · intro x hx; cases List.mem_singleton.mp hx; exact hok
    · intro x hx; cases List.mem_singleton.mp hx; exact hc
  exact h1.step rfl h2

/-- how the evaluator puts one piece after another.  The model writes this `match` out in `evalAll`,
    `repeatN` and the `seq` and `wrap` arms of `eval`; the four equations say so -/
def andThen (p : Res × Log) (k : Log → Res × Log) : Res × Log :=
  match p with
  | (.viol v, l') => (.viol v, l')
  | (.stuck, l') => (.stuck, l')
  | (_, l') => k l'

theorem evalAll_cons (ev a r l) :
    evalAll ev (a :: r) l = andThen (ev a l) (evalAll ev r) := rfl

theorem repeatN_succ (ev body n l) :
    repeatN ev body (n + 1) l = andThen (ev body l) (repeatN ev body n) := rfl

theorem eval_seq (T P f a b l) :
    eval T P (f + 1) (.seq a b) l = andThen (eval T P f a l) (eval T P f b) := rfl

theorem eval_wrap (T P f args body l) :
    eval T P (f + 1) (.wrap args body) l = andThen (evalAll (eval T P f) args l) (eval T P f body) := rfl

theorem Inv.andThen {T P l p k} (h1 : Inv T P l p) (h2 : ∀ l', Inv T P l' (k l')) : Inv T P l (andThen p k) := by
  obtain ⟨r, l'⟩ := p
  cases r with
  | viol v => exact h1
  | stuck => exact h1
  | val => exact h1.step rfl (h2 l')
  | err => exact h1.step rfl (h2 l')

def GoodEv (T : List Site) (P : PermissionSet) (ev : Expr → Log → Res × Log) : Prop :=
  ∀ e l, Inv T P l (ev e l)

theorem evalAll_inv {T P ev} (hev : GoodEv T P ev) : ∀ args l, Inv T P l (evalAll ev args l)
  | [], _ => Inv.nil rfl
  | a :: r, l => evalAll_cons .. ▸ (hev a l).andThen (evalAll_inv hev r)

theorem repeatN_inv {T P ev} (hev : GoodEv T P ev) (body : Expr) : ∀ n l, Inv T P l (repeatN ev body n l)
  | 0, _ => Inv.nil rfl
  | n + 1, l => repeatN_succ .. ▸ (hev body l).andThen (repeatN_inv hev body n)

theorem checkPermission_none {P : PermissionSet} {p : Permission} (h : checkPermission P p = none) : P.get p = true := by
  unfold checkPermission at h
  cases hg : P.get p with
  | true => rfl
  | false => rw [hg] at h; cases h

theorem checkPermission_some {P : PermissionSet} {p : Permission} {id : String} (h : checkPermission P p = some id) :
    P.get p = false ∧ id = p.id := by
  unfold checkPermission at h
  cases hg : P.get p with
  | true => rw [hg] at h; cases h
  | false => rw [hg] at h; cases h; exact ⟨rfl, rfl⟩

/-- running the closure of a site: `held` are the guards passed so far, all of them guards of the site
    for granted permissions; the guards still to come are guards of the site too -/
theorem runSteps_inv {T P ev} (hev : GoodEv T P ev) {s : Nat} {site : Site} (hs : T[s]? = some site)
    (args : List Expr) (steps : List Step) :
    ∀ (held : List Permission) (l : Log),
      (∀ p ∈ checksOf steps, p ∈ checksOf site.steps) →
      (∀ p ∈ held, p ∈ checksOf site.steps ∧ P.get p = true) →
      guardedSteps site.name held steps = true →
      Inv T P l (runSteps ev P s args steps l) := by
  induction steps with
  | nil => intro _ l _ _ _; exact Inv.nil rfl
  | cons st r ih =>
    intro held l hrem hheld hg
    cases st with
    | check p =>
      unfold runSteps
      cases hc : checkPermission P p with
      | none =>
        have hp := checkPermission_none hc
        refine Inv.push (.guard s p true) rfl hp.symm ?_
        refine ih (p :: held) _ (fun q hq => hrem q (List.mem_cons_of_mem _ hq)) ?_ hg
        intro q hq
        rcases List.mem_cons.mp hq with rfl | hq
        · exact ⟨hrem _ (List.mem_cons_self ..), hp⟩
        · exact hheld q hq
      | some id =>
        obtain ⟨hp, rfl⟩ := checkPermission_some hc
        refine ⟨[.guard s p false], rfl, ?_, .inr ⟨[], s, p, rfl, clean_nil, rfl⟩⟩
        intro e he; cases List.mem_singleton.mp he; exact hp.symm
    | weakCheck c => exact ih held l hrem hheld hg
    | arg i raise =>
      have hrest (l') := ih held l' hrem hheld hg
      unfold runSteps
      cases args[i]? with
      | none => exact hrest l
      | some a =>
        have hea := hev a l
        dsimp only
        generalize ev a l = q at hea ⊢
        obtain ⟨res, l'⟩ := q
        cases res with
        | viol v => exact hea
        | stuck => exact hea
        | val => exact hea.step rfl (hrest l')
        | err => cases raise with
          | true => exact hea
          | false => exact hea.step rfl (hrest l')
    | effect k tok =>
      obtain ⟨hany, hg⟩ := Bool.and_eq_true_iff.mp hg
      obtain ⟨p, hpm, hpk⟩ := List.any_eq_true.mp hany
      exact Inv.push (.effect s k) rfl ⟨site, p, hs, (hheld p hpm).1, hpk, (hheld p hpm).2⟩
        (ih held _ hrem hheld hg)

theorem eval_inv {T : List Site} (hT : sitesGuarded T = true) (P : PermissionSet) :
    ∀ f, GoodEv T P (eval T P f)
  | 0 => fun _ _ => Inv.nil rfl
  | f + 1 => by
    have ih := eval_inv hT P f
    intro e l
    cases e with
    | lit => exact Inv.nil rfl
    | bad => exact Inv.nil rfl
    | nat s args =>
      unfold eval
      dsimp only
      cases hs : T[s]? with
      | none => exact Inv.nil rfl
      | some site =>
        exact runSteps_inv ih hs args site.steps [] l (fun _ hp => hp) (fun _ hp => nomatch hp)
          (List.all_eq_true.mp hT site (List.mem_of_getElem? hs))
    | seq a b => rw [eval_seq]; exact (ih a l).andThen (ih b)
    | wrap args body => rw [eval_wrap]; exact (evalAll_inv ih args l).andThen (ih body)
    | thunk body n => exact repeatN_inv ih body n l

theorem andThen_fin {p : Res × Log} {k : Log → Res × Log} (h1 : p.1 ≠ .stuck) (h2 : ∀ l', (k l').1 ≠ .stuck) :
    (andThen p k).1 ≠ .stuck := by
  obtain ⟨r, l'⟩ := p
  cases r with
  | viol v => exact h1
  | stuck => exact h1
  | val => exact h2 l'
  | err => exact h2 l'

def FinOn (ev : Expr → Log → Res × Log) (es : List Expr) : Prop := ∀ e ∈ es, ∀ l, (ev e l).1 ≠ .stuck

theorem evalAll_fin {ev} : ∀ (args : List Expr), FinOn ev args → ∀ l, (evalAll ev args l).1 ≠ .stuck
  | [], _, _ => Res.noConfusion
  | a :: r, h, l =>
    evalAll_cons .. ▸
      andThen_fin (h a (List.mem_cons_self ..) l) (evalAll_fin r fun e he => h e (List.mem_cons_of_mem _ he))

theorem repeatN_fin {ev} (body : Expr) (h : ∀ l, (ev body l).1 ≠ .stuck) : ∀ n l, (repeatN ev body n l).1 ≠ .stuck
  | 0, _ => Res.noConfusion
  | n + 1, l => repeatN_succ .. ▸ andThen_fin (h l) (repeatN_fin body h n)

theorem runSteps_fin {ev} (P : PermissionSet) (s : Nat) (args : List Expr) (h : FinOn ev args) (steps : List Step) :
    ∀ l : Log, (runSteps ev P s args steps l).1 ≠ .stuck := by
  induction steps with
  | nil => intro _; exact Res.noConfusion
  | cons st r ih =>
    intro l
    cases st with
    | check p =>
      unfold runSteps
      cases checkPermission P p with
      | none => exact ih _
      | some id => exact Res.noConfusion
    | weakCheck c => exact ih l
    | arg i raise =>
      unfold runSteps
      cases ha : args[i]? with
      | none => exact ih l
      | some a =>
        have hfin := h a (List.mem_of_getElem? ha) l
        dsimp only
        generalize ev a l = q at hfin ⊢
        obtain ⟨res, l'⟩ := q
        cases res with
        | viol v => exact Res.noConfusion
        | stuck => exact hfin
        | val => exact ih l'
        | err => cases raise with
          | true => exact Res.noConfusion
          | false => exact ih l'
    | effect k tok => exact ih _

theorem depth_mem {a : Expr} : ∀ {es : List Expr}, a ∈ es → a.depth ≤ depthList es
  | b :: r, h => by
    rcases List.mem_cons.mp h with rfl | h
    · exact Nat.le_max_left ..
    · exact Nat.le_trans (depth_mem h) (Nat.le_max_right ..)

theorem sitesIn_mem {n : Nat} {a : Expr} : ∀ {es : List Expr}, sitesInList n es = true → a ∈ es → a.sitesIn n = true
  | b :: r, hs, h => by
    obtain ⟨hb, hr⟩ := Bool.and_eq_true_iff.mp hs
    rcases List.mem_cons.mp h with rfl | h
    · exact hb
    · exact sitesIn_mem hr h

theorem Expr.one_le_depth (e : Expr) : 1 ≤ e.depth := by
  cases e with
  | lit | bad => exact Nat.le_refl 1
  | _ => exact Nat.le_add_right 1 _

end XrayModel.Perm
