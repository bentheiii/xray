/-
C19 — helper lemmas about the derivations (`XrayModel/Derive.lean`): what the derived functions
compute when the component functions are pure (never an error value), and the laws they inherit.
-/
import XrayModel.Derive
import Mathlib.Data.List.Perm.Basic

namespace XrayModel.Derive
open List

variable {α β σ : Type}

def PureEq (f : α → α → R Bool) (g : α → α → Bool) : Prop := ∀ a b, f a b = .ok (g a b)
def PureCmp (f : α → α → R Int) (c : α → α → Int) : Prop := ∀ a b, f a b = .ok (c a b)
def PureHash (f : α → R Int) (k : α → Int) : Prop := ∀ a, f a = .ok (k a)

structure BEquiv (g : α → α → Bool) : Prop where
  refl : ∀ a, g a a = true
  symm : ∀ a b, g a b = true → g b a = true
  trans : ∀ a b c, g a b = true → g b c = true → g a c = true

def all2 (g : α → α → Bool) : List α → List α → Bool
  | a :: as, b :: bs => g a b && all2 g as bs
  | _, _ => true

theorem zipEq_pure {f : α → α → R Bool} {g : α → α → Bool} (hp : PureEq f g) (l0 l1 : List α) :
    zipEq f l0 l1 = .ok (all2 g l0 l1) := by
  induction l0 generalizing l1 with
  | nil => simp [zipEq, all2, pure, Except.pure]
  | cons a as ih =>
    cases l1 with
    | nil => simp [zipEq, all2, pure, Except.pure]
    | cons b bs =>
      simp only [zipEq, hp a b, all2, bind, Except.bind]
      cases g a b <;> simp [ih, pure, Except.pure]

def seqEqB (g : α → α → Bool) (l0 l1 : List α) : Bool := l0.length == l1.length && all2 g l0 l1

theorem seqEq_pure {f : α → α → R Bool} {g : α → α → Bool} (hp : PureEq f g) :
    PureEq (seqEq f) (seqEqB g) := by
  intro l0 l1
  simp only [seqEq, seqEqB, zipEq_pure hp]
  by_cases h : l0.length = l1.length <;> simp [h, pure, Except.pure]

def optEqB (g : α → α → Bool) : Option α → Option α → Bool
  | some a, some b => g a b
  | o0, o1 => o0.isSome == o1.isSome

theorem optEq_pure {f : α → α → R Bool} {g : α → α → Bool} (hp : PureEq f g) :
    PureEq (optEq f) (optEqB g) := by
  intro o0 o1
  cases o0 <;> cases o1 <;> simp [optEq, optEqB, hp _ _, pure, Except.pure]

theorem optEqB_equiv {g : α → α → Bool} (h : BEquiv g) : BEquiv (optEqB g) where
  refl o := by cases o <;> simp [optEqB, h.refl]
  symm o0 o1 h1 := by
    cases o0 <;> cases o1 <;> simp_all [optEqB]
    exact h.symm _ _ h1
  trans o0 o1 o2 h1 h2 := by
    cases o0 <;> cases o1 <;> cases o2 <;> simp_all [optEqB]
    exact h.trans _ _ _ h1 h2

/-! tuples: one component relation per position; a tuple of that type has as many components -/

def all2s : List (α → α → Bool) → List α → List α → Bool
  | g :: gs, a :: as, b :: bs => g a b && all2s gs as bs
  | _, _, _ => true

theorem tupleEq_pure {fs : List (α → α → R Bool)} {gs : List (α → α → Bool)}
    (hp : List.Forall₂ PureEq fs gs) (l0 l1 : List α) :
    tupleEq fs l0 l1 = .ok (all2s gs l0 l1) := by
  induction hp generalizing l0 l1 with
  | nil => simp [tupleEq, all2s, pure, Except.pure]
  | @cons f g fs' gs' hfg _ ih =>
    cases l0 with
    | nil => simp [tupleEq, all2s, pure, Except.pure]
    | cons a as =>
      cases l1 with
      | nil => simp [tupleEq, all2s, pure, Except.pure]
      | cons b bs =>
        simp only [tupleEq, hfg a b, all2s, bind, Except.bind]
        cases g a b <;> simp [ih, pure, Except.pure]

theorem all2s_equiv {gs : List (α → α → Bool)} (h : ∀ g ∈ gs, BEquiv g) :
    (∀ l, all2s gs l l = true) ∧
    (∀ l0 l1, all2s gs l0 l1 = true → all2s gs l1 l0 = true) ∧
    (∀ l0 l1 l2, l1.length = gs.length → all2s gs l0 l1 = true → all2s gs l1 l2 = true →
      all2s gs l0 l2 = true) := by
  induction gs with
  | nil => simp [all2s]
  | cons g gs ih =>
    have hg := h g (by simp)
    obtain ⟨i1, i2, i3⟩ := ih (fun g' hg' => h g' (by simp [hg']))
    refine ⟨?_, ?_, ?_⟩
    · intro l; cases l with
      | nil => simp [all2s]
      | cons a t => simp [all2s, hg.refl, i1]
    · intro l0 l1 h1
      cases l0 with
      | nil => cases l1 <;> simp [all2s]
      | cons a t =>
        cases l1 with
        | nil => simp [all2s]
        | cons b u =>
          simp only [all2s, Bool.and_eq_true] at h1 ⊢
          exact ⟨hg.symm _ _ h1.1, i2 _ _ h1.2⟩
    · intro l0 l1 l2 hl h1 h2
      cases l1 with
      | nil => simp at hl
      | cons b u =>
        cases l0 with
        | nil => simp [all2s]
        | cons a t =>
          cases l2 with
          | nil => simp [all2s]
          | cons c w =>
            simp only [all2s, Bool.and_eq_true] at h1 h2 ⊢
            exact ⟨hg.trans _ _ _ h1.1 h2.1, i3 _ _ _ (by simpa using hl) h1.2 h2.2⟩

theorem all2_eq_all2s (g : α → α → Bool) (l0 l1 : List α) :
    all2 g l0 l1 = all2s (List.replicate l0.length g) l0 l1 := by
  induction l0 generalizing l1 with
  | nil => rfl
  | cons a t ih => cases l1 with
    | nil => rfl
    | cons b u => simp only [all2, all2s, List.length_cons, List.replicate_succ, ih]

theorem seqEqB_equiv {g : α → α → Bool} (h : BEquiv g) : BEquiv (seqEqB g) := by
  have hs (n : Nat) := all2s_equiv (gs := List.replicate n g) fun g' hg' => (List.eq_of_mem_replicate hg') ▸ h
  refine ⟨fun l => by simp [seqEqB, all2_eq_all2s, (hs _).1], fun l0 l1 h1 => ?_,
    fun l0 l1 l2 h1 h2 => ?_⟩
  all_goals simp only [seqEqB, all2_eq_all2s, Bool.and_eq_true, beq_iff_eq] at *
  · exact ⟨h1.1.symm, h1.1 ▸ (hs _).2.1 _ _ h1.2⟩
  · exact ⟨h1.1.trans h2.1, (hs _).2.2 _ _ _ (by simp [h1.1]) h1.2 (h1.1 ▸ h2.2)⟩

theorem toU64_range {h : Int} {u : Nat} (e : toU64 h = .ok u) : u < U64 := by
  unfold toU64 at e
  split at e
  · cases e; omega
  · cases e

theorem hashFold_range (H : Hasher σ) (hfin : ∀ s, H.finish s < U64) (s : σ) (l : List (R Int))
    (v : Int) (e : hashFold H s l = .ok v) : 0 ≤ v ∧ v < (U64 : Int) := by
  induction l generalizing s with
  | nil =>
    simp [hashFold, pure, Except.pure] at e
    subst e
    exact ⟨by omega, by exact_mod_cast hfin s⟩
  | cons h t ih =>
    simp only [hashFold, bind, Except.bind] at e
    cases h with
    | error m => simp at e
    | ok hv =>
      simp only at e
      cases hu : toU64 hv with
      | error m => simp [hu] at e
      | ok u => simp only [hu] at e; exact ih _ e

theorem all2_map_eq {g : α → α → Bool} {k : α → Int} (hc : ∀ a b, g a b = true → k a = k b)
    (l0 l1 : List α) (hl : l0.length = l1.length) (h : all2 g l0 l1 = true) :
    l0.map k = l1.map k := by
  induction l0 generalizing l1 with
  | nil => cases l1 with
    | nil => rfl
    | cons b u => simp at hl
  | cons a t ih =>
    cases l1 with
    | nil => simp at hl
    | cons b u =>
      simp only [all2, Bool.and_eq_true] at h
      simp [hc a b h.1, ih u (by simpa using hl) h.2]

theorem map_pure {f : α → R Int} {k : α → Int} (hp : PureHash f k) (l : List α) :
    l.map f = (l.map k).map Except.ok := by
  induction l with
  | nil => rfl
  | cons a t ih => simp [hp a, ih]

/-! ### set / mapping hash: independent of the iteration order of the buckets -/

theorem xor64_right_comm (a b c : Nat) : xor64 (xor64 a b) c = xor64 (xor64 a c) b := by
  show (a ^^^ b) ^^^ c = (a ^^^ c) ^^^ b
  rw [Nat.xor_assoc, Nat.xor_comm b c, ← Nat.xor_assoc]

theorem setHash_perm {b1 b2 : List (Nat × List α)} (h : b1.Perm b2) : setHash b1 = setHash b2 := by
  unfold setHash
  have : RightCommutative (fun (acc : Nat) (b : Nat × List α) => xor64 acc ((b.1 + b.2.length) % U64)) :=
    ⟨fun acc x y => xor64_right_comm _ _ _⟩
  exact h.foldl_eq 0

theorem setHash_range_aux (bs : List (Nat × List α)) (acc : Nat) (h : acc < U64) :
    bs.foldl (fun acc b => xor64 acc ((b.1 + b.2.length) % U64)) acc < U64 := by
  induction bs generalizing acc with
  | nil => exact h
  | cons b t ih =>
    apply ih
    have : (b.1 + b.2.length) % U64 < U64 := Nat.mod_lt _ (by decide)
    exact Nat.xor_lt_two_pow (n := 64) h this

theorem setHash_range (bs : List (Nat × List α)) : setHash bs < U64 :=
  setHash_range_aux bs 0 (by decide)

def lexC (c : α → α → Int) (tie : Int) : List α → List α → Int
  | a :: as, b :: bs => if c a b ≠ 0 then c a b else lexC c tie as bs
  | _, _ => tie

theorem zipCmp_pure {f : α → α → R Int} {c : α → α → Int} (hp : PureCmp f c) (tie : Int)
    (l0 l1 : List α) : zipCmp f tie l0 l1 = .ok (lexC c tie l0 l1) := by
  induction l0 generalizing l1 with
  | nil => simp [zipCmp, lexC, pure, Except.pure]
  | cons a as ih =>
    cases l1 with
    | nil => simp [zipCmp, lexC, pure, Except.pure]
    | cons b bs =>
      simp only [zipCmp, hp a b, lexC, bind, Except.bind]
      by_cases h : c a b = 0 <;> simp [h, ih, pure, Except.pure]

def lenTie (l0 l1 : List α) : Int :=
  if l0.length < l1.length then -1 else if l0.length > l1.length then 1 else 0

def seqCmpI (c : α → α → Int) (l0 l1 : List α) : Int := lexC c (lenTie l0 l1) l0 l1

theorem seqCmp_pure {f : α → α → R Int} {c : α → α → Int} (hp : PureCmp f c) :
    PureCmp (seqCmp f) (seqCmpI c) := by
  intro l0 l1
  simp only [seqCmp, seqCmpI, lenTie, zipCmp_pure hp]

theorem lenTie_cons (a b : α) (l0 l1 : List α) : lenTie (a :: l0) (b :: l1) = lenTie l0 l1 := by
  simp [lenTie]

theorem seqCmpI_cons (c : α → α → Int) (a b : α) (l0 l1 : List α) :
    seqCmpI c (a :: l0) (b :: l1) = if c a b ≠ 0 then c a b else seqCmpI c l0 l1 := by
  rw [seqCmpI, lenTie_cons]; rfl

theorem seqCmpI_cons_of_ne {c : α → α → Int} {a b : α} (h : c a b ≠ 0) (l0 l1 : List α) :
    seqCmpI c (a :: l0) (b :: l1) = c a b := by rw [seqCmpI_cons, if_pos h]

theorem seqCmpI_cons_of_eq {c : α → α → Int} {a b : α} (h : c a b = 0) (l0 l1 : List α) :
    seqCmpI c (a :: l0) (b :: l1) = seqCmpI c l0 l1 := by rw [seqCmpI_cons, if_neg (not_not_intro h)]

theorem seqCmpI_nil_nil (c : α → α → Int) : seqCmpI c [] [] = 0 := rfl
theorem seqCmpI_nil_cons (c : α → α → Int) (b : α) (l : List α) : seqCmpI c [] (b :: l) = -1 := by
  simp [seqCmpI, lexC, lenTie]
theorem seqCmpI_cons_nil (c : α → α → Int) (a : α) (l : List α) : seqCmpI c (a :: l) [] = 1 := by
  simp [seqCmpI, lexC, lenTie]

theorem induction₂ {motive : List α → List α → Prop} (nil_nil : motive [] [])
    (nil_cons : ∀ b u, motive [] (b :: u)) (cons_nil : ∀ a t, motive (a :: t) [])
    (cons_cons : ∀ a t b u, motive t u → motive (a :: t) (b :: u)) : ∀ l0 l1, motive l0 l1
  | [], [] => nil_nil
  | [], b :: u => nil_cons b u
  | a :: t, [] => cons_nil a t
  | a :: t, b :: u => cons_cons a t b u (induction₂ nil_nil nil_cons cons_nil cons_cons t u)

structure Cmp3Ord (c : α → α → Int) (g : α → α → Bool) : Prop where
  zero_iff : ∀ a b, c a b = 0 ↔ g a b = true
  anti : ∀ a b, (c a b < 0 ↔ c b a > 0)
  trans_lt : ∀ x y z, c x y < 0 → c y z < 0 → c x z < 0
  congr_l : ∀ x y z, c x y = 0 → (c x z < 0 ↔ c y z < 0)
  congr_r : ∀ x y z, c y z = 0 → (c x y < 0 ↔ c x z < 0)

section cmp3
variable {c : α → α → Int} {g : α → α → Bool} (h : Cmp3Ord c g)
include h

theorem Cmp3Ord.zero_symm {a b : α} (e : c a b = 0) : c b a = 0 := by
  have h1 := h.anti a b; have h2 := h.anti b a
  omega

theorem Cmp3Ord.zero_trans {x y z : α} (e1 : c x y = 0) (e2 : c y z = 0) : c x z = 0 := by
  have h1 := h.congr_l x y z e1
  have h2 := h.congr_r z y x (h.zero_symm e1)
  have h3 := h.anti z y
  have h4 := h.anti x z
  have h5 := h.anti z x
  omega

theorem seqCmpI_zero_iff (l0 l1 : List α) : seqCmpI c l0 l1 = 0 ↔ seqEqB g l0 l1 = true := by
  induction l0, l1 using induction₂ with
  | nil_nil => simp [seqCmpI_nil_nil, seqEqB, all2]
  | nil_cons b u => simp [seqCmpI_nil_cons, seqEqB]
  | cons_nil a t => simp [seqCmpI_cons_nil, seqEqB]
  | cons_cons a t b u ih =>
    simp only [seqEqB, List.length_cons, all2, Bool.and_eq_true, beq_iff_eq] at ih ⊢
    by_cases hc : c a b = 0
    · simp [seqCmpI_cons_of_eq hc, (h.zero_iff a b).mp hc, ih]
    · simp [seqCmpI_cons_of_ne hc, hc, mt (h.zero_iff a b).mpr hc]

theorem seqCmpI_anti (l0 l1 : List α) : seqCmpI c l0 l1 < 0 ↔ seqCmpI c l1 l0 > 0 := by
  induction l0, l1 using induction₂ with
  | nil_nil => simp [seqCmpI_nil_nil]
  | nil_cons b u => simp [seqCmpI_nil_cons, seqCmpI_cons_nil]
  | cons_nil a t => simp [seqCmpI_nil_cons, seqCmpI_cons_nil]
  | cons_cons a t b u ih =>
    by_cases hc : c a b = 0
    · rw [seqCmpI_cons_of_eq hc, seqCmpI_cons_of_eq (h.zero_symm hc), ih]
    · rw [seqCmpI_cons_of_ne hc, seqCmpI_cons_of_ne (mt h.zero_symm hc), h.anti a b]

theorem seqCmpI_trans (l0 l1 l2 : List α) (h1 : seqCmpI c l0 l1 < 0) (h2 : seqCmpI c l1 l2 < 0) :
    seqCmpI c l0 l2 < 0 := by
  induction l0, l1 using induction₂ generalizing l2 with
  | nil_nil => simp [seqCmpI_nil_nil] at h1
  | nil_cons b u => cases l2 with
    | nil => simp [seqCmpI_cons_nil] at h2
    | cons d w => simp [seqCmpI_nil_cons]
  | cons_nil a t => simp [seqCmpI_cons_nil] at h1
  | cons_cons a t b u ih =>
    cases l2 with
    | nil => simp [seqCmpI_cons_nil] at h2
    | cons d w =>
      -- the first difference decides: unless both heads tie, `a` is below `d`
      have head : c a d < 0 → seqCmpI c (a :: t) (d :: w) < 0 := fun hlt => by
        rwa [seqCmpI_cons_of_ne (Int.ne_of_lt hlt)]
      by_cases hab : c a b = 0 <;> by_cases hbd : c b d = 0
      · rw [seqCmpI_cons_of_eq hab] at h1
        rw [seqCmpI_cons_of_eq hbd] at h2
        rw [seqCmpI_cons_of_eq (h.zero_trans hab hbd)]
        exact ih w h1 h2
      · rw [seqCmpI_cons_of_ne hbd] at h2
        exact head ((h.congr_l a b d hab).mpr h2)
      · rw [seqCmpI_cons_of_ne hab] at h1
        exact head ((h.congr_r a b d hbd).mp h1)
      · rw [seqCmpI_cons_of_ne hab] at h1
        rw [seqCmpI_cons_of_ne hbd] at h2
        exact head (h.trans_lt a b d h1 h2)

end cmp3

theorem sign_neg_iff (x : Int) : sign x < 0 ↔ x < 0 := by
  unfold sign; split <;> [skip; split] <;> omega

theorem sign_pos_iff (x : Int) : 0 < sign x ↔ 0 < x := by
  unfold sign; split <;> [skip; split] <;> omega

theorem cmp3ord_of_sub {f : Int → Int} (hneg : ∀ x, f x < 0 ↔ x < 0) (hpos : ∀ x, 0 < f x ↔ 0 < x) :
    Cmp3Ord (fun a b : Int => f (a - b)) (fun a b => a == b) where
  zero_iff a b := by have := hneg (a - b); have := hpos (a - b); simp only [beq_iff_eq]; omega
  anti a b := by have := hneg (a - b); have := hpos (b - a); omega
  trans_lt x y z := by simp only [hneg]; omega
  congr_l x y z := by have := hneg (x - y); have := hpos (x - y); simp only [hneg]; omega
  congr_r x y z := by have := hneg (y - z); have := hpos (y - z); simp only [hneg]; omega

theorem int_cmp3ord : Cmp3Ord (fun a b : Int => sign (a - b)) (fun a b => a == b) :=
  cmp3ord_of_sub sign_neg_iff sign_pos_iff

/-! ### only the SIGN of a component comparison matters -/

theorem sign_eq_iff {x y : Int} (h : sign x = sign y) :
    (x < 0 ↔ y < 0) ∧ (x = 0 ↔ y = 0) ∧ (x > 0 ↔ y > 0) := by
  have := sign_neg_iff x; have := sign_neg_iff y; have := sign_pos_iff x; have := sign_pos_iff y
  omega

theorem seqCmpI_sign_congr {c c' : α → α → Int} (hs : ∀ a b, sign (c a b) = sign (c' a b))
    (l0 l1 : List α) : sign (seqCmpI c l0 l1) = sign (seqCmpI c' l0 l1) := by
  induction l0, l1 using induction₂ with
  | nil_nil => rfl
  | nil_cons b u => simp [seqCmpI_nil_cons]
  | cons_nil a t => simp [seqCmpI_cons_nil]
  | cons_cons a t b u ih =>
    have hz := (sign_eq_iff (hs a b)).2.1
    by_cases e : c a b = 0
    · rw [seqCmpI_cons_of_eq e, seqCmpI_cons_of_eq (hz.mp e), ih]
    · rw [seqCmpI_cons_of_ne e, seqCmpI_cons_of_ne (mt hz.mpr e), hs a b]

/-- a user-style comparison with results far from {-1, 0, 1} -/
theorem scaled_int_cmp3ord : Cmp3Ord (fun a b : Int => (a - b) * 7) (fun a b => a == b) :=
  cmp3ord_of_sub (f := (· * 7)) (fun x => by omega) (fun x => by omega)

theorem seqCmpI_zero_of_eq {c : α → α → Int} {g : α → α → Bool}
    (h : ∀ a b, g a b = true → c a b = 0) (l0 l1 : List α) (he : seqEqB g l0 l1 = true) :
    seqCmpI c l0 l1 = 0 := by
  induction l0, l1 using induction₂ with
  | nil_nil => rfl
  | nil_cons b u => simp [seqEqB] at he
  | cons_nil a t => simp [seqEqB] at he
  | cons_cons a t b u ih =>
    simp only [seqEqB, List.length_cons, all2, Bool.and_eq_true, beq_iff_eq] at he ih
    rw [seqCmpI_cons_of_eq (h a b he.2.1)]
    exact ih ⟨by omega, he.2.2⟩

theorem ne_pure {f : α → α → R Bool} {g : α → α → Bool} (hp : PureEq f g) (a b : α) :
    ne f a b = .ok (!g a b) := by unfold ne; rw [hp a b]; rfl

section
variable {f : α → α → R Int} {c : α → α → Int} (hp : PureCmp f c) (a b : α)
include hp

theorem lt_pure : lt f a b = .ok (decide (c a b < 0)) := by unfold lt; rw [hp a b]; rfl
theorem gt_pure : gt f a b = .ok (decide (c a b > 0)) := by unfold gt; rw [hp a b]; rfl
theorem ge_pure : ge f a b = .ok (!decide (c a b < 0)) := by unfold ge; rw [hp a b]; rfl
theorem le_pure : le f a b = .ok (!decide (c a b > 0)) := by unfold le; rw [hp a b]; rfl

end

/- `l` is a `lt`; `PureEq` only says that a Bool-valued binary function never fails and computes `k` -/
theorem max_pure {l : α → α → R Bool} {k : α → α → Bool} (hp : PureEq l k) (a b : α) :
    max l a b = .ok (if k a b then b else a) := by
  unfold max; rw [hp a b]; cases k a b <;> rfl

theorem min_pure {l : α → α → R Bool} {k : α → α → Bool} (hp : PureEq l k) (a b : α) :
    min l a b = .ok (if k b a then b else a) := by
  unfold min; rw [hp b a]; cases k b a <;> rfl

end XrayModel.Derive
