/- C20 helper lemmas: the digit list produced by the `digits` loop (C14's mirror `IntB.digitsLoop` of int.rs) is canonical:
no leading zero, length determined by the magnitude -/
import XrayProofs.IntDigits
namespace XrayModel.Conv
open XrayModel LB

/-- the last digit is the most significant -/
def CanonLen (B m : Nat) (ds : List LB) : Prop :=
  (m = 0 → ds = []) ∧
  (m ≠ 0 → (∃ d, ds.getLast? = some d ∧ d.den ≠ 0) ∧ B ^ (ds.length - 1) ≤ m ∧ m < B ^ ds.length)

theorem canonLen_step (b n : Int) (hb : 2 ≤ b) (ds : List LB) (hn : n ≠ 0)
    (hc : CanonLen b.natAbs (n.tdiv b).natAbs ds) : CanonLen b.natAbs n.natAbs (ofInt (n.tmod b) :: ds) := by
  refine ⟨fun h => absurd h (by omega), fun _ => ?_⟩
  have hB : 2 ≤ b.natAbs := by omega
  have hqa : (n.tdiv b).natAbs = n.natAbs / b.natAbs := by rw [Int.natAbs_tdiv]; rfl
  rw [hqa] at hc
  by_cases hq0 : n.natAbs / b.natAbs = 0
  ·
    rw [hc.1 hq0]
    have hsmall : n.natAbs < b.natAbs := (Nat.div_eq_zero_iff.mp hq0).resolve_left (by omega)
    have hdn : n.tmod b = n := by
      have hq' : n.tdiv b = 0 := by omega
      have := Int.mul_tdiv_add_tmod n b
      rw [hq', Int.mul_zero] at this; omega
    exact ⟨⟨ofInt (n.tmod b), rfl, by rw [ofInt_den, hdn]; exact hn⟩, by simp; omega, by simpa using hsmall⟩
  · obtain ⟨⟨l, hl1, hl2⟩, hlo, hhi⟩ := hc.2 hq0
    have hne : ds ≠ [] := by intro e; rw [e] at hl1; simp at hl1
    have hlen : 1 ≤ ds.length := List.length_pos_iff.mpr hne
    refine ⟨⟨l, by rw [List.getLast?_cons_of_ne_nil hne]; exact hl1, hl2⟩, ?_, ?_⟩
    · simp only [List.length_cons, Nat.add_sub_cancel]
      have : b.natAbs ^ ds.length = b.natAbs ^ (ds.length - 1) * b.natAbs := by
        rw [← Nat.pow_succ]; congr 1; omega
      rw [this]
      exact (Nat.le_div_iff_mul_le (by omega)).mp hlo
    · simp only [List.length_cons, Nat.pow_succ]
      exact (Nat.div_lt_iff_lt_mul (by omega)).mp hhi

end XrayModel.Conv
