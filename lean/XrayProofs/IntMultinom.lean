/-
The `multinom` loop of `int.rs` (`IntB.multinom`): the entries are sorted in descending order, the largest is skipped,
and each further positive entry `k` multiplies the numerator by `(T+1) … (T+k)` (`T` the sum so far) and the
denominator by `k!`.  The invariant (`outer_inv`) is that the numerator is the multinomial coefficient of the entries
seen times the denominator; the zeros that `take_while` cuts off change neither the sum nor the product of factorials.
-/
import XrayProofs.IntBinom
namespace XrayModel.Multinom
open XrayModel LB

def sumN : List LB → Nat
  | [] => 0
  | x :: xs => x.den.toNat + sumN xs

def prodF : List LB → Nat
  | [] => 1
  | x :: xs => x.den.toNat.factorial * prodF xs

theorem sumN_perm {l₁ l₂ : List LB} (h : l₁.Perm l₂) : sumN l₁ = sumN l₂ := by
  induction h with
  | nil => rfl
  | cons x _ ih => simp only [sumN, ih]
  | swap x y l => simp only [sumN]; omega
  | trans _ _ ih1 ih2 => rw [ih1, ih2]

theorem prodF_perm {l₁ l₂ : List LB} (h : l₁.Perm l₂) : prodF l₁ = prodF l₂ := by
  induction h with
  | nil => rfl
  | cons x _ ih => simp only [prodF, ih]
  | swap x y l => simp only [prodF]; rw [← Nat.mul_assoc, ← Nat.mul_assoc, Nat.mul_comm (Nat.factorial _)]
  | trans _ _ ih1 ih2 => rw [ih1, ih2]

theorem insertDesc_perm (x : LB) : ∀ l : List LB, (IntB.insertDesc x l).Perm (x :: l) := by
  intro l
  induction l with
  | nil => exact List.Perm.refl _
  | cons y ys ih =>
    unfold IntB.insertDesc
    split
    · exact ((List.perm_cons y).mpr ih).trans (List.Perm.swap x y ys)
    · exact List.Perm.refl _

theorem sortDesc_perm : ∀ s : List LB, (IntB.sortDesc s).Perm s := by
  intro s
  induction s with
  | nil => exact List.Perm.refl _
  | cons x xs ih =>
    show (IntB.insertDesc x (IntB.sortDesc xs)).Perm (x :: xs)
    exact (insertDesc_perm x _).trans ((List.perm_cons x).mpr ih)

def Desc (l : List LB) : Prop := List.Pairwise (fun a b => b.den ≤ a.den) l

theorem insertDesc_desc (x : LB) (hx : x.wf) : ∀ l : List LB, (∀ y ∈ l, y.wf) → Desc l → Desc (IntB.insertDesc x l) := by
  intro l
  induction l with
  | nil => intro _ _; exact List.pairwise_singleton _ _
  | cons y ys ih =>
    intro hw hd
    unfold IntB.insertDesc
    have hy : y.wf := hw y List.mem_cons_self
    rw [Ops.cmp_beq_lt x y hx hy]
    obtain ⟨hhead, htail⟩ := List.pairwise_cons.mp hd
    split
    · rename_i hlt
      rw [decide_eq_true_iff] at hlt
      refine List.pairwise_cons.mpr ⟨?_, ih (fun z hz => hw z (List.mem_cons_of_mem _ hz)) htail⟩
      intro z hz
      rcases List.mem_cons.mp ((insertDesc_perm x ys).mem_iff.mp hz) with h | h
      · rw [h]; omega
      · exact hhead z h
    · rename_i hge
      rw [decide_eq_true_iff] at hge
      refine List.pairwise_cons.mpr ⟨?_, hd⟩
      intro z hz
      rcases List.mem_cons.mp hz with h | h
      · rw [h]; omega
      · have := hhead z h; omega

theorem sortDesc_desc : ∀ s : List LB, (∀ y ∈ s, y.wf) → Desc (IntB.sortDesc s) := by
  intro s
  induction s with
  | nil => intro _; exact List.Pairwise.nil
  | cons x xs ih =>
    intro hw
    show Desc (IntB.insertDesc x (IntB.sortDesc xs))
    apply insertDesc_desc x (hw x List.mem_cons_self)
    · intro y hy; exact hw y (List.mem_cons_of_mem _ ((sortDesc_perm xs).mem_iff.mp hy))
    · exact ih (fun y hy => hw y (List.mem_cons_of_mem _ hy))

/-- what `multinom` uses of the sort: a non-empty list, a permutation of the input, descending -/
theorem sortDesc_spec (s : List LB) (hw : ∀ y ∈ s, y.wf) (hlen : ¬ s.length ≤ 1) :
    ∃ s0 rest, IntB.sortDesc s = s0 :: rest ∧ (s0 :: rest).Perm s ∧ Desc (s0 :: rest) := by
  have hperm := sortDesc_perm s
  cases hsd : IntB.sortDesc s with
  | nil => rw [hsd] at hperm; have := hperm.length_eq; simp only [List.length_nil] at this; omega
  | cons s0 rest => exact ⟨s0, rest, rfl, hsd ▸ hperm, hsd ▸ sortDesc_desc s hw⟩

theorem multinomStep_eq (c i N D : Int) :
    IntB.multinomStep (ofInt c) (.ok (ofInt N, ofInt D)) (ofInt i) = .ok (ofInt (N * (i + c)), ofInt (D * (i + 1))) := by
  simp only [IntB.multinomStep, Ops.add_ofInt, Ops.mulAssign_ofInt, Ops.succ_ofInt]

/-- one item `k`: the inner loop multiplies `num` by `c (c+1) … (c+k-1)` and `denum` by `k!`, then `num_ctr += k` -/
theorem multinomItem_eq (c k N D : Nat) :
    IntB.multinomItem (.ok (ofInt c, ofInt N, ofInt D)) (ofInt k) =
      .ok (ofInt (c + k : Nat), ofInt (N * c.ascFactorial k : Nat), ofInt (D * k.factorial : Nat)) := by
  have := Binom.fold_mul (IntB.multinomStep (ofInt c)) (fun i => i + c) (fun k => (c.ascFactorial k : Nat)) N D k rfl
    (fun i _ => by rw [Nat.ascFactorial_succ]; push_cast; rw [Int.mul_comm, Int.add_comm])
    (fun i _ N D => multinomStep_eq c i N D)
  simp only [IntB.multinomItem, IntB.rangeTo, ofInt_den, Int.toNat_natCast, this, Ops.rule' Ops.addAssign_correct]
  push_cast; rfl

/-- the outer loop.  `F` is the factorial of the largest entry, which the loop skips; `T` is the sum of the entries so
far (the largest included); the state is `numCtr = T + 1`, `denum = P`, the product of the factorials of the entries
processed, and `num = M * P` with `M * (F * P) = T!`: `M` is the multinomial coefficient of the entries so far. -/
theorem outer_inv (F : Nat) : ∀ items : List LB, (∀ x ∈ items, x.wf ∧ 0 ≤ x.den) →
    ∀ T M P : Nat, M * (F * P) = T.factorial →
    ∃ M' : Nat, M' * (F * (P * prodF items)) = (T + sumN items).factorial ∧
      items.foldl IntB.multinomItem (.ok (ofInt (T + 1 : Nat), ofInt (M * P : Nat), ofInt P)) =
        .ok (ofInt (T + sumN items + 1 : Nat), ofInt (M' * (P * prodF items) : Nat), ofInt (P * prodF items : Nat)) := by
  intro items
  induction items with
  | nil => intro _ T M P h; exact ⟨M, by simpa [prodF, sumN] using h, by simp [prodF, sumN]⟩
  | cons x xs ih =>
    intro hall T M P h
    obtain ⟨hxw, hx0⟩ := hall x List.mem_cons_self
    obtain ⟨k, hk⟩ := Int.eq_ofNat_of_zero_le hx0
    obtain rfl : x = ofInt k := by rw [← hk, ofInt_den_self x hxw]
    have hchoose := Nat.ascFactorial_eq_factorial_mul_choose T k
    obtain ⟨M', hM', hfold⟩ := ih (fun y hy => hall y (List.mem_cons_of_mem _ hy)) (T + k)
      (M * (T + k).choose k) (P * k.factorial) (by
        rw [← Nat.factorial_mul_ascFactorial T k, ← h, hchoose]
        simp only [Nat.mul_assoc, Nat.mul_comm, Nat.mul_left_comm])
    have e : M * P * (T + 1).ascFactorial k = M * (T + k).choose k * (P * k.factorial) := by
      rw [hchoose]; simp only [Nat.mul_assoc, Nat.mul_comm, Nat.mul_left_comm]
    simp only [sumN, prodF, ofInt_den, Int.toNat_natCast, ← Nat.add_assoc, ← Nat.mul_assoc]
    refine ⟨M', by simpa only [← Nat.mul_assoc] using hM', ?_⟩
    rw [List.foldl_cons, multinomItem_eq, Nat.add_right_comm, e, hfold]
    simp only [← Nat.mul_assoc]

theorem zeros_sum_prod : ∀ l : List LB, (∀ x ∈ l, x.den = 0) → sumN l = 0 ∧ prodF l = 1 := by
  intro l
  induction l with
  | nil => intro _; exact ⟨rfl, rfl⟩
  | cons y ys ih =>
    intro h
    obtain ⟨h1, h2⟩ := ih (fun z hz => h z (List.mem_cons_of_mem _ hz))
    simp only [sumN, prodF, h1, h2, h y List.mem_cons_self]
    exact ⟨rfl, rfl⟩

theorem takeWhile_positive : ∀ l : List LB, Desc l → (∀ x ∈ l, 0 ≤ x.den) →
    sumN (l.takeWhile LB.isPositive) = sumN l ∧ prodF (l.takeWhile LB.isPositive) = prodF l := by
  intro l
  induction l with
  | nil => intro _ _; exact ⟨rfl, rfl⟩
  | cons y ys ih =>
    intro hd hnn
    obtain ⟨hhead, htail⟩ := List.pairwise_cons.mp hd
    rw [List.takeWhile_cons]
    by_cases hp : LB.isPositive y = true
    · obtain ⟨h1, h2⟩ := ih htail (fun z hz => hnn z (List.mem_cons_of_mem _ hz))
      simp only [hp, if_true, sumN, prodF, h1, h2, and_self]
    · rw [if_neg hp]
      rw [isPositive_iff] at hp
      refine (zeros_sum_prod (y :: ys) fun x hx => ?_).imp Eq.symm Eq.symm
      have h0 := hnn x hx
      rcases List.mem_cons.mp hx with h | h
      · rw [h]; have := hnn y List.mem_cons_self; omega
      · have := hhead x h; have := hnn y List.mem_cons_self; omega

theorem prodF_pos (l : List LB) : 0 < prodF l := by
  induction l with
  | nil => exact Nat.one_pos
  | cons y ys ih => exact Nat.mul_pos (Nat.factorial_pos _) ih

theorem multinom_spec (s : List LB) (hs : ∀ x ∈ s, x.wf ∧ 0 ≤ x.den) :
    ∃ r, IntB.multinom s = .int r ∧ r.wf ∧ ∃ M : Nat, r.den = (M : Int) ∧ M * prodF s = (sumN s).factorial := by
  unfold IntB.multinom
  by_cases hlen : s.length ≤ 1
  · rw [if_pos hlen]
    refine ⟨short 1, rfl, by decide, 1, rfl, ?_⟩
    match s, hlen with
    | [], _ => rfl
    | [x], _ => simp [prodF, sumN]
  · rw [if_neg hlen]
    obtain ⟨s0, rest, hsd, hperm, hdesc⟩ := sortDesc_spec s (fun y hy => (hs y hy).1) hlen
    rw [hsd]
    simp only []
    have hmem : ∀ x ∈ s0 :: rest, x.wf ∧ 0 ≤ x.den := fun x hx => hs x (hperm.mem_iff.mp hx)
    have hlast : LB.isNegative ((s0 :: rest).getLast (List.cons_ne_nil _ _)) = false := by
      rw [← Bool.not_eq_true, isNegative_iff]
      have := (hmem _ (List.getLast_mem (List.cons_ne_nil s0 rest))).2
      omega
    rw [hlast]
    simp only [Bool.false_eq_true, if_false]
    obtain ⟨hs0w, hs0n⟩ := hmem s0 List.mem_cons_self
    obtain ⟨k0, hk0⟩ := Int.eq_ofNat_of_zero_le hs0n
    have hrest : ∀ x ∈ rest, x.wf ∧ 0 ≤ x.den := fun x hx => hmem x (List.mem_cons_of_mem _ hx)
    obtain ⟨M, hM, hfold⟩ := outer_inv k0.factorial (rest.takeWhile LB.isPositive)
      (fun x hx => hrest x (List.takeWhile_subset _ hx)) k0 1 1 (by simp)
    obtain ⟨hsum, hprod⟩ := takeWhile_positive rest (List.pairwise_cons.mp hdesc).2 (fun x hx => (hrest x hx).2)
    simp only [hsum, hprod, Nat.one_mul] at hM hfold
    have hpos : ((prodF rest : Nat) : Int) ≠ 0 := by exact_mod_cast (prodF_pos rest).ne'
    obtain rfl : s0 = ofInt k0 := by rw [← hk0, ofInt_den_self s0 hs0w]
    rw [Ops.succ_ofInt]
    simp only []
    -- the start state `(k0 + 1, 1, 1)` in the form of `outer_inv` with `T = k0`, `M = P = 1`
    rw [show (k0 : Int) + 1 = ((k0 + 1 : Nat) : Int) by push_cast; rfl,
      show short 1 = ofInt ((1 : Nat) : Int) from rfl, hfold]
    simp only []
    rw [Ops.div_ofInt _ _ hpos]
    refine ⟨_, rfl, ofInt_wf _, M, ?_, ?_⟩
    · rw [ofInt_den]; push_cast
      exact Int.mul_tdiv_cancel _ hpos
    · rw [← sumN_perm hperm, ← prodF_perm hperm]
      simpa only [sumN, prodF, ofInt_den, Int.toNat_natCast] using hM

theorem last_le (l : List LB) (h : l ≠ []) (hd : Desc l) : ∀ x ∈ l, (l.getLast h).den ≤ x.den := by
  intro x hx
  obtain ⟨i, hi, rfl⟩ := List.mem_iff_getElem.mp hx
  rw [List.getLast_eq_getElem]
  obtain rfl | hlt := Nat.eq_or_lt_of_le (Nat.le_sub_one_of_lt hi)
  · exact Int.le_refl _
  · exact List.pairwise_iff_getElem.mp hd i _ hi (by omega) hlt

theorem multinom_negative (s : List LB) (hs : ∀ x ∈ s, x.wf) (hlen : 2 ≤ s.length) (hneg : ∃ x ∈ s, x.den < 0) :
    IntB.multinom s = .err "sequence cannot have negative values" := by
  unfold IntB.multinom
  rw [if_neg (by omega)]
  obtain ⟨s0, rest, hsd, hperm, hdesc⟩ := sortDesc_spec s hs (by omega)
  rw [hsd]
  simp only []
  obtain ⟨x, hx, hxn⟩ := hneg
  have := last_le (s0 :: rest) (List.cons_ne_nil _ _) hdesc x (hperm.mem_iff.mpr hx)
  rw [(isNegative_iff _).mpr (by omega)]
  rfl

end XrayModel.Multinom
