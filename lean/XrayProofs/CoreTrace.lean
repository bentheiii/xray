/-
Facts about the pair (violation a run ends in, if any; state after it) of the core evaluator
(XrayModel/Core.lean).  Along a run that pair is built by sequencing from five events: a line written by
`display`, a counted user call below the call limit, a counted call reaching it, the depth check failing,
the recursion check failing.  A relation `Q st o st'` closed under sequencing and containing the events
(`Trace cfg Q`) therefore holds of every run of each of the ten functions, with any fuel (`trace`).
-/
import XrayProofs.CoreShape
namespace XrayModel.Core

def Res.viol? : Res → Option Viol
  | .viol k => some k
  | _ => none

def exViol? {α : Type} : Except Res α → Option Viol
  | .error r => r.viol?
  | .ok _ => none

theorem viol?_eq_some {r : Res} {k : Viol} : r.viol? = some k ↔ r = .viol k := by
  cases r <;> simp [Res.viol?]

theorem exViol?_eq_some {α : Type} {x : Except Res α} {k : Viol} : exViol? x = some k ↔ x = .error (.viol k) := by
  cases x
  · simp [exViol?, viol?_eq_some]
  · simp [exViol?]

theorem prim_viol? (f : String) (vs : List Val) : (prim f vs).viol? = none := by
  rcases prim_cases f vs with ⟨v, h⟩ | h | h <;> rw [h] <;> rfl

/-- `Q st o st'` reads: a run from `st` may end in `st'` with violation `o` (`none`: with any other
outcome).  The limits appear only as far as they are configured: an event of a limit that is not set
does not occur. -/
structure Trace (cfg : Cfg) (Q : St → Option Viol → St → Prop) : Prop where
  refl : ∀ st, Q st none st
  trans : ∀ {st st1 st2 o}, Q st none st1 → Q st1 o st2 → Q st o st2
  display : ∀ st s, Q st none { st with out := st.out ++ [s] }
  count : ∀ st l, cfg.callLimit = some l → st.calls + 1 < l → Q st none { st with calls := st.calls + 1 }
  calls : ∀ st l, cfg.callLimit = some l → st.calls + 1 ≥ l → Q st (some .calls) { st with calls := st.calls + 1 }
  depth : ∀ st l, cfg.depthLimit = some l → Q st (some .depth) st
  recursion : ∀ st l, cfg.recLimit = some l → Q st (some .recursion) st

abbrev Ran (Q : St → Option Viol → St → Prop) (st : St) (p : Res × St) : Prop := Q st p.1.viol? p.2

abbrev RanE (Q : St → Option Viol → St → Prop) (st : St) {α : Type} (p : Except Res α × St) : Prop :=
  Q st (exViol? p.1) p.2

structure TraceAt (cfg : Cfg) (Q : St → Option Viol → St → Prop) (n : Nat) : Prop where
  eval : ∀ fr e tail st, Ran Q st (eval n cfg fr e tail st)
  callNamed : ∀ fr f args tail st, Ran Q st (callNamed n cfg fr f args tail st)
  callVal : ∀ fr c args tail st, Ran Q st (callVal n cfg fr c args tail st)
  evalList : ∀ fr es st, RanE Q st (evalList n cfg fr es st)
  mkClos : ∀ fr f st, Ran Q st (mkClos n cfg fr f st)
  evalDflts : ∀ fr ps st, RanE Q st (evalDflts n cfg fr ps st)
  callUser : ∀ h c args st, Ran Q st (callUser n cfg h c args st)
  tramp : ∀ h c args rec st, Ran Q st (tramp n cfg h c args rec st)
  evalDecls : ∀ fr ds st, RanE Q st (evalDecls n cfg fr ds st)
  builtin : ∀ fr f args tail st, Ran Q st (builtin n cfg fr f args tail st)

variable {cfg : Cfg} {Q : St → Option Viol → St → Prop}

theorem trace_zero (hQ : Trace cfg Q) : TraceAt cfg Q 0 where
  eval _ _ _ st := hQ.refl st
  callNamed _ _ _ _ st := hQ.refl st
  callVal _ _ _ _ st := hQ.refl st
  evalList _ _ st := hQ.refl st
  mkClos _ _ st := hQ.refl st
  evalDflts _ _ st := hQ.refl st
  callUser _ _ _ st := hQ.refl st
  tramp _ _ _ _ st := hQ.refl st
  evalDecls _ _ st := hQ.refl st
  builtin _ _ _ _ st := hQ.refl st

theorem Trace.onVal (hQ : Trace cfg Q) {st x k} (hx : Ran Q st x) (hk : ∀ v s, Ran Q s (k v s)) :
    Ran Q st (onVal x k) := by
  obtain ⟨r, s⟩ := x
  cases r with
  | val v => exact hQ.trans hx (hk v s)
  | _ => exact hx

theorem Trace.onValE (hQ : Trace cfg Q) {α st x} {k : Val → St → Except Res α × St} (hx : Ran Q st x)
    (hk : ∀ v s, RanE Q s (k v s)) : RanE Q st (onValE x k) := by
  obtain ⟨r, s⟩ := x
  cases r with
  | val v => exact hQ.trans hx (hk v s)
  | _ => exact hx

theorem Trace.onOk (hQ : Trace cfg Q) {α st} {x : Except Res α × St} {k} (hx : RanE Q st x)
    (hk : ∀ a s, Ran Q s (k a s)) : Ran Q st (onOk x k) := by
  obtain ⟨_ | a, s⟩ := x
  · exact hx
  · exact hQ.trans hx (hk a s)

theorem ranE_consOk {st v y} (hy : RanE Q st y) : RanE Q st (consOk v y) := by
  obtain ⟨_ | _, _⟩ := y <;> exact hy

theorem Trace.onTail (hQ : Trace cfg Q) {st x k} (hx : Ran Q st x) (hk : ∀ a s, Ran Q s (k a s)) :
    Ran Q st (onTail x k) := by
  obtain ⟨r, s⟩ := x
  cases r with
  | tail a => exact hQ.trans hx (hk a s)
  | _ => exact hx

/-- a directly selected outcome leaves the state alone, except `display`, which writes its line -/
theorem Trace.lazySel_inl (hQ : Trace cfg Q) {f args a sel} (h : lazySel f args = some (a, sel)) {v s x}
    (hx : sel v s = .inl x) : Ran Q s x := by
  rw [lazySel.eq_def] at h
  split at h <;> cases h <;> dsimp only at hx
  all_goals repeat' split at hx
  all_goals cases hx <;> first | exact hQ.refl s | exact hQ.display s _

theorem trace_succ (hQ : Trace cfg Q) {n : Nat} (ih : TraceAt cfg Q n) : TraceAt cfg Q (n + 1) where
  eval fr e tail st := by
    cases e
    case var x => rw [eval]; split <;> exact hQ.refl st
    case tup es | arr es =>
      simp only [eval_tup, eval_arr]; exact hQ.onOk (ih.evalList ..) fun _ s => hQ.refl s
    case item e i =>
      rw [eval_item]
      refine hQ.onVal (ih.eval ..) fun v s => ?_
      cases v <;> first | exact hQ.refl s | (dsimp only; split <;> exact hQ.refl s)
    case lam f => exact ih.mkClos fr f st
    case callE fe args =>
      rw [eval_callE]
      refine hQ.onVal (ih.eval ..) fun c s => ?_
      cases c <;> first | exact hQ.refl s | exact ih.callVal ..
    case call f args =>
      rw [eval_call]
      split
      · split
        · exact hQ.onOk (ih.evalList ..) fun _ s => hQ.refl s
        · exact ih.callVal ..
      · exact ih.callNamed ..
    all_goals exact hQ.refl st
  callNamed fr f args tail st := by
    rw [callNamed]
    split
    · exact ih.callVal ..
    · exact ih.builtin ..
  callVal fr c args tail st := by
    cases c
    case clos f d env => rw [callVal_clos]; exact hQ.onOk (ih.evalList ..) fun _ _ => ih.callUser ..
    all_goals exact hQ.refl st
  evalList fr es st := by
    cases es with
    | nil => exact hQ.refl st
    | cons e rest =>
      rw [evalList_cons]
      refine hQ.onValE (ih.eval ..) fun v s => ?_
      cases v <;> first | exact hQ.refl s | exact ranE_consOk (ih.evalList ..)
  mkClos fr f st := by rw [mkClos_succ]; exact hQ.onOk (ih.evalDflts ..) fun _ s => hQ.refl s
  evalDflts fr ps st := by
    cases ps with
    | nil => exact hQ.refl st
    | cons p rest =>
      rw [evalDflts_cons]
      split
      · exact ih.evalDflts ..
      · exact hQ.onValE (ih.eval ..) fun v s => ranE_consOk (ih.evalDflts ..)
  callUser h c args st := by
    rw [callUser_succ]
    split
    · exact hQ.refl st
    · split
      · next l hl =>
        split
        · exact hQ.calls st l hl ‹_›
        · exact hQ.trans (hQ.count st l hl (Nat.lt_of_not_le ‹_›)) (ih.tramp ..)
      · exact ih.tramp ..
  tramp h c args rec st := by
    cases c
    case clos f d env =>
      rw [tramp_succ]
      split
      · next hc =>
        unfold Cfg.tooDeep at hc
        split at hc
        · exact hQ.depth st _ ‹_›
        · cases hc
      split
      · exact hQ.refl st
      refine hQ.onOk (ih.evalDecls ..) fun fr' s => hQ.onTail (ih.eval ..) fun a s' => ?_
      split
      · next hc =>
        unfold Cfg.recOver at hc
        split at hc
        · exact hQ.recursion s' _ ‹_›
        · cases hc
      · exact ih.tramp ..
    all_goals exact hQ.refl st
  evalDecls fr ds st := by
    rcases ds with _ | ⟨_ | _, rest⟩
    · exact hQ.refl st
    · rw [evalDecls_letD]; exact hQ.onValE (ih.eval ..) fun v s => ih.evalDecls ..
    · rw [evalDecls_fnD]
      refine hQ.onValE (ih.mkClos ..) fun c s => ?_
      split
      · exact ih.evalDecls ..
      · exact hQ.refl s
  builtin fr f args tail st := by
    rw [builtin_succ]
    rcases hl : lazySel f args with _ | ⟨a, sel⟩ <;> dsimp only
    · split
      · refine hQ.onOk (ih.evalList ..) fun vs s => ?_
        show Q s (prim f vs).viol? s
        rw [prim_viol?]
        exact hQ.refl s
      · exact hQ.refl st
    · refine hQ.onVal (ih.eval ..) fun v s => ?_
      cases hsel : sel v s with
      | inl r => exact hQ.lazySel_inl hl hsel
      | inr b => exact ih.eval ..

theorem trace (hQ : Trace cfg Q) (n : Nat) : TraceAt cfg Q n := by
  induction n with
  | zero => exact trace_zero hQ
  | succ n ih => exact trace_succ hQ ih

end XrayModel.Core
