/-
The generated `date` / `julian_day` (Generated/StdInt.lean) written over `Nat`: the same formulas, from
0000-03-01 (Julian day 1721120) on, where no intermediate value is negative and truncated subtraction is exact.
`date_ofNat` and `jd_ofNat` in `XrayProofs/ConvDate.lean` relate the generated `Int` definitions to this mirror.
-/
namespace XrayModel.ConvNat

structure DateN where
  year : Nat
  month : Nat
  day : Nat

/-- mirror of `date` for `jd ≥ 1721120` (0000-03-01), written without truncated subtraction inside divisions -/
def dateN (jd : Nat) : DateN :=
  let f := jd + 1363 + ((4 * jd + 274277) / 146097 * 3) / 4
  let e := 4 * f + 3
  let g := (e % 1461) / 4
  let h := 5 * g + 2
  let days := (h % 153) / 5 + 1
  let months := ((h / 153) + 2) % 12 + 1
  let years := e / 1461 + (14 - months) / 12 - 4716
  ⟨years, months, days⟩

/-- mirror of `julian_day` for years ≥ 1 -/
def jdN (d : DateN) : Nat :=
  let a := (14 - d.month) / 12
  let y := d.year + 4800 - a
  let m := d.month + 12 * a - 3
  d.day + (153 * m + 2) / 5 + y * 365 + y / 4 - y / 100 + y / 400 - 32045

theorem nbeq_false (a b : Nat) : Nat.beq a b = false ↔ a ≠ b :=
  ⟨Nat.ne_of_beq_eq_false, fun h => by
    cases e : Nat.beq a b with
    | false => rfl
    | true => exact absurd (Nat.eq_of_beq_eq_true e) h⟩

/-- first day of the base period: 0000-03-01 -/
def baseJD : Nat := 1721120

end XrayModel.ConvNat
