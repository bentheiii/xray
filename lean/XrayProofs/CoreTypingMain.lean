/- C01: assembly of the soundness invariant for every amount of fuel, and its reading on whole programs. -/
import XrayProofs.CoreTypingStep
namespace XrayModel.CoreTyping
open XrayModel.Core

theorem inv_all : ∀ n, Inv n
  | 0 => inv_zero
  | n + 1 =>
    have ih := inv_all n
    ⟨step_eval ih, step_callNamed ih, step_callVal ih, step_evalList ih, step_mkClos ih, step_evalDflts ih,
     step_callUser ih, step_tramp ih, step_evalDecls ih, step_builtin ih⟩

theorem frameTy_root : FrameTy { env := [], self := none, height := 0 } [] :=
  (FrameTy.self_none rfl).mpr .nil

theorem program_ok {ds : List TDecl} {Γ : TyEnv} (h : checkProgram ds = some Γ) (fuel : Nat) (cfg : Cfg) :
    DeclsOk { env := [], self := none, height := 0 } Γ (runProgram fuel cfg (eraseDs ds)).1 :=
  (inv_all fuel).evalDecls cfg _ ds {} [] Γ frameTy_root h

end XrayModel.CoreTyping
