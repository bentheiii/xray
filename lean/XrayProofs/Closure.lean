/- Closures and defaults on the core evaluator (XrayModel/Core.lean): lemmas for C03. -/
import XrayModel.Core
namespace XrayModel.Core

def SameShape (ps ps' : List Param) : Prop :=
  ps.map (fun p => (p.name, p.dflt.isSome)) = ps'.map (fun p => (p.name, p.dflt.isSome))

theorem bindParams_congr (ps ps' : List Param) (h : SameShape ps ps') (args ds : List Val) :
    bindParams ps args ds = bindParams ps' args ds := by
  induction ps generalizing ps' args ds with
  | nil =>
    cases ps' with
    | nil => rfl
    | cons _ _ => simp [SameShape] at h
  | cons p rest ih =>
    cases ps' with
    | nil => simp [SameShape] at h
    | cons p' rest' =>
      obtain ⟨n, d⟩ := p
      obtain ⟨n', d'⟩ := p'
      simp only [SameShape, List.map_cons, List.cons.injEq, Prod.mk.injEq, Param.name, Param.dflt] at h
      obtain ⟨⟨rfl, hd⟩, hrest⟩ := h
      have ih' := ih rest' hrest
      -- only whether a parameter has a default is looked at, never the expression
      cases d <;> cases d' <;> simp at hd <;> cases args <;> cases ds <;> simp only [bindParams, Param.dflt, Param.name, ih']

/-- A call of a function value does not look at the default *expressions* in its code, only at the default
*values* computed when it was created. -/
theorem tramp_lambda_defaults (fuel : Nat) (cfg : Cfg) (h : Nat) (ps ps' : List Param) (decls : List Decl)
    (body : Expr) (ds : List Val) (env : List (String × Val)) (hs : SameShape ps ps') :
    ∀ (args : List Val) (r : Nat) (st : St),
      tramp fuel cfg h (.clos (.mk none ps decls body) ds env) args r st
        = tramp fuel cfg h (.clos (.mk none ps' decls body) ds env) args r st := by
  induction fuel with
  | zero => intro args r st; simp [tramp]
  | succ n ih =>
    intro args r st
    simp only [tramp, Func.params, Func.name, Func.decls, Func.body, bindParams_congr ps ps' hs, ih]

theorem tramp_frame (fuel : Nat) (cfg : Cfg) (h : Nat) (f : Func) (ds : List Val) (env : List (String × Val))
    (args : List Val) (r : Nat) (st : St) (ps : List (String × Val))
    (hb : bindParams f.params args ds = some ps)
    (hd : ∀ l, cfg.depthLimit = some l → h + 1 < l) :
    tramp (fuel + 1) cfg h (.clos f ds env) args r st =
      (let fr : Frame := { env := ps.reverse ++ env,
                           self := (match f.name with | some n => some (n, .clos f ds env) | none => none),
                           height := h + 1 }
       match evalDecls fuel cfg fr f.decls st with
       | (.error r', st') => (r', st')
       | (.ok fr', st') =>
         match eval fuel cfg fr' f.body true st' with
         | (.tail newArgs, st'') =>
           if (match cfg.recLimit with | some l => decide (r + 1 > l) | none => false) then (.viol .recursion, st'')
           else tramp fuel cfg h (.clos f ds env) newArgs (r + 1) st''
         | r' => r') := by
  simp only [tramp, hb]
  cases hdl : cfg.depthLimit with
  | none => simp only [Bool.false_eq_true, if_false]; rfl
  | some l =>
    have := hd l hdl
    have hlt : ¬ (h + 1 ≥ l) := by omega
    simp only [hlt, decide_false, Bool.false_eq_true, if_false]; rfl

theorem evalDflts_not_error_val (cfg : Cfg) (fr : Frame) : ∀ (n : Nat) (ps : List Param) (s s' : St) (v : Val),
    evalDflts n cfg fr ps s ≠ (.error (.val v), s') := by
  intro n
  induction n with
  | zero => intro ps s s' v hh; cases hh
  | succ m ihm =>
    intro ps s s' v hh
    cases ps with
    | nil => simp [evalDflts] at hh
    | cons p rest =>
      simp only [evalDflts] at hh
      split at hh
      · exact ihm _ _ _ _ hh
      · split at hh
        · split at hh
          · cases hh
          · exact ihm _ _ _ _ hh
        · cases hh
        · rename_i hnv _ _
          simp only [Prod.mk.injEq, Except.error.injEq] at hh
          exact hnv v hh.1

theorem evalDflts_cons_some (fuel : Nat) (cfg : Cfg) (fr : Frame) (n : String) (d : Expr) (rest : List Param) (st : St) :
    evalDflts (fuel + 1) cfg fr (.mk n (some d) :: rest) st =
      match eval fuel cfg fr d false st with
      | (.val v, st') =>
        (match evalDflts fuel cfg fr rest st' with
         | (.ok vs, st'') => (.ok (v :: vs), st'')
         | r => r)
      | (.tail _, st') => (.error (.stuck "tail escaped"), st')
      | (r, st') => (.error r, st') := by
  simp only [evalDflts, Param.dflt]
  rfl

theorem evalDflts_cons_none (fuel : Nat) (cfg : Cfg) (fr : Frame) (n : String) (rest : List Param) (st : St) :
    evalDflts (fuel + 1) cfg fr (.mk n none :: rest) st = evalDflts fuel cfg fr rest st := by
  simp only [evalDflts, Param.dflt]

theorem frame_get_avoid (fr : Frame) (x : String) (h : ∀ n c, fr.self = some (n, c) → n ≠ x) :
    fr.get x = lookup x fr.env := by
  simp only [Frame.get]
  cases hl : lookup x fr.env with
  | some v => rfl
  | none =>
    cases hs : fr.self with
    | none => rfl
    | some p =>
      obtain ⟨n, c⟩ := p
      have := h n c hs
      simp [this]

theorem eval_call_named (n : Nat) (cfg : Cfg) (fr : Frame) (f : String) (args : List Expr) (tail : Bool)
    (st : St) (h : ∀ s c, fr.self = some (s, c) → s ≠ f) :
    eval (n + 1) cfg fr (.call f args) tail st = callNamed n cfg fr f args tail st := by
  simp only [eval]
  cases hs : fr.self with
  | none => rfl
  | some p =>
    obtain ⟨s, c⟩ := p
    have hne : ¬ f = s := fun e => h s c hs e.symm
    simp [hne]

theorem evalList_length (cfg : Cfg) (fr : Frame) : ∀ (n : Nat) (es : List Expr) (st st' : St) (vs : List Val),
    evalList n cfg fr es st = (.ok vs, st') → vs.length = es.length := by
  intro n
  induction n with
  | zero => intro es st st' vs h; cases h
  | succ m ih =>
    intro es st st' vs h
    cases es with
    | nil => simp only [evalList, Prod.mk.injEq, Except.ok.injEq] at h; rw [← h.1]; rfl
    | cons e rest =>
      simp only [evalList] at h
      split at h
      · cases h
      · split at h
        · rename_i vs1 st2 h2
          simp only [Prod.mk.injEq, Except.ok.injEq] at h
          rw [← h.1]
          simp [ih rest _ _ vs1 h2]
        · rename_i hne
          exact absurd h (hne _ _)
      · cases h
      · cases h

theorem firstErr_mem (vs : List Val) (e : Val) (h : firstErr vs = some e) : e ∈ vs := by
  induction vs with
  | nil => simp [firstErr] at h
  | cons v rest ih =>
    simp only [firstErr] at h
    split at h
    · cases h; simp
    · simp [ih h]

theorem lookup_append_or (y : String) (A B : List (String × Val)) :
    lookup y (A ++ B) = (lookup y A).or (lookup y B) := by
  induction A with
  | nil => rfl
  | cons p rest ih =>
    obtain ⟨z, v⟩ := p
    simp only [List.cons_append, lookup]
    split
    · rfl
    · exact ih

end XrayModel.Core
