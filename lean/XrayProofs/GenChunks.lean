/- the denotation of `chunks` (C16) -/
import XrayProofs.GenConsumers
namespace XrayModel.Gen

/-- chunking with the partial chunk `s` carried along: a chunk is emitted as soon as it is full, the last one (if
shorter and non-empty) at the end.  These are the two kinds of state `chKeep` lets through: `d = 0` with a full chunk
(`chStep` at an element), `d = 2` (`chStep` at the final `none()`) -/
def chunkGo (n : Nat) : List V → List V → List (List V)
  | s, [] => if 0 < s.length && s.length < n then [s] else []
  | s, v :: vs =>
    let s' := (if s.length < n then s else []) ++ [v]
    (if s'.length == n then [s'] else []) ++ chunkGo n s' vs

/-- the items `chunks` feeds to its aggregate: `some(v)` for every element, then `none()` -/
def chItems (vs : List V) : List Item := vs.map (fun v => Item.val (.tup [v])) ++ [.val (.tup [])]

theorem chunks_list (n : Nat) (vs : List V) (s : List V) (d : Int) :
    ((scanItems (chStep n) (.val (.tup [.seq s, .int d])) (chItems vs)).filterMap (filt (chKeep n))).map (mapItem chOut) =
      (chunkGo n s vs).map (fun c => Item.val (.seq c)) := by
  induction vs generalizing s d with
  | nil =>
    by_cases h : 0 < s.length ∧ s.length < n <;>
      simp [chItems, scanItems, chStep, chunkGo, filt, chKeep, mapItem, chOut, h]
  | cons v vs ih =>
    have hstep : chStep n (.val (.tup [.seq s, .int d])) (.val (.tup [v])) =
        .val (.tup [.seq ((if s.length < n then s else []) ++ [v]), .int 0]) := rfl
    simp only [chItems, List.map_cons, List.cons_append, scanItems, hstep, chunkGo]
    generalize (if s.length < n then s else []) ++ [v] = s'
    have := ih s' 0
    simp only [chItems] at this
    by_cases hl : s'.length = n <;> simp [filt, chKeep, hl, mapItem, chOut, this]

theorem scanItems_length (f : F2) (xs : List Item) (st : Item) : (scanItems f st xs).length = xs.length := by
  induction xs generalizing st with
  | nil => rfl
  | cons x xs ih =>
    cases x with
    | viol => simp [scanItems, ih]
    | err => simp only [scanItems]; cases f st .err <;> simp [ih]
    | val v => simp only [scanItems]; cases f st (.val v) <;> simp [ih]

end XrayModel.Gen
