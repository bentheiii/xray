/-
C09 — helper lemmas: the accounting invariant and its preservation by every event; a run that
passes under a limit is the same run under any larger limit.
-/
import XrayModel.Alloc
namespace XrayModel.Alloc

theorem liveSum_cons (i r : Nat) (l : List (Nat × Nat)) : liveSum ((i, r) :: l) = r + liveSum l := rfl

theorem lookup_erase_sum (id : Nat) {l : List (Nat × Nat)} {rec : Nat} (h : l.lookup id = some rec) :
    liveSum l = rec + liveSum (eraseId id l) := by
  induction l with
  | nil => cases h
  | cons p t ih =>
    obtain ⟨i, r⟩ := p
    by_cases hi : i = id
    · cases hi
      rw [List.lookup_cons_self] at h
      cases h
      exact congrArg (fun t => rec + liveSum t) (if_pos rfl).symm
    · rw [List.lookup_cons, beq_false_of_ne (Ne.symm hi)] at h
      rw [eraseId, if_neg hi, liveSum_cons, liveSum_cons, ih h, Nat.add_left_comm]

structure Inv (base : Nat) (limit : Option Nat) (r : Run) : Prop where
  sum : r.st.size = base + liveSum r.live
  lim : r.st.limit = limit
  within : ∀ L, limit = some L → r.st.size ≤ L
  noUnderflow : r.underflows = 0

theorem allocate_spec (sh : AllocShape) (s : St) (bytes : Nat) :
    (s.limit = none ∧ allocate sh s bytes = (s, .ok 0)) ∨
    (∃ L, s.limit = some L ∧ s.size + bytes > L ∧
      allocate sh s bytes = (if sh.rollsBack then s else { s with size := s.size + bytes }, .violation)) ∨
    (∃ L, s.limit = some L ∧ s.size + bytes ≤ L ∧ allocate sh s bytes = ({ s with size := s.size + bytes }, .ok bytes)) := by
  unfold allocate
  cases s.limit with
  | none => exact .inl ⟨rfl, rfl⟩
  | some L =>
    by_cases hgt : s.size + bytes > L
    · exact .inr (.inl ⟨L, rfl, hgt, if_pos hgt⟩)
    · exact .inr (.inr ⟨L, rfl, Nat.le_of_not_gt hgt, if_neg hgt⟩)

theorem deallocate_spec (s : St) (rec : Nat) :
    (rec = 0 ∧ deallocate s rec = (s, .ok 0)) ∨
    (rec ≠ 0 ∧ rec ≤ s.size ∧ deallocate s rec = ({ s with size := s.size - rec }, .ok 0)) ∨
    (rec ≠ 0 ∧ ¬ rec ≤ s.size ∧ deallocate s rec = (s, .panic)) := by
  unfold deallocate
  by_cases h0 : rec = 0
  · exact .inl ⟨h0, if_pos h0⟩
  · rw [if_neg h0]
    by_cases hle : rec ≤ s.size
    · exact .inr (.inl ⟨h0, hle, if_pos hle⟩)
    · exact .inr (.inr ⟨h0, hle, if_neg hle⟩)

theorem step_inv (sh : AllocShape) (hsh : sh.rollsBack = true) (base : Nat) (limit : Option Nat)
    (r : Run) (h : Inv base limit r) (e : Ev) : Inv base limit (step sh r e) := by
  obtain ⟨hsum, hlim, hwithin, hunder⟩ := h
  cases e with
  | alloc id bytes =>
    simp only [step]
    rcases allocate_spec sh r.st bytes with ⟨hl, ha⟩ | ⟨L, hl, hgt, ha⟩ | ⟨L, hl, hle, ha⟩
    · rw [ha]
      exact ⟨hsum.trans (congrArg _ (Nat.zero_add _).symm), hlim, hwithin, hunder⟩
    · rw [ha, hsh]
      exact ⟨hsum, hlim, hwithin, hunder⟩
    · rw [ha]
      refine ⟨?_, hlim, ?_, hunder⟩
      · show r.st.size + bytes = base + (bytes + liveSum r.live)
        rw [hsum, Nat.add_assoc, Nat.add_comm bytes]
      · intro L' hL'
        cases (hlim.symm.trans hl).symm.trans hL'
        exact hle
  | drop id =>
    simp only [step]
    cases hlk : r.live.lookup id with
    | none => exact ⟨hsum, hlim, hwithin, hunder⟩
    | some rec =>
      dsimp only
      -- the value is live, so its recorded size is part of the total
      have hs : r.st.size = base + liveSum (eraseId id r.live) + rec := by
        rw [hsum, lookup_erase_sum id hlk, Nat.add_comm rec, Nat.add_assoc]
      rcases deallocate_spec r.st rec with ⟨h0, hd⟩ | ⟨h0, hle, hd⟩ | ⟨h0, hle, hd⟩
      · rw [hd]
        exact ⟨by rw [h0] at hs; exact hs, hlim, hwithin, hunder⟩
      · rw [hd]
        have hsz : r.st.size - rec = base + liveSum (eraseId id r.live) := by rw [hs, Nat.add_sub_cancel]
        exact ⟨hsz, hlim, fun L hL => Nat.le_trans (Nat.sub_le _ _) (hwithin L hL), hunder⟩
      · exact absurd (hs ▸ Nat.le_add_left _ _) hle
  | preflight n =>
    simp only [step]
    cases canAllocate r.st n <;> exact ⟨hsum, hlim, hwithin, hunder⟩

theorem run_ind {sh : AllocShape} {P : Run → Prop} (hstep : ∀ r e, P r → P (step sh r e)) :
    ∀ (evs : List Ev) (r : Run), P r → P (run sh r evs)
  | [], _, h => h
  | e :: es, r, h => run_ind hstep es (step sh r e) (hstep r e h)

theorem run_inv (sh : AllocShape) (hsh : sh.rollsBack = true) (base : Nat) (limit : Option Nat)
    (evs : List Ev) (r : Run) : Inv base limit r → Inv base limit (run sh r evs) :=
  run_ind (fun r e h => step_inv sh hsh base limit r h e) evs r

theorem startAt_inv (base : Nat) (limit : Option Nat) (h : ∀ L, limit = some L → base ≤ L) :
    Inv base limit (startAt base limit) :=
  ⟨rfl, rfl, h, rfl⟩

theorem step_viols_mono (sh : AllocShape) (r : Run) (e : Ev) : r.viols ≤ (step sh r e).viols := by
  cases e with
  | alloc id bytes =>
    simp only [step]
    rcases allocate_spec sh r.st bytes with ⟨_, ha⟩ | ⟨L, _, _, ha⟩ | ⟨L, _, _, ha⟩ <;> rw [ha]
    · exact Nat.le_refl _
    · exact Nat.le_succ _
    · exact Nat.le_refl _
  | drop id =>
    simp only [step]
    cases r.live.lookup id with
    | none => exact Nat.le_refl _
    | some rec =>
      dsimp only
      rcases deallocate_spec r.st rec with ⟨_, hd⟩ | ⟨_, _, hd⟩ | ⟨_, _, hd⟩ <;> rw [hd] <;> exact Nat.le_refl _
  | preflight n =>
    simp only [step]
    cases canAllocate r.st n
    · exact Nat.le_refl _
    · exact Nat.le_succ _
    · exact Nat.le_refl _

theorem run_viols_mono (sh : AllocShape) (evs : List Ev) (r : Run) : r.viols ≤ (run sh r evs).viols :=
  run_ind (P := fun r' => r.viols ≤ r'.viols) (fun r' e h => Nat.le_trans h (step_viols_mono sh r' e)) evs r
    (Nat.le_refl _)

def relimit (L' : Nat) (r : Run) : Run := { r with st := { r.st with limit := some L' } }

theorem deallocate_limit (s : St) (x : Option Nat) (rec : Nat) :
    deallocate { s with limit := x } rec = ({ (deallocate s rec).1 with limit := x }, (deallocate s rec).2) := by
  unfold deallocate
  by_cases h0 : rec = 0
  · rw [if_pos h0, if_pos h0]
  · rw [if_neg h0, if_neg h0]
    by_cases hle : rec ≤ s.size
    · rw [if_pos hle, if_pos hle]
    · rw [if_neg hle, if_neg hle]

theorem step_relimit (sh : AllocShape) {L L' : Nat} (hLL : L ≤ L') (r : Run) (hl : r.st.limit = some L)
    (e : Ev) (hv : (step sh r e).viols = r.viols) :
    step sh (relimit L' r) e = relimit L' (step sh r e) ∧ (step sh r e).st.limit = some L := by
  obtain ⟨⟨size, lim⟩, live, viols, under⟩ := r
  cases hl
  cases e with
  | alloc id bytes =>
    by_cases hgt : size + bytes > L
    · have : viols + 1 = viols := by simpa only [step, allocate, if_pos hgt] using hv
      exact absurd this (Nat.succ_ne_self _)
    · have hgt' : ¬ size + bytes > L' := fun h => hgt (Nat.lt_of_le_of_lt hLL h)
      have e0 : allocate sh { size := size, limit := some L } bytes =
          ({ size := size + bytes, limit := some L }, .ok bytes) := if_neg hgt
      have e1 : allocate sh { size := size, limit := some L' } bytes =
          ({ size := size + bytes, limit := some L' }, .ok bytes) := if_neg hgt'
      simp only [step, relimit, e0, e1, and_self]
  | drop id =>
    simp only [step, relimit]
    cases live.lookup id with
    | none => exact ⟨rfl, rfl⟩
    | some rec =>
      simp only [deallocate_limit { size := size, limit := some L } (some L') rec]
      rcases deallocate_spec { size := size, limit := some L } rec with ⟨_, hd⟩ | ⟨_, _, hd⟩ | ⟨_, _, hd⟩ <;>
        rw [hd] <;> exact ⟨rfl, rfl⟩
  | preflight n =>
    by_cases hgt : min (size + n) (usizeBound - 1) > L
    · have : viols + 1 = viols := by simpa only [step, canAllocate, if_pos hgt] using hv
      exact absurd this (Nat.succ_ne_self _)
    · have hgt' : ¬ min (size + n) (usizeBound - 1) > L' := fun h => hgt (Nat.lt_of_le_of_lt hLL h)
      have e0 : canAllocate { size := size, limit := some L } n = .ok 0 := if_neg hgt
      have e1 : canAllocate { size := size, limit := some L' } n = .ok 0 := if_neg hgt'
      simp only [step, relimit, e0, e1, and_self]

theorem run_relimit (sh : AllocShape) {L L' : Nat} (hLL : L ≤ L') :
    ∀ (evs : List Ev) (r : Run), r.st.limit = some L → (run sh r evs).viols = r.viols →
      run sh (relimit L' r) evs = relimit L' (run sh r evs)
  | [], _, _, _ => rfl
  | e :: es, r, hl, hv => by
    -- no event of a passing run raises a violation
    have hstep : (step sh r e).viols = r.viols :=
      Nat.le_antisymm (hv ▸ run_viols_mono sh es (step sh r e)) (step_viols_mono sh r e)
    obtain ⟨hs, hl'⟩ := step_relimit sh hLL r hl e hstep
    show run sh (step sh (relimit L' r) e) es = _
    rw [hs]
    exact run_relimit sh hLL es _ hl' (hv.trans hstep.symm)

end XrayModel.Alloc
