/-
Proofs of the `LazyBigint`-level statements of C14 (the property theorems in `Props/C14.lean` restate them;
they live here so that the helper files for folds and text conversion can use them).
-/
import XrayProofs.LazyInt
import XrayProofs.IntArith
namespace XrayModel.Ops
open XrayModel LB

theorem add_correct (a b : LB) (ha : a.wf) (hb : b.wf) : Correct (LB.add a b) (a.den + b.den) := by
  unfold LB.add
  split
  next h => rw [isShort0_den h, Int.zero_add]; exact correct_self hb
  split
  next h => rw [isShort0_den h, Int.add_zero]; exact correct_self ha
  cases a <;> cases b
  · exact correct_checked _
  · exact Int.add_comm .. ▸ correct_ofInt _
  all_goals exact correct_ofInt _

theorem sub_correct (a b : LB) (ha : a.wf) (hb : b.wf) : Correct (LB.sub a b) (a.den - b.den) := by
  unfold LB.sub
  split
  next h => rw [isShort0_den h, Int.sub_zero]; exact correct_self ha
  cases a <;> cases b
  · exact correct_checked _
  all_goals exact correct_ofInt _

theorem neg_correct (a : LB) (ha : a.wf) : Correct (LB.neg a) (-a.den) := by
  cases a with
  | short s =>
    rw [wf_short] at ha
    simp only [LB.neg, den_short]
    split
    next h => subst h; exact correct_assertLong (by decide)
    next h => exact correct_self ((fits_iff _).mpr (by omega))
  | long b => exact correct_ofInt _

theorem addAssign_correct (a b : LB) (ha : a.wf) (hb : b.wf) :
    Correct (LB.addAssign a b) (a.den + b.den) := by
  unfold LB.addAssign
  split
  next h => rw [h, den_short, Int.add_zero]; exact correct_self ha
  split
  · split
    next h => exact correct_self h
    · exact add_correct _ _ ha hb
  · exact add_correct _ _ ha hb

theorem wf_den_inj (a b : LB) (ha : a.wf) (hb : b.wf) (h : a.den = b.den) : a = b := by
  rw [← ofInt_den_self a ha, h, ofInt_den_self b hb]

theorem eq_iff (a b : LB) (ha : a.wf) (hb : b.wf) : LB.beq a b = true ↔ a.den = b.den := by
  unfold LB.beq
  rw [decide_eq_true_iff]
  exact ⟨congrArg LB.den, wf_den_inj a b ha hb⟩

theorem compare_short_long (s b : Int) (hs : (short s).wf) (hb : (long b).wf) :
    compare s b = (if 0 < b then .lt else .gt) ∧ compare b s = (if 0 < b then .gt else .lt) := by
  rw [wf_short] at hs; rw [wf_long] at hb
  split
  · exact ⟨Int.compare_eq_lt.mpr (by omega), Int.compare_eq_gt.mpr (by omega)⟩
  · exact ⟨Int.compare_eq_gt.mpr (by omega), Int.compare_eq_lt.mpr (by omega)⟩

theorem cmp_spec (a b : LB) (ha : a.wf) (hb : b.wf) : LB.cmp a b = compare a.den b.den := by
  cases a <;> cases b
  · rfl
  · exact (compare_short_long _ _ ha hb).1.symm
  · exact (compare_short_long _ _ hb ha).2.symm
  · rfl

theorem cmp_beq_lt (a b : LB) (ha : a.wf) (hb : b.wf) : (LB.cmp a b == .lt) = decide (a.den < b.den) := by
  rw [cmp_spec a b ha hb, Arith.compare_beq_lt]

theorem cmp_beq_gt (a b : LB) (ha : a.wf) (hb : b.wf) : (LB.cmp a b == .gt) = decide (a.den > b.den) := by
  rw [cmp_spec a b ha hb, Arith.compare_beq_gt]

theorem mul_correct (a b : LB) (ha : a.wf) (hb : b.wf) : Correct (LB.mul a b) (a.den * b.den) := by
  unfold LB.mul
  split
  next h =>
    rcases Bool.or_eq_true _ _ ▸ h with h | h
    · rw [isShort0_den h, Int.zero_mul]; exact correct_self rfl
    · rw [isShort0_den h, Int.mul_zero]; exact correct_self rfl
  cases a <;> cases b
  · exact correct_checked _
  · exact Int.mul_comm .. ▸ correct_ofInt _
  · exact correct_ofInt _
  · exact correct_assertLong ((fits_false_iff _).mpr (Arith.mul_big _ _ ((wf_long _).mp ha) ((wf_long _).mp hb)))

theorem mulAssign_correct (a b : LB) (ha : a.wf) (hb : b.wf) :
    Correct (LB.mulAssign a b) (a.den * b.den) := by
  unfold LB.mulAssign
  split
  next h => rw [h, den_short, Int.mul_one]; exact correct_self ha
  split
  · split
    next h => exact correct_self h
    · exact mul_correct _ _ ha hb
  · exact correct_self ((fits_false_iff _).mpr (Arith.mul_big _ _ ((wf_long _).mp ha) ((wf_long _).mp hb)))
  · exact mul_correct _ _ ha hb

theorem abs_correct (a : LB) (ha : a.wf) : Correct (LB.abs a) (a.den.natAbs : Int) := by
  cases a with
  | short v =>
    rw [wf_short] at ha
    simp only [LB.abs, den_short]
    split
    next h => subst h; exact correct_self (by decide)
    next h => exact correct_self ((fits_iff _).mpr (by omega))
  | long v =>
    rw [wf_long] at ha
    exact correct_assertLong ((fits_false_iff _).mpr (by omega))

theorem signum_spec (a : LB) : (LB.signum a).wf ∧ (LB.signum a).den = a.den.sign := by
  have h : ∀ v : Int, fits v.sign = true := fun v => by rcases v with (_ | _) | _ <;> rfl
  cases a <;> exact ⟨h _, rfl⟩

theorem isShortPM1_den {b : LB} (h : isShortPM1 b = true) : b.den = 1 ∨ b.den = -1 := by
  cases b with
  | short v => simpa [isShortPM1, den_short] using h
  | long v => cases h

theorem rem_correct (a b : LB) (ha : a.wf) (hb : b.wf) (h0 : b.den ≠ 0) :
    Correct (LB.rem a b) (Int.tmod a.den b.den) := by
  unfold LB.rem
  split
  next h => exact absurd (isShort0_den h) h0
  split
  next h => rw [isShort0_den h, Int.zero_tmod]; exact correct_self rfl
  split
  next h =>
    rcases isShortPM1_den h with h | h <;> rw [h]
    · rw [Int.tmod_one]; exact correct_self rfl
    · rw [Arith.tmod_neg_one]; exact correct_self rfl
  cases a <;> cases b
  · exact correct_self ((fits_iff _).mpr (Arith.tmod_fits _ _ ((wf_short _).mp hb) h0))
  all_goals exact correct_ofInt _

/-- an arm guarded by a test that panics -/
theorem correct_guard {c : Prop} [Decidable c] (hc : ¬ c) {e : String} {r : LB.R} {v : Int} (h : Correct r v) :
    Correct (if c then .error e else r) v := by
  rw [if_neg hc]; exact h

/-- the `(Short, Short)` arm of the three divisions, `q` being the quotient in question -/
theorem correct_shortQuot (q : Int → Int → Int) (hq1 : ∀ a, q a (-1) = -a)
    (hqf : ∀ a b, (-9223372036854775808 ≤ a ∧ a ≤ 9223372036854775807) → b ≠ 0 → b ≠ -1 →
      -9223372036854775808 ≤ q a b ∧ q a b ≤ 9223372036854775807)
    (s1 s2 : Int) (h1 : (short s1).wf) (h0 : s2 ≠ 0) (e : String) :
    Correct (if s2 = -1 then LB.neg (short s1) else if s2 = 0 then .error e else .ok (short (q s1 s2))) (q s1 s2) := by
  split
  next h => subst h; rw [hq1]; exact neg_correct _ h1
  next h => exact correct_self ((fits_iff _).mpr (hqf _ _ ((wf_short _).mp h1) h0 h))

theorem div_correct (a b : LB) (ha : a.wf) (hb : b.wf) (h0 : b.den ≠ 0) :
    Correct (LB.div a b) (Int.tdiv a.den b.den) := by
  cases a <;> cases b
  · exact correct_shortQuot Int.tdiv Arith.tdiv_neg_one Arith.tdiv_fits _ _ ha h0 _
  · exact correct_ofInt _
  · exact correct_guard h0 (correct_ofInt _)
  · exact correct_ofInt _

theorem divFloor_correct (a b : LB) (ha : a.wf) (hb : b.wf) (h0 : b.den ≠ 0) :
    Correct (LB.divFloor a b) (Int.fdiv a.den b.den) := by
  cases a <;> cases b
  · exact correct_shortQuot Int.fdiv Arith.fdiv_neg_one Arith.fdiv_fits _ _ ha h0 _
  · exact correct_ofInt _
  · exact correct_guard h0 (correct_ofInt _)
  · exact correct_ofInt _

/-- core has no ceiling quotient on `Int` to name as `div_correct` and `divFloor_correct` name theirs: the quotient
(`LB.cdiv a.den b.den`) is given by what characterises it -/
theorem divCeil_correct (a b : LB) (ha : a.wf) (hb : b.wf) (h0 : b.den ≠ 0) :
    ∃ q, Correct (LB.divCeil a b) q ∧
      ∃ r, a.den = q * b.den - r ∧ (0 < b.den → 0 ≤ r ∧ r < b.den) ∧ (b.den < 0 → b.den < r ∧ r ≤ 0) := by
  refine ⟨LB.cdiv a.den b.den, ?_, Arith.cdiv_char a.den b.den h0⟩
  cases a <;> cases b
  · exact correct_shortQuot LB.cdiv Arith.cdiv_neg_one Arith.cdiv_fits _ _ ha h0 _
  · exact correct_ofInt _
  · exact correct_guard h0 (correct_ofInt _)
  · exact correct_ofInt _

theorem ipow_eq (b : Int) (e : Nat) : LB.ipow b e = b ^ e := by
  unfold LB.ipow
  split
  · subst_vars; split
    · subst_vars; rfl
    · rw [Int.zero_pow (by assumption)]
  · split
    · subst_vars; rw [Int.one_pow]
    · split
      · subst_vars; rw [Arith.neg_one_pow]
      · rfl

theorem lbPow_correct (a b : LB) (ha : a.wf) (hb : b.wf) (hneg : 0 ≤ b.den) :
    Correct (LB.pow a b) (a.den ^ b.den.toNat) := by
  have hn := Int.not_lt.mpr hneg
  cases a <;> cases b <;> simp only [LB.pow, ipow_eq, den_short, den_long] at hn ⊢
  · split
    next h => exact correct_self h.2.2
    · exact correct_ofInt _
  · exact correct_guard hn (correct_ofInt _)
  · exact correct_guard hn (correct_ofInt _)
  · rw [wf_long] at ha hb
    exact correct_guard hn (correct_self ((fits_false_iff _).mpr (Arith.pow_big _ _ (by omega) ha)))

theorem toU64_spec (a : LB) (ha : a.wf) :
    LB.toU64 a = if 0 ≤ a.den ∧ a.den < 18446744073709551616 then some a.den else none := by
  cases a with
  | short v =>
    rw [wf_short] at ha
    show (if 0 ≤ v then some v else none) = if 0 ≤ v ∧ v < 18446744073709551616 then some v else none
    by_cases h : 0 ≤ v
    · rw [if_pos h, if_pos ⟨h, by omega⟩]
    · rw [if_neg h, if_neg (fun h' => h h'.1)]
  | long v => rfl

theorem firstU64Digit_spec (a : LB) (ha : a.wf) :
    (LB.firstU64Digit a).wf ∧ 0 ≤ (LB.firstU64Digit a).den ∧ (LB.firstU64Digit a).den < 18446744073709551616 ∧
    (LB.firstU64Digit a).den =
      (match a with | .short s => s % 18446744073709551616 | .long b => (b.natAbs : Int) % 18446744073709551616) := by
  cases a with
  | short v =>
    rw [wf_short] at ha
    simp only [LB.firstU64Digit, ofInt_wf, ofInt_den, U64_MOD, true_and]
    split <;> omega
  | long v =>
    -- the model writes `Int.emod`; the statement and `omega` know it as `%`
    have e : ∀ x y : Int, Int.emod x y = x % y := fun _ _ => rfl
    simp only [LB.firstU64Digit, ofInt_wf, ofInt_den, U64_MOD, true_and, e]
    refine ⟨by omega, by omega, trivial⟩

/-! ### on canonical representations the operations are the integer operations (rewriting rules for the loops) -/

/-- a refinement statement read on canonical representations is a rewriting rule.  `p` is the side condition on the
second operand (`· ≠ 0` for `rem` and `div`); unification does not find it from `h`, so the caller names it -/
theorem rule {op : LB → LB → LB.R} {f : Int → Int → Int} {p : Int → Prop}
    (h : ∀ a b : LB, a.wf → b.wf → p b.den → Correct (op a b) (f a.den b.den)) (x y : Int) (hy : p y) :
    op (ofInt x) (ofInt y) = .ok (ofInt (f x y)) := by
  simpa only [ofInt_den] using (h _ _ (ofInt_wf x) (ofInt_wf y) (by rwa [ofInt_den])).eq

theorem rule' {op : LB → LB → LB.R} {f : Int → Int → Int}
    (h : ∀ a b : LB, a.wf → b.wf → Correct (op a b) (f a.den b.den)) (x y : Int) :
    op (ofInt x) (ofInt y) = .ok (ofInt (f x y)) :=
  rule (p := fun _ => True) (fun a b ha hb _ => h a b ha hb) x y trivial

theorem add_ofInt (x y : Int) : LB.add (ofInt x) (ofInt y) = .ok (ofInt (x + y)) := rule' add_correct x y
theorem succ_ofInt (x : Int) : LB.add (ofInt x) (short 1) = .ok (ofInt (x + 1)) := add_ofInt x 1
theorem mulAssign_ofInt (x y : Int) : LB.mulAssign (ofInt x) (ofInt y) = .ok (ofInt (x * y)) :=
  rule' mulAssign_correct x y
theorem div_ofInt (x y : Int) (h0 : y ≠ 0) : LB.div (ofInt x) (ofInt y) = .ok (ofInt (x.tdiv y)) :=
  rule (p := (· ≠ 0)) div_correct x y h0

/-! ### the builtin `**` (`int.rs`) past its first two guards -/

theorem pow_builtin (a b : LB) (ha : a.wf) (hb : b.wf) (hneg : 0 ≤ b.den) (h00 : ¬ (a.den = 0 ∧ b.den = 0)) :
    IntB.pow a b =
      if 18446744073709551616 ≤ b.den ∧ (a.den < -1 ∨ 1 < a.den) then .err "exponent too large"
      else .int (ofInt (a.den ^ b.den.toNat)) := by
  have h1 : LB.isNegative b = false := decide_eq_false (Int.not_lt.mpr hneg)
  have h2 : (LB.isZero b && LB.isZero a) = false := by
    rw [← Bool.not_eq_true, Bool.and_eq_true, isZero_iff b hb, isZero_iff a ha]; omega
  have hone : LB.isOne (ofInt a.den.natAbs) = true ↔ (a.den.natAbs : Int) = 1 := by
    rw [isOne_iff _ (ofInt_wf _), ofInt_den]
  simp only [IntB.pow, h1, h2, toU64_spec b hb, (abs_correct a ha).eq, (lbPow_correct a b ha hb hneg).eq,
    Bool.false_eq_true, if_false]
  have hc : (!(LB.isZero a || LB.isOne (ofInt a.den.natAbs))) = true ↔ (a.den < -1 ∨ 1 < a.den) := by
    rw [Bool.not_eq_true', ← Bool.not_eq_true, Bool.or_eq_true, isZero_iff a ha, hone]; omega
  -- `to_u64` fails exactly when the exponent is 2^64 or more
  by_cases hw64 : 0 ≤ b.den ∧ b.den < 18446744073709551616
  · rw [if_pos hw64, if_neg (show ¬ (18446744073709551616 ≤ b.den ∧ (a.den < -1 ∨ 1 < a.den)) by omega)]; rfl
  · rw [if_neg hw64]
    simp only [Option.isNone_none, if_true, hc, show 18446744073709551616 ≤ b.den by omega, true_and]
    rfl

end XrayModel.Ops
