/- consumers of generators and library compositions (include.rs), against the denoted lists (C16) -/
import XrayProofs.GenFrame
namespace XrayModel.Gen

def pureP (q : V → Bool) : P
  | .val v => if q v then .t else .f
  | .err => .err
  | .viol => .viol

theorem notP_pureP (q : V → Bool) : notP (pureP q) = pureP (fun v => !q v) := by
  funext x
  cases x with
  | val v => simp only [notP, pureP]; by_cases h : q v = true <;> simp [h]
  | _ => rfl

theorem lenLoop_den (L : Option Nat) {it} {vs : List V} (h : Den L it (vs.map Item.val)) (k : Nat) :
    ∃ n, lenLoop L n it k = .ok (k + vs.length) := by
  induction it, vs, h using Den.ind_vals generalizing k with
  | done hs => exact ⟨1, by simp [lenLoop, hs]⟩
  | skip hs _ ih => obtain ⟨n, hn⟩ := ih k; exact ⟨n + 1, by simpa [lenLoop, hs] using hn⟩
  | yield hs _ ih =>
    obtain ⟨n, hn⟩ := ih (k + 1)
    exact ⟨n + 1, by simpa [lenLoop, hs, Nat.add_assoc, Nat.add_comm 1] using hn⟩

theorem lastLoop_den (L : Option Nat) {it} {vs : List V} (h : Den L it (vs.map Item.val)) (r : Option V) :
    ∃ n, lastLoop L n it r = (match vs.getLast?.or r with | some v => .ok v | none => .err) := by
  induction it, vs, h using Den.ind_vals generalizing r with
  | done hs => exact ⟨1, by simp only [lastLoop, hs]; cases r <;> rfl⟩
  | skip hs _ ih => obtain ⟨n, hn⟩ := ih r; exact ⟨n + 1, by simpa [lastLoop, hs] using hn⟩
  | @yield _ v _ vs hs _ ih =>
    obtain ⟨n, hn⟩ := ih (some v)
    refine ⟨n + 1, ?_⟩
    simp only [lastLoop, hs, hn, List.getLast?_cons]
    cases vs.getLast? <;> rfl

/-! ### consumers that may stop early: what `n` steps that yield the values `pre` are enough for -/

theorem getLoop_outs (L : Option Nat) (n : Nat) (it : It) (pre : List V) (idx : Nat)
    (ho : outs L n it = pre.map Item.val) :
    getLoop L n it idx = (match pre[idx]? with
      | some v => .ok v
      | none => if (after L n it).isNone then .err else .outOfFuel) := by
  induction n generalizing it pre idx with
  | zero => cases List.map_eq_nil_iff.mp ho.symm; rfl
  | succ n ih =>
    rw [outs] at ho
    rw [getLoop, after]
    cases hs : step L it with
    | done => rw [hs] at ho; cases List.map_eq_nil_iff.mp ho.symm; rfl
    | skip s => rw [hs] at ho; exact ih s pre idx ho
    | «yield» x s =>
      rw [hs] at ho
      cases pre with
      | nil => cases ho
      | cons v vs =>
        obtain ⟨rfl, ho'⟩ := List.cons.inj ho
        cases idx with
        | zero => rfl
        | succ i => exact ih s vs i ho'

theorem nthLoop_outs (L : Option Nat) (q : V → Bool) (n : Nat) (it : It) (pre : List V) (k : Nat)
    (ho : outs L n it = pre.map Item.val) :
    nthLoop L (pureP q) n it k = (match (pre.filter q)[k]? with
      | some v => .ok (some v)
      | none => if (after L n it).isNone then .ok none else .outOfFuel) := by
  induction n generalizing it pre k with
  | zero => cases List.map_eq_nil_iff.mp ho.symm; rfl
  | succ n ih =>
    rw [outs] at ho
    rw [nthLoop, after]
    cases hs : step L it with
    | done => rw [hs] at ho; cases List.map_eq_nil_iff.mp ho.symm; rfl
    | skip s => rw [hs] at ho; exact ih s pre k ho
    | «yield» x s =>
      rw [hs] at ho
      cases pre with
      | nil => cases ho
      | cons v vs =>
        obtain ⟨rfl, ho'⟩ := List.cons.inj ho
        simp only [pureP, List.filter_cons]
        cases hq : q v with
        | false => exact ih s vs k ho'
        | true =>
          cases k with
          | zero => rfl
          | succ j => exact ih s vs j ho'

theorem getLoop_den (L : Option Nat) {it} {vs : List V} (h : Den L it (vs.map Item.val)) (idx : Nat) :
    ∃ n, getLoop L n it idx = (match vs[idx]? with | some v => .ok v | none => .err) := by
  obtain ⟨n, h1, h2⟩ := h
  exact ⟨n, by rw [getLoop_outs L n it vs idx h2, h1]; rfl⟩

theorem nthLoop_den (L : Option Nat) (q : V → Bool) {it} {vs : List V} (h : Den L it (vs.map Item.val)) (k : Nat) :
    ∃ n, nthLoop L (pureP q) n it k = .ok ((vs.filter q)[k]?) := by
  obtain ⟨n, h1, h2⟩ := h
  exact ⟨n, by rw [nthLoop_outs L q n it vs k h2, h1]; cases (vs.filter q)[k]? <;> rfl⟩

/-- the search-permit accounting of `nth`: every inspected element takes a permit of the consumer's budget, so a
search that finds nothing among the first `l` elements ends in the violation -/
theorem nthLoop_permits (L : Option Nat) (k : Nat) : ∀ (j i : Nat),
    nthLoop L (fun _ => .f) (j + 2) (.budget (.count i none) (.left j)) k = .viol := by
  intro j
  induction j with
  | zero => intro i; simp [nthLoop, step, Permits.next]
  | succ j ih =>
    intro i
    rw [nthLoop]
    simp only [step, Permits.next]
    exact ih (i + 1)

/-- `reduce` over an infinite generator never returns a value, whatever the function: this is why `flatten`,
written as `reduce(.., add)`, is not lazy in its outer generator (the known finding) -/
theorem lastLoop_infinite (f : F2) : ∀ (fuel i : Nat) (st : Item) (first : Bool) (r : Option V) (v : V),
    lastLoop none fuel (.budget (.aggregate (.count i none) st f first) .unlimited) r ≠ .ok v := by
  intro fuel
  induction fuel with
  | zero => intro i st first r v; simp [lastLoop]
  | succ n ih =>
    intro i st first r v
    cases first with
    | true =>
      simp only [lastLoop, step, ↓reduceIte, Permits.next]
      cases st with
      | val w => exact ih i _ false _ v
      | _ => simp
    | false =>
      simp only [lastLoop, step, Bool.false_eq_true, ↓reduceIte, Permits.next]
      generalize f st (Item.val (V.int (i : Int))) = res
      cases res with
      | val w => exact ih (i + 1) _ false _ v
      | _ => simp

theorem den_aggregate {L it xs} (f : F2) (st : Item) (h : Den L it xs) :
    Den L (.aggregate it st f true) (st :: scanItems f st xs) := by
  obtain ⟨n, h1, h2⟩ := h
  refine ⟨n + 1, ?_, by rw [outs_aggregate_first, h2]⟩
  rw [after, step_aggregate_first]
  exact (frame_aggregate L f).after_none (fun _ => rfl) h1 st

def pureF2 (h : V → V → V) : F2
  | .val a, .val b => .val (h a b)
  | .viol, _ => .viol
  | _, .viol => .viol
  | _, _ => .err

def scanV (h : V → V → V) : V → List V → List V
  | _, [] => []
  | a, v :: vs => h a v :: scanV h (h a v) vs

theorem scanItems_pure (h : V → V → V) (vs : List V) (a : V) :
    scanItems (pureF2 h) (.val a) (vs.map Item.val) = (scanV h a vs).map Item.val := by
  induction vs generalizing a with
  | nil => rfl
  | cons v vs ih => simp [scanItems, pureF2, scanV, ih]

theorem scanV_length (h : V → V → V) (vs : List V) (a : V) : (scanV h a vs).length = vs.length := by
  induction vs generalizing a with
  | nil => rfl
  | cons v vs ih => simp [scanV, ih]

theorem scanV_last (h : V → V → V) (vs : List V) (a : V) :
    (a :: scanV h a vs).getLast? = some (vs.foldl h a) := by
  induction vs generalizing a with
  | nil => rfl
  | cons v vs ih => rw [scanV, List.getLast?_cons_cons]; exact ih (h a v)

/-- what `distinct` keeps: the elements that match no key kept before -/
def dedupBy (eq : V → V → Bool) : List V → List V → List V
  | _, [] => []
  | keys, v :: vs =>
    if keys.any (fun k => eq k v) then dedupBy eq keys vs else v :: dedupBy eq (keys ++ [v]) vs

theorem bump_spec (eq : V → V → Bool) (v : V) : ∀ (seen : List (V × Nat)), (∀ e ∈ seen, e.2 ≥ 1) →
    ((bump eq v seen).1 = 1 ↔ (seen.map Prod.fst).any (fun k => eq k v) = false) ∧
    ((bump eq v seen).2.map Prod.fst =
      if (seen.map Prod.fst).any (fun k => eq k v) then seen.map Prod.fst else seen.map Prod.fst ++ [v]) ∧
    (∀ e ∈ (bump eq v seen).2, e.2 ≥ 1) := by
  intro seen
  induction seen with
  | nil => intro _; simp [bump]
  | cons e rest ih =>
    intro hpos
    obtain ⟨k, n⟩ := e
    have hn : n ≥ 1 := hpos (k, n) (by simp)
    have ih' := ih (fun e he => hpos e (by simp [he]))
    simp only [bump]
    by_cases hk : eq k v = true
    · simp only [hk, ↓reduceIte, List.map_cons, List.any_cons, Bool.true_or]
      refine ⟨by simp; omega, by simp, ?_⟩
      intro e he
      simp only [List.mem_cons] at he
      rcases he with rfl | he
      · simp
      · exact hpos e (by simp [he])
    · simp only [hk, Bool.false_eq_true, ↓reduceIte, List.map_cons, List.any_cons, Bool.false_or]
      refine ⟨ih'.1, ?_, ?_⟩
      · rw [ih'.2.1]; split <;> simp
      · intro e he
        simp only [List.mem_cons] at he
        rcases he with rfl | he
        · exact hn
        · exact ih'.2.2 e he

def firstP : P := fun | .val (.tup [_, .int n]) => if n == 1 then .t else .f | .viol => .viol | _ => .err
def projF : F := fun | .val (.tup [v, _]) => .val v | .viol => .viol | _ => .err

/-- what the filter and the projection of `distinct` make of an element counted `c` times -/
theorem filt_firstP (v : V) (c : Nat) :
    (filt firstP (.val (.tup [v, .int c]))).map (mapItem projF) = if c = 1 then some (.val v) else none := by
  by_cases h : c = 1
  · simp [filt, firstP, mapItem, projF, h]
  · have : ((c : Int) == 1) = false := by simp only [beq_eq_false_iff_ne, ne_eq]; omega
    simp [filt, firstP, h, this]

theorem distinct_list (eq : V → V → Bool) (vs : List V) (seen : List (V × Nat)) (hpos : ∀ e ∈ seen, e.2 ≥ 1) :
    ((wcItems eq seen (vs.map Item.val)).filterMap (filt firstP)).map (mapItem projF) =
      (dedupBy eq (seen.map Prod.fst) vs).map Item.val := by
  induction vs generalizing seen with
  | nil => rfl
  | cons v vs ih =>
    obtain ⟨h1, h2, h3⟩ := bump_spec eq v seen hpos
    have ih := ih _ h3
    rw [h2] at ih
    have hf := filt_firstP v (bump eq v seen).1
    simp only [List.map_cons, wcItems, List.filterMap_cons, dedupBy]
    by_cases hany : (seen.map Prod.fst).any (fun k => eq k v) = true
    · have hne : (bump eq v seen).1 ≠ 1 := fun h => by simp [h1.mp h] at hany
      rw [if_neg hne, Option.map_eq_none_iff] at hf
      simp only [hf, hany, ↓reduceIte] at ih ⊢
      exact ih
    · have hany' : (seen.map Prod.fst).any (fun k => eq k v) = false := by simpa using hany
      rw [if_pos (h1.mpr hany')] at hf
      obtain ⟨y, hy, e⟩ := Option.map_eq_some_iff.mp hf
      simp only [hany', Bool.false_eq_true, ↓reduceIte] at ih ⊢
      rw [hy, List.map_cons, e, ih, List.map_cons]

/-! ### `flatten`: a left fold of `add` -/

theorem flattenAll_parts : ∀ (gs : List G) (acc : G),
    (gs.foldl G.mkChain acc).parts = acc.parts ++ gs.flatMap G.parts := by
  intro gs
  induction gs with
  | nil => intro acc; simp
  | cons g gs ih =>
    intro acc
    rw [List.foldl_cons, ih, mkChain_parts]
    simp [G.parts, List.append_assoc]

theorem denParts_flatMap (L : Option Nat) : ∀ (gs : List G) (xss : List (List Item)),
    List.length gs = List.length xss → (∀ i (h : i < gs.length) (h' : i < xss.length), DenParts L gs[i].parts xss[i]) →
    DenParts L (gs.flatMap G.parts) xss.flatten := by
  intro gs
  induction gs with
  | nil => intro xss hl _; cases xss with | nil => exact DenParts.nil | cons _ _ => simp at hl
  | cons g gs ih =>
    intro xss hl h
    cases xss with
    | nil => simp at hl
    | cons xs xss =>
      simp only [List.flatMap_cons, List.flatten_cons]
      refine denParts_append (h 0 (by simp) (by simp)) (ih xss (by simpa using hl) ?_)
      intro i hi hi'
      have := h (i + 1) (by simp; omega) (by simp; omega)
      simpa using this

theorem den_of_parts {L} {g : G} {xs} (h : DenParts L g.parts xs) : Den L (g.start L) xs := by
  unfold G.parts at h
  split at h
  · exact den_chain_parts h (den_arr L [])
  · obtain _ | ⟨hg, hr⟩ := h
    cases hr
    rwa [List.append_nil]

end XrayModel.Gen
