/-
The `digits` loop of `int.rs` (`IntB.digitsLoop`): the fuel `|n| + 1` suffices, and the digit list obeys an induction
principle (`digits_ind`): a relation between `n` and its digits that holds of `0` and `[]`, and of `n` and
`n tmod b :: ds` whenever it holds of `n tdiv b` and `ds`, holds of `n` and `digits(n, b)`.  C14 (Horner value, sign
of the digits) and C20 (no leading zero, length) are instances.
-/
import XrayProofs.LazyIntOps
namespace XrayModel.Digits
open XrayModel LB

def horner (b : Int) (ds : List Int) : Int := ds.foldr (fun d acc => d + b * acc) 0

theorem horner_step (b n : Int) (ds : List LB) (h : horner b (ds.map LB.den) = n.tdiv b) :
    horner b ((ofInt (n.tmod b) :: ds).map LB.den) = n := by
  have := Int.mul_tdiv_add_tmod n b
  simp only [List.map_cons, horner, List.foldr_cons, ofInt_den] at h ⊢
  rw [h]; omega

theorem loop_ind (b : Int) (hb : 2 ≤ b) (P : Int → List LB → Prop) (h0 : P 0 [])
    (hstep : ∀ n ds, n ≠ 0 → P (n.tdiv b) ds → P n (ofInt (n.tmod b) :: ds)) :
    ∀ (fuel : Nat) (n : Int) (acc : List LB), n.natAbs < fuel →
      ∃ ds, IntB.digitsLoop fuel (ofInt n) (ofInt b) acc = some (.ok (acc.reverse ++ ds)) ∧ P n ds := by
  intro fuel
  induction fuel with
  | zero => intro n acc h; omega
  | succ fuel ih =>
    intro n acc hf
    unfold IntB.digitsLoop
    by_cases hz : n = 0
    · rw [if_pos ((isZero_iff _ (ofInt_wf n)).mpr (by rw [ofInt_den]; exact hz))]
      exact ⟨[], by rw [List.append_nil], hz ▸ h0⟩
    · rw [if_neg (fun h => hz (by rw [← ofInt_den n]; exact (isZero_iff _ (ofInt_wf n)).mp h)),
        Ops.rule (p := (· ≠ 0)) Ops.rem_correct _ _ (by omega), Ops.div_ofInt _ _ (by omega)]
      obtain ⟨ds, hl, hp⟩ := ih (n.tdiv b) (ofInt (n.tmod b) :: acc) (by have := Arith.tdiv_bound2 n b (by omega); omega)
      exact ⟨_ :: ds, by simp only [hl, List.reverse_cons, List.append_assoc, List.singleton_append], hstep n ds hz hp⟩

theorem digits_ind (n b : LB) (hn : n.wf) (hb : b.wf) (hb2 : 2 ≤ b.den) (P : Int → List LB → Prop) (h0 : P 0 [])
    (hstep : ∀ n ds, n ≠ 0 → P (n.tdiv b.den) ds → P n (ofInt (n.tmod b.den) :: ds)) :
    ∃ ds, IntB.digits n b = .ints ds ∧ P n.den ds := by
  unfold IntB.digits
  have h1 : (LB.cmp b (short 2) == .lt) = false := by
    rw [Ops.cmp_beq_lt b (short 2) hb (by decide), den_short]
    exact decide_eq_false (by omega)
  obtain ⟨ds, hl, hp⟩ := loop_ind b.den hb2 P h0 hstep (n.den.natAbs + 1) n.den [] (by omega)
  rw [ofInt_den_self n hn, ofInt_den_self b hb] at hl
  rw [h1, hl]
  exact ⟨ds, rfl, hp⟩

end XrayModel.Digits
