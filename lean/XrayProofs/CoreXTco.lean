/-
Tail requests of the extended evaluator (XrayModel/CoreX.lean) do not leave the trampoline.  `Res.tail` is
built in one place only, the self-call arm of `eval`, under the guard `tail && cfg.tco`.  `callNamed` and
`builtin` hand their flag on to `eval`, so these three return no tail request when the guard is false
(the first three fields of `NoTailAt`).  Every other function evaluates its sub-expressions with the flag
off and turns a `.tail` outcome into `stuck "tail escaped"`; `tramp`, which runs the body with the flag on,
takes the request for itself.  These seven never return one, whatever the flag (the other fields).
-/
import XrayProofs.CoreXMono
namespace XrayModel.CoreX

def Res.isTail : Res → Bool
  | .tail _ => true
  | _ => false

@[simp] theorem Res.isTail_val (v) : (Res.val v).isTail = false := rfl
@[simp] theorem Res.isTail_viol (v) : (Res.viol v).isTail = false := rfl
@[simp] theorem Res.isTail_stuck (v) : (Res.stuck v).isTail = false := rfl
@[simp] theorem Res.isTail_oof : Res.oof.isTail = false := rfl
@[simp] theorem Res.isTail_tail (v) : (Res.tail v).isTail = true := rfl

def exNoTail {α : Type} : Except Res α → Prop
  | .ok _ => True
  | .error r => r.isTail = false

structure NoTailAt (n : Nat) (cfg : Cfg) : Prop where
  eval : ∀ fr e tail st, (tail && cfg.tco) = false → (eval n cfg fr e tail st).1.isTail = false
  callNamed : ∀ fr f args tail st, (tail && cfg.tco) = false → (callNamed n cfg fr f args tail st).1.isTail = false
  builtin : ∀ fr f args tail st, (tail && cfg.tco) = false → (builtin n cfg fr f args tail st).1.isTail = false
  callVal : ∀ fr c args tail st, (callVal n cfg fr c args tail st).1.isTail = false
  evalList : ∀ fr es st, exNoTail (evalList n cfg fr es st).1
  mkClos : ∀ fr f st, (mkClos n cfg fr f st).1.isTail = false
  evalDflts : ∀ fr ps st, exNoTail (evalDflts n cfg fr ps st).1
  callUser : ∀ h c args st, (callUser n cfg h c args st).1.isTail = false
  tramp : ∀ h c args rec st, (tramp n cfg h c args rec st).1.isTail = false
  evalDecls : ∀ fr ds st, exNoTail (evalDecls n cfg fr ds st).1


theorem Res.isTail_false_iff (r : Res) : r.isTail = false ↔ ∀ a, r ≠ .tail a := by
  cases r <;> simp

/-- the form in which `split` leaves the fact in the catch-all arm under a `.tail` arm -/
theorem isTail_false_of {x : Res × St} (h : ∀ a s, x = (Res.tail a, s) → False) : x.1.isTail = false :=
  (Res.isTail_false_iff _).mpr fun a e => h a x.2 (Prod.ext e rfl)

theorem exNoTail_of {α} {x : Except Res α × St} (h : ∀ a s, x = (.error (Res.tail a), s) → False) : exNoTail x.1 := by
  obtain ⟨r, s⟩ := x
  cases r with
  | ok _ => trivial
  | error r => exact isTail_false_of (x := (r, s)) fun a s' e => h a s' (by cases e; rfl)

theorem isTail_of_eq {x : Res × St} {r s} (hx : x.1.isTail = false) (h : x = (r, s)) : r.isTail = false := by
  subst h; exact hx

theorem exNoTail_error {α} {x : Except Res α × St} {r s} (hx : exNoTail x.1) (h : x = (.error r, s)) :
    r.isTail = false := by
  subst h; exact hx

theorem ite_noTail {c : Prop} [Decidable c] {a b : Res × St} (ha : a.1.isTail = false)
    (hb : b.1.isTail = false) : (if c then a else b).1.isTail = false := by
  split <;> assumption

theorem prim_isTail (f : String) (vs : List Val) : (prim f vs).isTail = false := by
  rcases prim_val_or_stuck f vs with ⟨v, h⟩ | ⟨w, h⟩ <;> rw [h] <;> rfl

theorem noTailAt (cfg : Cfg) (n : Nat) : NoTailAt n cfg := by
  induction n with
  | zero => constructor <;> intros <;> first | rfl | trivial
  | succ n ih =>
    have sub : ∀ fr e st, (eval n cfg fr e false st).1.isTail = false := fun fr e st => ih.eval fr e false st rfl
    constructor
    case eval =>
      intro fr e tail st ht
      cases e with
      | int | bool | str => rfl
      | var x => rw [eval]; split <;> rfl
      | tup es | arr es =>
        rw [eval]
        split
        · rfl
        · exact exNoTail_error (ih.evalList _ _ _) ‹_›
      | lam f => exact ih.mkClos _ _ _
      | item e _ | variant _ e | memberValue e _ | memberOpt e _ =>
        -- a constructor other than `.tail`, or the outcome of `e` handed on
        rw [eval]
        repeat' split
        all_goals first | rfl | exact sub fr e st
      | callE fe args =>
        rw [eval]
        split
        · rfl
        · exact ih.callVal _ _ _ _ _
        · rfl
        · exact sub fr fe st
      | call f args =>
        rw [eval]
        split
        · split
          · split
            · -- the arm that builds `.tail`: its guard contradicts `ht`
              exact absurd (ht.symm.trans ‹_›) Bool.false_ne_true
            · exact ih.callVal _ _ _ _ _
          · exact ih.callNamed _ _ _ _ _ ht
        · exact ih.callNamed _ _ _ _ _ ht
    case callNamed =>
      intro fr f args tail st ht
      rw [callNamed]
      split
      · exact ih.callVal _ _ _ _ _
      · exact ih.builtin _ _ _ _ _ ht
    case builtin =>
      intro fr f args tail st ht
      rcases builtin_shape f args with ⟨c, a, b, rfl, rfl⟩ | ⟨a, b, rfl, rfl⟩ | ⟨a, b, rfl, rfl⟩ | ⟨a, b, rfl, rfl⟩ |
        ⟨a, rfl, rfl⟩ | ⟨a, rfl, rfl⟩ | ⟨o, g, d, rfl, rfl⟩ | hd
      rotate_right
      · rw [hd, strictCall]
        split
        · split
          · exact prim_isTail _ _
          · exact exNoTail_error (ih.evalList _ _ _) ‹_›
        · rfl
      -- the seven lazy natives evaluate their first argument (and `map_or` its function) with the flag off
      all_goals
        rw [builtin]
        repeat' split
      all_goals first
        | rfl                           -- a constructor other than `.tail`
        | exact ih.eval _ _ _ _ ht      -- the selected argument, with the caller's flag
        | exact sub _ _ _               -- the outcome of the flag-off evaluation handed on
        | exact ih.callUser _ _ _ _     -- `map_or` calling its function
    case callVal =>
      intro fr c args tail st
      cases c
      case clos f d env =>
        rw [callVal]
        split
        · exact ih.callUser _ _ _ _
        · exact exNoTail_error (ih.evalList _ _ _) ‹_›
      all_goals rfl
    case evalList =>
      intro fr es st
      cases es with
      | nil => trivial
      | cons e rest =>
        rw [evalList]
        split
        · trivial
        · split
          · trivial
          · exact ih.evalList _ _ _
        · trivial
        · exact isTail_of_eq (sub fr e st) ‹_›
    case mkClos =>
      intro fr f st
      rw [mkClos]
      split
      · rfl
      · exact exNoTail_error (ih.evalDflts _ _ _) ‹_›
    case evalDflts =>
      intro fr ps st
      cases ps with
      | nil => trivial
      | cons p rest =>
        rw [evalDflts]
        split
        · exact ih.evalDflts _ _ _
        · split
          · split
            · trivial
            · exact ih.evalDflts _ _ _
          · trivial
          · exact isTail_of_eq (sub fr _ st) ‹_›
    case callUser =>
      intro h c args st
      simp only [callUser]
      split
      · rfl
      split
      · exact ite_noTail rfl (ih.tramp _ _ _ _ _)
      · exact ih.tramp _ _ _ _ _
    case tramp =>
      intro h c args rec st
      cases c
      case clos f d env =>
        simp only [tramp]
        refine ite_noTail rfl ?_
        split
        · rfl
        split
        · exact exNoTail_error (ih.evalDecls _ _ _) ‹_›
        -- the body runs with the flag on; the loop takes a `.tail` outcome for itself and hands on the others
        split
        · exact ite_noTail rfl (ih.tramp _ _ _ _ _)
        · exact isTail_false_of ‹_›
      all_goals rfl
    case evalDecls =>
      intro fr ds st
      rcases ds with _ | ⟨_ | _, rest⟩
      · trivial
      · rw [evalDecls]
        split
        · exact ih.evalDecls _ _ _
        · trivial
        · exact isTail_of_eq (sub fr _ st) ‹_›
      · rw [evalDecls]
        repeat' split
        all_goals first
          | trivial
          | exact ih.evalDecls _ _ _
          | exact isTail_of_eq (ih.mkClos _ _ _) ‹_›

end XrayModel.CoreX
