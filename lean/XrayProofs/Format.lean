/-
C19 — helper lemmas about the format-specifier model (`XrayModel/Format.lean`).
-/
import XrayModel.Format
-- with this import `^` on `Int` in the statements of `Props/C19.lean` is the monoid power
import Mathlib.Algebra.Group.Int.Defs
namespace XrayModel.Format
open List

theorem fillers_cases (f : FillSpecs) (len : Nat) (hw : ¬ f.width < len) :
    let ch := f.filler.getD (if f.zeroPad then '0' else ' ')
    let al := f.alignment.getD (if f.zeroPad then '=' else '>')
    let pad := f.width - len
    al = '<' ∧ fillers f len = ([], [], rep ch pad) ∨
    al = '>' ∧ fillers f len = (rep ch pad, [], []) ∨
    al = '=' ∧ fillers f len = ([], rep ch pad, []) ∨
    (al ≠ '<' ∧ al ≠ '>' ∧ al ≠ '=') ∧ fillers f len = (rep ch (pad / 2), [], rep ch (pad - pad / 2)) := by
  simp only [fillers, if_neg hw, beq_iff_eq]
  generalize f.alignment.getD (if f.zeroPad then '=' else '>') = al
  by_cases h1 : al = '<'
  · exact .inl ⟨h1, if_pos h1⟩
  rw [if_neg h1]
  by_cases h2 : al = '>'
  · exact .inr (.inl ⟨h2, if_pos h2⟩)
  rw [if_neg h2]
  by_cases h3 : al = '='
  · exact .inr (.inr (.inl ⟨h3, if_pos h3⟩))
  · exact .inr (.inr (.inr ⟨⟨h1, h2, h3⟩, if_neg h3⟩))

theorem fillers_spec (f : FillSpecs) (len : Nat) :
    let ch := f.filler.getD (if f.zeroPad then '0' else ' ')
    let al := f.alignment.getD (if f.zeroPad then '=' else '>')
    let p := fillers f len
    p.1.length + p.2.1.length + p.2.2.length = f.width - len ∧
    (∀ c ∈ p.1 ++ p.2.1 ++ p.2.2, c = ch) ∧
    (al = '<' → p.1 = [] ∧ p.2.1 = []) ∧
    (al = '>' → p.2.1 = [] ∧ p.2.2 = []) ∧
    (al = '=' → p.1 = [] ∧ p.2.2 = []) ∧
    (al = '^' → p.2.1 = [] ∧ p.1.length = (f.width - len) / 2 ∧
      p.2.2.length = (f.width - len) - (f.width - len) / 2) := by
  intro ch al p
  by_cases hw : f.width < len
  · have : p = ([], [], []) := by simp only [p, fillers, if_pos hw]
    simp [this]; omega
  · rcases fillers_cases f len hw with ⟨ha, hp⟩ | ⟨ha, hp⟩ | ⟨ha, hp⟩ | ⟨ha, hp⟩
    all_goals simp only [p, al, ch, hp, ha]; simp [rep]
    omega

theorem groupRev_filter (g : Char) (l : List Char) (h : ∀ c ∈ l, c ≠ g) :
    (groupRev g l).filter (· != g) = l := by
  fun_induction groupRev g l with
  | case1 a b c d rest ih =>
    simp only [forall_mem_cons] at h
    simp only [filter_cons, bne_iff_ne, ne_eq, h.1, h.2.1, h.2.2.1, not_false_eq_true, ite_true,
      bne_self_eq_false, Bool.false_eq_true, ite_false, ih (forall_mem_cons.mpr h.2.2.2)]
  | case2 l hl => exact filter_eq_self.mpr fun c hc => by simpa using h c hc

theorem groupRev_length (g : Char) (l : List Char) :
    (groupRev g l).length = l.length + (l.length - 1) / 3 := by
  fun_induction groupRev g l with
  | case1 a b c d rest ih => simp only [length_cons] at ih ⊢; omega
  | case2 l hl =>
    match l, hl with
    | [], _ | [_], _ | [_, _], _ | [_, _, _], _ => simp
    | a :: b :: c :: d :: rest, hl => exact absurd rfl (hl a b c d rest)

theorem fillers_infix_nil (f : FillSpecs) (len : Nat)
    (h : ¬ (f.alignment = some '=' ∨ (f.alignment = none ∧ f.zeroPad = true))) :
    (fillers f len).2.1 = [] := by
  by_cases hw : f.width < len
  · simp only [fillers, if_pos hw]
  · rcases fillers_cases f len hw with ⟨_, hp⟩ | ⟨_, hp⟩ | ⟨ha, _⟩ | ⟨_, hp⟩
    any_goals rw [hp]
    -- the alignment is `=` only if asked for, or by default under zero padding
    refine absurd ?_ h
    cases hal : f.alignment with
    | some a => rw [hal] at ha; exact .inl (congrArg some ha)
    | none => rw [hal] at ha; cases hz : f.zeroPad <;> simp_all

/-- `formatStr` refuses, or answers the text between its prefix and postfix pads: the infix pad is empty
whenever it gets as far as the `assert!(infix.is_empty())` -/
theorem formatStr_cases (s spec : List Char) :
    (∃ msg, formatStr s spec = .err msg) ∨
    ∃ sp, parseSpec spec = some sp ∧ formatStr s spec = .ok (match sp.fill with
      | none => s
      | some f => (fillers f s.length).1 ++ s ++ (fillers f s.length).2.2) := by
  unfold formatStr
  cases parseSpec spec with
  | none => exact .inl ⟨_, rfl⟩
  | some sp =>
    simp only
    by_cases h1 : sp.precision.isSome = true; · exact .inl ⟨_, if_pos h1⟩
    rw [if_neg h1]
    by_cases h2 : (sp.mode.isSome || sp.alt) = true; · exact .inl ⟨_, if_pos h2⟩
    rw [if_neg h2]
    by_cases h3 : sp.grouping.isSome = true; · exact .inl ⟨_, if_pos h3⟩
    rw [if_neg h3]
    by_cases h4 : sp.sign.isSome = true; · exact .inl ⟨_, if_pos h4⟩
    rw [if_neg h4]
    cases hf : sp.fill with
    | none => exact .inr ⟨sp, rfl, by rw [hf]⟩
    | some f =>
      simp only
      by_cases h5 : (f.alignment == some '=' || f.alignment == none && f.zeroPad) = true
      · exact .inl ⟨_, if_pos h5⟩
      · rw [if_neg h5]
        have : (fillers f s.length).2.1 = [] :=
          fillers_infix_nil f s.length (by simpa [Bool.or_eq_true, Bool.and_eq_true] using h5)
        exact .inr ⟨sp, rfl, by simp [this, hf]⟩

end XrayModel.Format
