/-
C19 — helper lemmas about the sort model (`XrayModel/Sort.lean`).

Whatever the comparator does: `Good lt n P xs r` — the outcome `r` of a routine that was started with
comparison counter `n` on a slice holding `xs` (a) is not a panic, (b) holds a permutation of `xs` — in
the result on success, in the buffer left behind on failure —, (c) has used exactly the comparison
indices `n .. n'-1`, each of which answered, except that on failure the last one (`n'-1`) is the one
that failed with the reported error.  `try_sort` is `Good`; the index-based routines (`TryHeap`,
`quickselect`) conserve the array (`Conserves`), and `quickselect` keeps its indices inside it.
Each of these says what holds of an `ok`, of a failure and of a panic: one predicate, `Tri`, whose
rules for `bind` and `map` carry all of them through the code.

With a pure comparator: `try_sort` delivers the stable sort — sorted, and `Tied` to the input (every
class of tied elements in its input order), which determines the result —, `quickselect` the element
of the rank asked for, and the heap routines keep the heap property (a hole travels through an
otherwise intact heap).
-/
import XrayModel.Sort
import Mathlib.Data.List.Perm.Basic

namespace XrayModel.Sort
open List

variable {ε α β γ : Type}

/-- what an outcome satisfies: `Q` of an `ok` payload and counter, `F` of a failure, `Pn` of a panic.
`Good` and `Sat` below are instances, and `Conserves` and `Select.PureSat`, each a match of this shape,
unfold to one: the rules that follow serve them all, and a routine that is the one can be continued
(`Tri.bind`) by a routine that is another.  (`Select.Post` and `Heap.PopPost` fix the payload type, so
their match is compiled apart and the elaborator does not see them as instances.) -/
def Tri (Q : β → Nat → Prop) (F : ε → List α → Nat → Prop) (Pn : Prop) : Res ε α β → Prop
  | .ok v n => Q v n
  | .fail e b n => F e b n
  | .panic => Pn

section tri
variable {Q Q' : β → Nat → Prop} {F F' : ε → List α → Nat → Prop} {Pn Pn' : Prop} {r : Res ε α β}

theorem Tri.mono (h : Tri Q F Pn r) (hq : ∀ v n, Q v n → Q' v n) (hf : ∀ e b n, F e b n → F' e b n)
    (hp : Pn → Pn') : Tri Q' F' Pn' r := by
  cases r with
  | ok v n => exact hq v n h
  | fail e b n => exact hf e b n h
  | panic => exact hp h

theorem Tri.post (h : Tri Q F Pn r) (hq : ∀ v n, Q v n → Q' v n) : Tri Q' F Pn r :=
  h.mono hq (fun _ _ _ => id) id

/-- a second fact about the same outcome adds to what is known of an `ok` payload -/
theorem Tri.and (h : Tri Q F Pn r) (h' : Tri Q' F' Pn' r) : Tri (fun v n => Q v n ∧ Q' v n) F Pn r := by
  cases r with
  | ok v n => exact ⟨h, h'⟩
  | fail e b n => exact h
  | panic => exact h

theorem Tri.bind {R : γ → Nat → Prop} {f : β → Nat → Res ε α γ} (h : Tri Q F Pn r)
    (hf : ∀ v n, Q v n → Tri R F Pn (f v n)) : Tri R F Pn (r.bind f) := by
  cases r with
  | ok v n => exact hf v n h
  | fail e b n => exact h
  | panic => exact h

theorem Tri.map {R : γ → Nat → Prop} {g : β → γ} (h : Tri (fun v => R (g v)) F Pn r) :
    Tri R F Pn (r.map g) := by
  cases r <;> exact h

end tri

theorem Res.bind_eq_ok {r : Res ε α β} {f : β → Nat → Res ε α γ} {w : γ} {m : Nat}
    (h : r.bind f = .ok w m) : ∃ v n, r = .ok v n ∧ f v n = .ok w m := by
  cases r with
  | ok v n => exact ⟨v, n, rfl, h⟩
  | fail e b n => cases h
  | panic => cases h

theorem Res.failCtx_eq_ok {r : Res ε α β} {pre post : List α} {w : β} {m : Nat}
    (h : r.failCtx pre post = .ok w m) : r = .ok w m := by
  cases r <;> first | exact h | cases h

theorem Res.failCtx_bind_eq_ok {r : Res ε α β} {pre post : List α} {f : β → Nat → Res ε α γ} {w : γ}
    {m : Nat} (h : (r.failCtx pre post).bind f = .ok w m) : ∃ v n, r = .ok v n ∧ f v n = .ok w m :=
  let ⟨v, n, e, hf⟩ := Res.bind_eq_ok h; ⟨v, n, Res.failCtx_eq_ok e, hf⟩

/-- (the routines only ever put single elements in front of a slice they work on) -/
theorem Res.ctx_eq_ok {x : LRes ε α} {a : α} {l : List α} {m : Nat}
    (h : x.ctx [a] [] = .ok l m) : ∃ l', x = .ok l' m ∧ l = a :: l' := by
  cases x with
  | ok v n => cases h; exact ⟨v, rfl, by simp⟩
  | fail e b n => cases h
  | panic => cases h

theorem Res.map_eq_ok {x : Res ε α β} {g : β → γ} {w : γ} {m : Nat}
    (h : x.map g = .ok w m) : ∃ v, x = .ok v m ∧ w = g v := by
  cases x with
  | ok v n => cases h; exact ⟨v, rfl, rfl⟩
  | fail e b n => cases h
  | panic => cases h

theorem Res.mapAll_eq_ok {x : LRes ε α} {g : List α → List α} {w : List α} {m : Nat}
    (h : x.mapAll g = .ok w m) : ∃ v, x = .ok v m ∧ w = g v := by
  cases x with
  | ok v n => cases h; exact ⟨v, rfl, rfl⟩
  | fail e b n => cases h
  | panic => cases h

def Answered (lt : Cmp ε α) (n n' : Nat) : Prop :=
  ∀ i, n ≤ i → i < n' → ∃ a b r, lt i a b = .ok r

theorem Answered.refl (lt : Cmp ε α) (n : Nat) : Answered lt n n := by
  intro i h1 h2; omega

theorem Answered.trans {lt : Cmp ε α} {a b c : Nat} (h1 : Answered lt a b) (h2 : Answered lt b c) :
    Answered lt a c := by
  intro i hi1 hi2
  by_cases h : i < b
  · exact h1 i hi1 h
  · exact h2 i (by omega) hi2

theorem Answered.step {lt : Cmp ε α} {n : Nat} {a b : α} {r : Bool} (h : lt n a b = .ok r) :
    Answered lt n (n + 1) := by
  intro i h1 h2
  obtain rfl : i = n := by omega
  exact ⟨a, b, r, h⟩

/-- (a)–(c) of the file head; `P` reads the slice off an `ok` payload -/
def Good (lt : Cmp ε α) (n : Nat) (P : β → List α) (xs : List α) : Res ε α β → Prop :=
  Tri (fun v n' => (P v).Perm xs ∧ n ≤ n' ∧ Answered lt n n')
    (fun e buf n' => buf.Perm xs ∧ n < n' ∧ Answered lt n (n' - 1) ∧ ∃ a b, lt (n' - 1) a b = .error e)
    False

section good
variable {lt : Cmp ε α} {n : Nat} {P : β → List α} {xs ys : List α}

theorem Good.perm {r : Res ε α β} (h : Good lt n P xs r) (hp : xs.Perm ys) : Good lt n P ys r := by
  cases r with
  | ok v n' => exact ⟨h.1.trans hp, h.2⟩
  | fail e b n' => exact ⟨h.1.trans hp, h.2⟩
  | panic => exact h

theorem Good.failCtx {r : Res ε α β} (pre post : List α) (h : Good lt n P xs r) :
    Good lt n (fun v => pre ++ P v ++ post) (pre ++ xs ++ post) (r.failCtx pre post) := by
  cases r with
  | ok v n' => exact ⟨(h.1.append_left pre).append_right post, h.2⟩
  | fail e b n' => exact ⟨(h.1.append_left pre).append_right post, h.2⟩
  | panic => exact h

theorem Good.ctx {r : LRes ε α} (pre post : List α) (h : Good lt n id xs r) :
    Good lt n id (pre ++ xs ++ post) (r.ctx pre post) := by
  cases r with
  | ok v n' => exact ⟨(h.1.append_left pre).append_right post, h.2⟩
  | fail e b n' => exact ⟨(h.1.append_left pre).append_right post, h.2⟩
  | panic => exact h

theorem Good.mapAll {r : LRes ε α} (g : List α → List α) (hg : ∀ l, (g l).Perm l)
    (h : Good lt n id xs r) : Good lt n id xs (r.mapAll g) := by
  cases r with
  | ok v n' => exact ⟨(hg v).trans h.1, h.2⟩
  | fail e b n' => exact ⟨(hg b).trans h.1, h.2⟩
  | panic => exact h

theorem Good.map {Q : γ → List α} {r : Res ε α β} (g : β → γ) (hg : ∀ v, (Q (g v)).Perm (P v))
    (h : Good lt n P xs r) : Good lt n Q xs (r.map g) :=
  Tri.map (Tri.post h fun v _ q => ⟨(hg v).trans q.1, q.2⟩)

/-- what is good from `m` on is good from `n` on, if the comparisons from `n` up to `m` answered -/
theorem Good.of_answered {m : Nat} {r : Res ε α β} (hle : n ≤ m) (ha : Answered lt n m)
    (h : Good lt m P xs r) : Good lt n P xs r :=
  Tri.mono h (fun _ _ q => ⟨q.1, Nat.le_trans hle q.2.1, ha.trans q.2.2⟩)
    (fun _ _ _ q => ⟨q.1, Nat.lt_of_le_of_lt hle q.2.1, ha.trans q.2.2.1, q.2.2.2⟩) id

theorem Good.bind {Q : γ → List α} {r : Res ε α β} {f : β → Nat → Res ε α γ} (h : Good lt n P xs r)
    (hf : ∀ v n', r = .ok v n' → Good lt n' Q (P v) (f v n')) : Good lt n Q xs (r.bind f) := by
  cases r with
  | ok v n' => exact ((hf v n' rfl).perm h.1).of_answered h.2.1 h.2.2
  | fail e b n' => exact h
  | panic => exact h

/-- the step of a loop: a routine works on the slice between `pre` and `post`, the loop goes on
with what it delivers -/
theorem Good.bindCtx {Q : γ → List α} {r : Res ε α β} {f : β → Nat → Res ε α γ} (pre post : List α)
    (h : Good lt n P xs r) (hxs : (pre ++ xs ++ post).Perm ys)
    (hf : ∀ v n', r = .ok v n' → Good lt n' Q (pre ++ P v ++ post) (f v n')) :
    Good lt n Q ys ((r.failCtx pre post).bind f) :=
  ((h.failCtx pre post).bind fun v n' e => hf v n' (Res.failCtx_eq_ok e)).perm hxs

theorem Good.after {r : Res ε α β} {a b : α} {c : Bool} (hc : lt n a b = .ok c)
    (h : Good lt (n + 1) P xs r) : Good lt n P xs r :=
  h.of_answered (Nat.le_succ n) (Answered.step hc)

theorem Good.failNow {buf : List α} {a b : α} {e : ε} (hc : lt n a b = .error e)
    (hp : buf.Perm xs) : Good lt n P xs (.fail e buf (n + 1)) :=
  ⟨hp, Nat.lt_succ_self n, Answered.refl lt n, a, b, hc⟩

theorem Good.okNow {v : β} (hp : (P v).Perm xs) : Good lt n P xs (.ok v n) :=
  ⟨hp, Nat.le_refl _, Answered.refl _ _⟩

theorem Good.flip {r : Res ε α β} (h : Good (fun i x y => lt i y x) n P xs r) : Good lt n P xs r := by
  have ha : ∀ {m m'}, Answered (fun i x y => lt i y x) m m' → Answered lt m m' :=
    fun h i h1 h2 => let ⟨a, b, c, e⟩ := h i h1 h2; ⟨b, a, c, e⟩
  cases r with
  | ok v n' => exact ⟨h.1, h.2.1, ha h.2.2⟩
  | fail e buf n' => exact ⟨h.1, h.2.1, ha h.2.2.1, let ⟨a, b, e⟩ := h.2.2.2; ⟨b, a, e⟩⟩
  | panic => exact h

end good

theorem insertTail_good (lt : Cmp ε α) (x : α) (zs : List α) (n : Nat) :
    Good lt n id (x :: zs) (insertTail lt x zs n) := by
  induction zs generalizing n with
  | nil => exact Good.okNow (Perm.refl _)
  | cons z zs ih =>
    simp only [insertTail]
    cases h : lt n z x with
    | error e => exact Good.failNow h (Perm.refl _)
    | ok b =>
      cases b with
      | false => exact Good.after h (Good.okNow (Perm.refl _))
      | true => exact Good.after h (((ih (n + 1)).ctx [z] []).perm (by simpa using Perm.swap x z zs))

theorem insertHead_good (lt : Cmp ε α) (xs : List α) (n : Nat) :
    Good lt n id xs (insertHead lt xs n) := by
  cases xs with
  | nil => exact Good.okNow (Perm.refl _)
  | cons x rest => exact insertTail_good lt x rest n

theorem insertionSort_good (lt : Cmp ε α) (xs : List α) (n : Nat) :
    Good lt n id xs (insertionSort lt xs n) := by
  induction xs generalizing n with
  | nil => exact Good.okNow (Perm.refl _)
  | cons x xs ih =>
    exact (((ih n).ctx [x] []).perm (by simp)).bind fun v n' _ => insertHead_good lt v n'

theorem mergeLoAux_good (lt : Cmp ε α) (a : α) (l : List α) (recL : List α → Nat → LRes ε α)
    (hrec : ∀ r n, Good lt n id (l ++ r) (recL r n)) (r : List α) (n : Nat) :
    Good lt n id (a :: l ++ r) (mergeLoAux lt a l recL r n) := by
  induction r generalizing n with
  | nil => exact Good.okNow (by simp)
  | cons b r ih =>
    simp only [mergeLoAux]
    cases h : lt n b a with
    | error e => exact Good.failNow h (Perm.refl _)
    | ok c =>
      cases c with
      | true =>
        refine Good.after h (((ih (n + 1)).ctx [b] []).perm ?_)
        simpa using (perm_middle (a := b) (l₁ := a :: l) (l₂ := r)).symm
      | false => exact Good.after h (((hrec (b :: r) (n + 1)).ctx [a] []).perm (by simp))

theorem mergeLo_good (lt : Cmp ε α) (l r : List α) (n : Nat) :
    Good lt n id (l ++ r) (mergeLo lt l r n) := by
  induction l generalizing r n with
  | nil => exact Good.okNow (by simp)
  | cons a l ih => exact mergeLoAux_good lt a l (mergeLo lt l) ih r n

theorem mergeHiAux_eq (lt : Cmp ε α) (b : α) (rr : List α) (recR recR' : List α → Nat → LRes ε α)
    (hrec : ∀ l n, recR l n = recR' l n) (rl : List α) (n : Nat) :
    mergeHiAux lt b rr recR rl n = mergeLoAux (fun i x y => lt i y x) b rr recR' rl n := by
  induction rl generalizing n with
  | nil => rfl
  | cons a rl ih =>
    simp only [mergeHiAux, mergeLoAux]
    cases lt n b a with
    | error e => rfl
    | ok c => cases c <;> simp only [ih, hrec]

theorem mergeHiRev_eq (lt : Cmp ε α) (rr rl : List α) (n : Nat) :
    mergeHiRev lt rr rl n = mergeLo (fun i x y => lt i y x) rr rl n := by
  induction rr generalizing rl n with
  | nil => rfl
  | cons b rr ih => exact mergeHiAux_eq lt b rr _ _ ih rl n

theorem merge_good (lt : Cmp ε α) (l r : List α) (n : Nat) :
    Good lt n id (l ++ r) (merge lt l r n) := by
  unfold merge
  split
  · exact mergeLo_good lt l r n
  · rw [mergeHiRev_eq]
    refine ((mergeLo_good _ r.reverse l.reverse n).flip.mapAll _ reverse_perm).perm ?_
    exact ((reverse_perm r).append (reverse_perm l)).trans perm_append_comm

/-- the buffer a step denotes: unprocessed prefix, then the run -/
def stepList (p : List α × List α) : List α := p.2.reverse ++ p.1

theorem scan_good (lt : Cmp ε α) (want : Bool) (cur : α) (run rest : List α) (n : Nat) :
    Good lt n stepList (rest.reverse ++ run) (scan lt want cur run rest n) := by
  induction rest generalizing cur run n with
  | nil => exact Good.okNow (by simp [stepList])
  | cons c rest ih =>
    simp only [scan]
    cases h : lt n cur c with
    | error e => exact Good.failNow h (Perm.refl _)
    | ok b =>
      simp only []
      split
      · exact Good.after h ((ih c (c :: run) (n + 1)).perm (by simp))
      · exact Good.after h (Good.okNow (by simp [stepList]))

theorem findRun_good (lt : Cmp ε α) (rpre : List α) (n : Nat) :
    Good lt n stepList rpre.reverse (findRun lt rpre n) := by
  match rpre with
  | [] => exact Good.okNow (by simp [stepList])
  | [a] => exact Good.okNow (by simp [stepList])
  | a :: b :: rest =>
    simp only [findRun]
    cases h : lt n a b with
    | error e => exact Good.failNow h (Perm.refl _)
    | ok c =>
      have hs (w) : Good lt (n + 1) stepList (a :: b :: rest).reverse (scan lt w b [b, a] rest (n + 1)) :=
        (scan_good lt w b [b, a] rest (n + 1)).perm (by simp)
      cases c with
      | true => exact Good.after h ((hs true).map _ fun v => (Perm.refl _).append (reverse_perm _))
      | false => exact Good.after h (hs false)

theorem extendRun_good (lt : Cmp ε α) (run rest : List α) (n : Nat) :
    Good lt n stepList (rest.reverse ++ run) (extendRun lt run rest n) := by
  induction rest generalizing run n with
  | nil => exact Good.okNow (by simp [stepList])
  | cons c rest ih =>
    simp only [extendRun]
    split
    · exact (insertHead_good lt (c :: run) n).bindCtx _ _ (by simp)
        fun v n' _ => (ih v n').perm (by simp)
    · exact Good.okNow (by simp [stepList])

theorem collapse_some_false {az : Bool} {st : List (List α)} (h : collapse az st = some false) :
    ∃ s0 s1 rest, st = s0 :: s1 :: rest := by
  match st with
  | [] => cases h
  | [_] => cases h
  | s0 :: s1 :: rest => exact ⟨s0, s1, rest, rfl⟩

theorem collapse_some_true {az : Bool} {st : List (List α)} (h : collapse az st = some true) :
    ∃ s0 s1 s2 rest, st = s0 :: s1 :: s2 :: rest := by
  match st with
  | [] => cases h
  | [_] => cases h
  | [s0, s1] => simp only [collapse] at h; split at h <;> cases h
  | s0 :: s1 :: s2 :: rest => exact ⟨s0, s1, s2, rest, rfl⟩

theorem collapse_none_atZero {st : List (List α)} (h : collapse true st = none) : st.length < 2 := by
  match st with
  | [] => simp
  | [_] => simp
  | s0 :: s1 :: rest =>
    simp only [collapse, Bool.true_or, ite_true] at h
    split at h
    · split at h <;> cases h
    · cases h

/-- `collapseLoop` stops with the stack it has when `collapse` answers `none`; otherwise it merges two
adjacent runs, with at most one run above them, and goes on.  (The fuel, the height of the stack,
suffices: every merge lowers the stack.) -/
theorem collapseLoop_induct {lt : Cmp ε α} {az : Bool}
    {motive : List (List α) → Nat → Res ε α (List (List α)) → Prop}
    (stop : ∀ st n, collapse az st = none → motive st n (.ok st n))
    (step : ∀ p s1 s2 rest n k, (∀ m n', motive (p ++ m :: rest) n' (k m n')) →
      motive (p ++ s1 :: s2 :: rest) n (((merge lt s1 s2 n).failCtx p.flatten rest.flatten).bind k))
    (fuel : Nat) (st : List (List α)) (n : Nat) (hf : st.length ≤ fuel + 1) :
    motive st n (collapseLoop lt az fuel st n) := by
  induction fuel generalizing st n with
  | zero =>
    have hc : collapse az st = none := by
      match st, hf with
      | [], _ => rfl
      | [_], _ => rfl
    simp only [collapseLoop, hc]
    exact stop st n hc
  | succ fuel ih =>
    unfold collapseLoop
    cases hc : collapse az st with
    | none => exact stop st n hc
    | some b =>
      cases b with
      | false =>
        obtain ⟨s0, s1, rest, rfl⟩ := collapse_some_false hc
        exact step [] s0 s1 rest n _ fun m n' => ih (m :: rest) n' (by simpa using hf)
      | true =>
        obtain ⟨s0, s1, s2, rest, rfl⟩ := collapse_some_true hc
        have := step [s0] s1 s2 rest n _ fun m n' => ih (s0 :: m :: rest) n' (by simpa using hf)
        rwa [flatten_singleton] at this

theorem collapseLoop_good (lt : Cmp ε α) (az : Bool) (fuel : Nat) (st : List (List α)) (n : Nat)
    (hf : st.length ≤ fuel + 1) :
    Good lt n List.flatten st.flatten (collapseLoop lt az fuel st n) := by
  refine collapseLoop_induct (motive := fun st n r => Good lt n List.flatten st.flatten r)
    (fun st n _ => Good.okNow (Perm.refl _)) (fun p s1 s2 rest n k ih => ?_) fuel st n hf
  exact (merge_good lt s1 s2 n).bindCtx _ _ (by simp) fun m n' _ => (ih m n').perm (by simp)

theorem collapseLoop_ok_shape (lt : Cmp ε α) (az : Bool) (fuel : Nat) (st : List (List α))
    (n : Nat) (hf : st.length ≤ fuel + 1) {st' : List (List α)} {n' : Nat}
    (h : collapseLoop lt az fuel st n = .ok st' n') :
    collapse az st' = none ∧ (st ≠ [] → st' ≠ []) := by
  refine collapseLoop_induct
    (motive := fun st n r => r = .ok st' n' → collapse az st' = none ∧ (st ≠ [] → st' ≠ []))
    (fun st n hc e => ?_) (fun p s1 s2 rest n k ih e => ?_) fuel st n hf h
  · cases e; exact ⟨hc, id⟩
  · obtain ⟨m, n1, _, h2⟩ := Res.failCtx_bind_eq_ok e
    exact ⟨(ih m n1 h2).1, fun _ => (ih m n1 h2).2 (by simp)⟩

theorem scan_ok_len {lt : Cmp ε α} {want : Bool} {cur : α} {run rest : List α} {n n' : Nat}
    {p : List α × List α} (h : scan lt want cur run rest n = .ok p n') : p.2.length ≤ rest.length := by
  induction rest generalizing cur run n with
  | nil => cases h; exact Nat.le_refl _
  | cons c rest ih =>
    simp only [scan] at h
    split at h
    · cases h
    · split at h
      · exact Nat.le_succ_of_le (ih h)
      · cases h; exact Nat.le_refl _

theorem findRun_ok_len {lt : Cmp ε α} {a : α} {rpre : List α} {n n' : Nat}
    {p : List α × List α} (h : findRun lt (a :: rpre) n = .ok p n') : p.2.length ≤ rpre.length := by
  match rpre with
  | [] => cases h; exact Nat.le_refl _
  | b :: rest =>
    simp only [findRun] at h
    split at h
    · cases h
    · obtain ⟨q, hs, rfl⟩ := Res.map_eq_ok h
      exact Nat.le_succ_of_le (scan_ok_len (p := q) hs)
    · exact Nat.le_succ_of_le (scan_ok_len h)

theorem extendRun_ok_len {lt : Cmp ε α} {run rest : List α} {n n' : Nat}
    {q : List α × List α} (h : extendRun lt run rest n = .ok q n') : q.2.length ≤ rest.length := by
  induction rest generalizing run n with
  | nil => cases h; exact Nat.le_refl _
  | cons c rest ih =>
    simp only [extendRun] at h
    split at h
    · obtain ⟨v, m, _, h2⟩ := Res.failCtx_bind_eq_ok h
      exact Nat.le_succ_of_le (ih h2)
    · cases h; exact Nat.le_refl _

theorem mainLoop_good (lt : Cmp ε α) (fuel : Nat) (rpre : List α) (st : List (List α)) (n : Nat)
    (hf : rpre.length ≤ fuel) (hinv : rpre = [] → ∃ r, st = [r]) :
    Good lt n id (rpre.reverse ++ st.flatten) (mainLoop lt fuel rpre st n) := by
  induction fuel generalizing rpre st n with
  | zero =>
    obtain rfl := List.eq_nil_of_length_eq_zero (Nat.le_zero.mp hf)
    obtain ⟨r, rfl⟩ := hinv rfl
    exact Good.okNow (by simp)
  | succ fuel ih =>
    cases rpre with
    | nil =>
      obtain ⟨r, rfl⟩ := hinv rfl
      exact Good.okNow (by simp)
    | cons a rpre =>
      simp only [mainLoop]
      refine (findRun_good lt (a :: rpre) n).bindCtx _ _ (by simp) fun p n1 e1 => ?_
      refine (extendRun_good lt p.1 p.2 n1).bindCtx _ _ (by simp [stepList]) fun q n2 e2 => ?_
      refine (collapseLoop_good lt _ _ (q.1 :: st) n2 (by simp)).bindCtx _ _ (by simp [stepList])
        fun st' n3 e3 => ?_
      have hl1 := findRun_ok_len e1
      have hl2 := extendRun_ok_len e2
      refine (ih q.2 st' n3 (by simp at hf; omega) fun hq => ?_).perm (by simp)
      -- nothing is left: `collapse` was asked with `atZero` and answered `none` on a non-empty stack
      obtain ⟨hc, hne⟩ := collapseLoop_ok_shape lt _ _ _ _ (by simp) e3
      rw [hq] at hc
      match st', hne (cons_ne_nil _ _), collapse_none_atZero hc with
      | [r], _, _ => exact ⟨r, rfl⟩

theorem trySort_good (lt : Cmp ε α) (v : List α) (n : Nat) :
    Good lt n id v (trySort lt v n) := by
  unfold trySort
  split
  · exact insertionSort_good lt v n
  · rename_i hlen
    refine (mainLoop_good lt v.length v.reverse [] n (by simp) fun h => ?_).perm (by simp)
    rw [reverse_eq_nil_iff.mp h] at hlen
    exact absurd (Nat.zero_le _) hlen

/-! ## Functional correctness under a pure comparator that is a strict weak order

Reference stable sort: insertion sort `isort` (an element is inserted BEFORE the first element that
is not strictly smaller: equal elements keep their input order). -/

/-- strict weak order (`r a b` = "a is strictly less than b") -/
structure StrictWeak (r : α → α → Bool) : Prop where
  irrefl : ∀ a, r a a = false
  trans : ∀ a b c, r a b = true → r b c = true → r a c = true
  /-- negative transitivity: "not less" is transitive (so incomparability is an equivalence) -/
  ntrans : ∀ a b c, r a b = false → r b c = false → r a c = false

def oinsert (r : α → α → Bool) (x : α) : List α → List α
  | [] => [x]
  | z :: zs => if r z x then z :: oinsert r x zs else x :: z :: zs

def isort (r : α → α → Bool) : List α → List α
  | [] => []
  | x :: xs => oinsert r x (isort r xs)

def Run (r : α → α → Bool) (w : Bool) (l : List α) : Prop := l.Pairwise (fun a b => r b a = w)

abbrev Sorted (r : α → α → Bool) (l : List α) : Prop := Run r false l

abbrev SDesc (r : α → α → Bool) (l : List α) : Prop := Run r true l

def eqv (r : α → α → Bool) (a b : α) : Bool := !r a b && !r b a

/-- `ys` holds every class of tied elements in the order it has in `xs` -/
def Tied (r : α → α → Bool) (xs ys : List α) : Prop := ∀ c, ys.filter (eqv r c) = xs.filter (eqv r c)

def StableSorted (r : α → α → Bool) (xs ys : List α) : Prop := Sorted r ys ∧ Tied r xs ys

namespace StrictWeak
-- `h` stays an argument of the three lemmas below that do not use it, so that all of them read `hs.…`
set_option linter.unusedSectionVars false
variable {r : α → α → Bool} (h : StrictWeak r)
include h

theorem asymm {a b : α} (hab : r a b = true) : r b a = false := by
  cases hba : r b a with
  | false => rfl
  | true => have := h.trans a b a hab hba; rw [h.irrefl] at this; cases this

theorem lt_of_lt_of_le {a b c : α} (hab : r a b = true) (hbc : r c b = false) : r a c = true := by
  cases hac : r a c with
  | true => rfl
  | false => have := h.ntrans a c b hac hbc; rw [hab] at this; cases this

theorem lt_of_le_of_lt {a b c : α} (hab : r b a = false) (hbc : r b c = true) : r a c = true := by
  cases hac : r a c with
  | true => rfl
  | false => have := h.ntrans b a c hab hac; rw [hbc] at this; cases this

theorem trans_of (w : Bool) {a b c : α} (hab : r a b = w) (hbc : r b c = w) : r a c = w := by
  cases w
  · exact h.ntrans a b c hab hbc
  · exact h.trans a b c hab hbc

theorem eqv_refl (a : α) : eqv r a a = true := by simp [eqv, h.irrefl]

theorem eqv_symm {a b : α} : eqv r a b = eqv r b a := Bool.and_comm _ _

theorem eqv_trans {a b c : α} (hab : eqv r a b = true) (hbc : eqv r b c = true) : eqv r a c = true := by
  simp only [eqv, Bool.and_eq_true, Bool.not_eq_true'] at *
  exact ⟨h.ntrans a b c hab.1 hbc.1, h.ntrans c b a hbc.2 hab.2⟩

theorem not_eqv_of_lt {a b : α} (hab : r a b = true) : eqv r a b = false := by simp [eqv, hab]

theorem not_eqv_of_lt' {a b : α} (hab : r a b = true) : eqv r b a = false := by simp [eqv, hab]

theorem class_ne {c x z : α} (hx : eqv r c x = true) (hz : eqv r x z = false) : eqv r c z = false := by
  cases hcz : eqv r c z with
  | false => rfl
  | true => rw [h.eqv_trans (h.eqv_symm.trans hx) hcz] at hz; cases hz

end StrictWeak

section order
variable {r : α → α → Bool}

theorem Run.of_chain (hs : StrictWeak r) {w : Bool} {l : List α}
    (h : l.IsChain (fun a b => r b a = w)) : Run r w l :=
  have : Trans (fun a b => r b a = w) (fun a b => r b a = w) (fun a b => r b a = w) :=
    ⟨fun hab hbc => hs.trans_of w hbc hab⟩
  h.pairwise

theorem Run.cons_cons (hs : StrictWeak r) {w : Bool} {a b : α} {l : List α} (h : Run r w (b :: l))
    (hab : r b a = w) : Run r w (a :: b :: l) :=
  Run.of_chain hs (.cons_cons hab h.isChain)

theorem Tied.refl (xs : List α) : Tied r xs xs := fun _ => rfl

theorem Tied.symm {xs ys : List α} (h : Tied r xs ys) : Tied r ys xs := fun c => (h c).symm

theorem Tied.trans {xs ys zs : List α} (h1 : Tied r xs ys) (h2 : Tied r ys zs) : Tied r xs zs :=
  fun c => (h2 c).trans (h1 c)

theorem Tied.append {xs ys xs' ys' : List α} (h1 : Tied r xs ys) (h2 : Tied r xs' ys') :
    Tied r (xs ++ xs') (ys ++ ys') := fun c => by rw [filter_append, filter_append, h1 c, h2 c]

theorem Tied.mem_iff (hs : StrictWeak r) {xs ys : List α} (h : Tied r xs ys) {z : α} :
    z ∈ ys ↔ z ∈ xs := by
  have e (l : List α) : z ∈ l ↔ z ∈ l.filter (eqv r z) := by simp [hs.eqv_refl]
  rw [e ys, e xs, h z]

theorem Tied.middle (hs : StrictWeak r) {b : α} {A : List α} (B : List α)
    (hA : ∀ x ∈ A, eqv r b x = false) : Tied r (A ++ b :: B) (b :: A ++ B) := by
  intro c
  simp only [cons_append, filter_append, filter_cons]
  split
  · rename_i hcb
    rw [filter_eq_nil_iff.mpr fun x hx => by simp [hs.class_ne hcb (hA x hx)]]
    rfl
  · rfl

theorem StableSorted.cons (hs : StrictWeak r) {b : α} {A B m : List α} (h : StableSorted r (A ++ B) m)
    (hA : ∀ x ∈ A, r b x = true) (hB : ∀ y ∈ B, r y b = false) :
    StableSorted r (A ++ b :: B) (b :: m) := by
  refine ⟨pairwise_cons.mpr ⟨fun y hy => ?_, h.1⟩,
    (Tied.middle hs B fun x hx => hs.not_eqv_of_lt (hA x hx)).trans ((Tied.refl [b]).append h.2)⟩
  rcases mem_append.mp ((h.2.mem_iff hs).mp hy) with hy | hy
  · exact hs.asymm (hA y hy)
  · exact hB y hy

theorem mem_oinsert {x y : α} {l : List α} : y ∈ oinsert r x l ↔ y = x ∨ y ∈ l := by
  induction l with
  | nil => simp [oinsert]
  | cons z zs ih =>
    unfold oinsert
    split
    · rw [mem_cons, ih, mem_cons, or_left_comm]
    · exact mem_cons

theorem sorted_oinsert (hs : StrictWeak r) (x : α) {l : List α} (hl : Sorted r l) :
    Sorted r (oinsert r x l) := by
  induction l with
  | nil => exact pairwise_singleton _ _
  | cons z zs ih =>
    obtain ⟨hz, hzs⟩ := pairwise_cons.mp hl
    unfold oinsert
    split
    · rename_i hzx
      refine pairwise_cons.mpr ⟨fun y hy => ?_, ih hzs⟩
      rcases mem_oinsert.mp hy with rfl | hy
      · exact hs.asymm hzx
      · exact hz y hy
    · exact hl.cons_cons hs (by simpa using ‹¬ r z x = true›)

theorem tied_oinsert (hs : StrictWeak r) (x : α) (l : List α) : Tied r (x :: l) (oinsert r x l) := by
  induction l with
  | nil => exact Tied.refl _
  | cons z zs ih =>
    unfold oinsert
    split
    · rename_i hzx
      exact (Tied.middle hs zs (A := [x]) (by simpa using hs.not_eqv_of_lt hzx)).trans
        ((Tied.refl [z]).append ih)
    · exact Tied.refl _

theorem stableSorted_isort (hs : StrictWeak r) (xs : List α) : StableSorted r xs (isort r xs) := by
  induction xs with
  | nil => exact ⟨Pairwise.nil, Tied.refl _⟩
  | cons x xs ih =>
    exact ⟨sorted_oinsert hs x ih.1, (((Tied.refl [x]).append ih.2).trans (tied_oinsert hs x _))⟩

theorem Sorted.head_le (hs : StrictWeak r) {z : α} {zs : List α} (h : Sorted r (z :: zs)) :
    ∀ y ∈ z :: zs, r y z = false := by
  intro y hy
  rcases mem_cons.mp hy with rfl | hy
  · exact hs.irrefl y
  · exact (pairwise_cons.mp h).1 y hy

theorem stableSorted_unique (hs : StrictWeak r) {ys zs : List α} (hy : Sorted r ys)
    (hz : Sorted r zs) (hf : Tied r zs ys) : ys = zs := by
  induction ys generalizing zs with
  | nil =>
    cases zs with
    | nil => rfl
    | cons z zs => exact absurd ((hf.mem_iff hs).mpr mem_cons_self) not_mem_nil
  | cons y ys ih =>
    cases zs with
    | nil => exact absurd ((hf.mem_iff hs).mp mem_cons_self) not_mem_nil
    | cons z zs =>
      -- each head occurs in the other list, after that list's head: the heads are tied
      have hyz : eqv r y z = true := by
        simp only [eqv, Bool.and_eq_true, Bool.not_eq_true']
        exact ⟨hz.head_le hs y ((hf.mem_iff hs).mp mem_cons_self),
          hy.head_le hs z ((hf.mem_iff hs).mpr mem_cons_self)⟩
      -- so each is the first of their common class
      have hfy := hf y
      simp only [filter_cons, hs.eqv_refl, hyz, ite_true] at hfy
      obtain ⟨rfl, _⟩ := cons.inj hfy
      refine congrArg _ (ih (pairwise_cons.mp hy).2 (pairwise_cons.mp hz).2 fun c => ?_)
      have := hf c
      simp only [filter_cons] at this
      split at this
      · exact (cons.inj this).2
      · exact this

theorem eq_isort_of_stableSorted (hs : StrictWeak r) {xs ys : List α}
    (h : StableSorted r xs ys) : ys = isort r xs :=
  stableSorted_unique hs h.1 (stableSorted_isort hs xs).1 ((stableSorted_isort hs xs).2.symm.trans h.2)

end order

/-! ### what the routines compute when the comparator is pure (partial correctness: "if it answers
`ok v`, then `v` is …"; that it does answer `ok` follows from `Good`) -/

def Pure (lt : Cmp ε α) (r : α → α → Bool) : Prop := ∀ i a b, lt i a b = .ok (r a b)

def Select.Pure3 (cmp : Cmp3 ε α) (c3 : α → α → Int) : Prop := ∀ i a b, cmp i a b = .ok (c3 a b)

section pure
variable {lt : Cmp ε α} {r : α → α → Bool}

theorem insertTail_pure (hp : Pure lt r) {x : α} {zs l : List α} {n n' : Nat}
    (h : insertTail lt x zs n = .ok l n') : l = oinsert r x zs := by
  induction zs generalizing l n with
  | nil => cases h; rfl
  | cons z zs ih =>
    simp only [insertTail, hp n z x] at h
    unfold oinsert
    cases hr : r z x with
    | false => rw [hr] at h; cases h; rfl
    | true =>
      rw [hr] at h
      obtain ⟨l', h1, rfl⟩ := Res.ctx_eq_ok h
      rw [ih h1, if_pos rfl]

theorem insertHead_pure (hp : Pure lt r) {x : α} {zs l : List α} {n n' : Nat}
    (h : insertHead lt (x :: zs) n = .ok l n') : l = oinsert r x zs :=
  insertTail_pure hp h

theorem insertionSort_pure (hp : Pure lt r) {xs l : List α} {n n' : Nat}
    (h : insertionSort lt xs n = .ok l n') : l = isort r xs := by
  induction xs generalizing l n n' with
  | nil => cases h; rfl
  | cons x xs ih =>
    obtain ⟨v, m, h1, h2⟩ := Res.bind_eq_ok h
    obtain ⟨l', h3, rfl⟩ := Res.ctx_eq_ok h1
    rw [ih h3] at h2
    exact insertHead_pure hp h2

theorem mergeLoAux_spec (hs : StrictWeak r) (hp : Pure lt r) {a : α} {l : List α}
    {recL : List α → Nat → LRes ε α} (hal : Sorted r (a :: l))
    (hrec : ∀ {Y n m n'}, Sorted r Y → recL Y n = .ok m n' → StableSorted r (l ++ Y) m)
    {Y : List α} {n : Nat} {m : List α} {n' : Nat} (hY : Sorted r Y)
    (h : mergeLoAux lt a l recL Y n = .ok m n') : StableSorted r (a :: l ++ Y) m := by
  induction Y generalizing n m with
  | nil => cases h; exact ⟨by simpa using hal, by simpa using Tied.refl _⟩
  | cons b rr ih =>
    obtain ⟨hb, hrr⟩ := pairwise_cons.mp hY
    simp only [mergeLoAux, hp n b a] at h
    cases hba : r b a with
    | true =>
      -- `b` is below `a` and so below the whole left run: it goes first
      rw [hba] at h
      obtain ⟨m', h1, rfl⟩ := Res.ctx_eq_ok h
      refine (ih hrr h1).cons hs (fun x hx => ?_) hb
      rcases mem_cons.mp hx with rfl | hx
      · exact hba
      · exact hs.lt_of_lt_of_le hba ((pairwise_cons.mp hal).1 x hx)
    | false =>
      -- `a` is not above `b`, so above nothing that is left of either run: it goes first
      rw [hba] at h
      obtain ⟨m', h1, rfl⟩ := Res.ctx_eq_ok h
      refine (hrec hY h1).cons hs (A := []) (fun _ hx => nomatch hx) fun y hy => ?_
      rcases mem_append.mp hy with hy | hy
      · exact (pairwise_cons.mp hal).1 y hy
      · exact (pairwise_cons.mp (hY.cons_cons hs hba)).1 y hy

theorem mergeLo_spec (hs : StrictWeak r) (hp : Pure lt r) {X Y : List α} {n : Nat} {m : List α}
    {n' : Nat} (hX : Sorted r X) (hY : Sorted r Y) (h : mergeLo lt X Y n = .ok m n') :
    StableSorted r (X ++ Y) m := by
  induction X generalizing Y n m n' with
  | nil => cases h; exact ⟨hY, Tied.refl _⟩
  | cons a l ih => exact mergeLoAux_spec hs hp hX (ih (pairwise_cons.mp hX).2) hY h

theorem StrictWeak.flip (h : StrictWeak r) : StrictWeak (fun a b => r b a) :=
  ⟨fun a => h.irrefl a, fun a b c hab hbc => h.trans c b a hbc hab,
   fun a b c hab hbc => h.ntrans c b a hbc hab⟩

theorem StableSorted.flip_reverse {xs ys : List α} (h : StableSorted (fun a b => r b a) xs ys) :
    StableSorted r xs.reverse ys.reverse := by
  refine ⟨pairwise_reverse.mpr h.1, fun c => ?_⟩
  have e : eqv (fun a b => r b a) c = eqv r c := funext fun x => Bool.and_comm _ _
  rw [filter_reverse, filter_reverse, ← e, h.2 c]

theorem merge_spec (hs : StrictWeak r) (hp : Pure lt r) {X Y : List α} {n : Nat} {m : List α}
    {n' : Nat} (hX : Sorted r X) (hY : Sorted r Y) (h : merge lt X Y n = .ok m n') :
    StableSorted r (X ++ Y) m := by
  unfold merge at h
  split at h
  · exact mergeLo_spec hs hp hX hY h
  · obtain ⟨m', h1, rfl⟩ := Res.mapAll_eq_ok h
    rw [mergeHiRev_eq] at h1
    simpa using (mergeLo_spec hs.flip (fun i a b => hp i b a) (pairwise_reverse.mpr hY)
      (pairwise_reverse.mpr hX) h1).flip_reverse

theorem stableSorted_reverse (hs : StrictWeak r) {l : List α} (hl : SDesc r l) :
    StableSorted r l l.reverse := by
  refine ⟨pairwise_reverse.mpr (hl.imp fun hab => hs.asymm hab), ?_⟩
  induction l with
  | nil => exact Tied.refl _
  | cons x t ih =>
    obtain ⟨hx, ht⟩ := pairwise_cons.mp hl
    rw [reverse_cons]
    refine (((Tied.refl [x]).append (ih ht)).trans (Tied.symm ?_))
    simpa using Tied.middle hs [] (b := x) (A := t.reverse)
      fun y hy => hs.not_eqv_of_lt' (hx y (mem_reverse.mp hy))

theorem scan_spec (hs : StrictWeak r) (hp : Pure lt r) {w : Bool} {cur : α} {tl rest : List α}
    {n n' : Nat} {p : List α × List α} (hrun : Run r w (cur :: tl))
    (h : scan lt w cur (cur :: tl) rest n = .ok p n') :
    Run r w p.1 ∧ p.2.reverse ++ p.1 = rest.reverse ++ (cur :: tl) := by
  induction rest generalizing cur tl n with
  | nil => cases h; exact ⟨hrun, rfl⟩
  | cons c rest ih =>
    simp only [scan, hp n cur c] at h
    split at h
    · rename_i hr
      obtain ⟨q1, q2⟩ := ih (hrun.cons_cons hs (beq_iff_eq.mp hr)) h
      exact ⟨q1, by simp [q2]⟩
    · cases h; exact ⟨hrun, rfl⟩

theorem findRun_spec (hs : StrictWeak r) (hp : Pure lt r) {rpre : List α} {n n' : Nat}
    {p : List α × List α} (h : findRun lt rpre n = .ok p n') :
    Sorted r p.1 ∧ Tied r rpre.reverse (p.2.reverse ++ p.1) := by
  match rpre with
  | [] => cases h; exact ⟨Pairwise.nil, Tied.refl _⟩
  | [a] => cases h; exact ⟨pairwise_singleton _ _, Tied.refl _⟩
  | a :: b :: rest =>
    simp only [findRun, hp n a b] at h
    have hrun : Run r (r a b) [b, a] := by simp [Run]
    cases hr : r a b with
    | true =>
      rw [hr] at h hrun
      obtain ⟨q, h1, rfl⟩ := Res.map_eq_ok h
      obtain ⟨q1, q2⟩ := scan_spec hs hp hrun h1
      have := stableSorted_reverse hs q1
      exact ⟨this.1, by simpa [← q2] using (Tied.refl q.2.reverse).append this.2⟩
    | false =>
      rw [hr] at h hrun
      obtain ⟨q1, q2⟩ := scan_spec hs hp hrun h
      exact ⟨q1, by simpa [q2] using Tied.refl (a :: b :: rest).reverse⟩

theorem extendRun_spec (hs : StrictWeak r) (hp : Pure lt r) {run rest : List α} {n n' : Nat}
    {q : List α × List α} (hrun : Sorted r run) (h : extendRun lt run rest n = .ok q n') :
    Sorted r q.1 ∧ Tied r (rest.reverse ++ run) (q.2.reverse ++ q.1) := by
  induction rest generalizing run n with
  | nil => cases h; exact ⟨hrun, Tied.refl _⟩
  | cons c rest ih =>
    simp only [extendRun] at h
    split at h
    · obtain ⟨v, m, h1, h2⟩ := Res.failCtx_bind_eq_ok h
      obtain rfl := insertHead_pure hp h1
      obtain ⟨q1, q2⟩ := ih (sorted_oinsert hs c hrun) h2
      exact ⟨q1, .trans (by simpa using (Tied.refl rest.reverse).append (tied_oinsert hs c run)) q2⟩
    · cases h; exact ⟨hrun, Tied.refl _⟩

/-! the stack: every pending run is sorted, and the stack as a whole keeps tied elements in order -/

theorem collapseLoop_spec (hs : StrictWeak r) (hp : Pure lt r) (az : Bool) (fuel : Nat)
    (st : List (List α)) (n : Nat) (hf : st.length ≤ fuel + 1) {st' : List (List α)} {n' : Nat}
    (hst : ∀ s ∈ st, Sorted r s) (h : collapseLoop lt az fuel st n = .ok st' n') :
    (∀ s ∈ st', Sorted r s) ∧ Tied r st.flatten st'.flatten := by
  refine collapseLoop_induct (motive := fun st n res => (∀ s ∈ st, Sorted r s) → res = .ok st' n' →
      (∀ s ∈ st', Sorted r s) ∧ Tied r st.flatten st'.flatten)
    (fun st n _ hst e => ?_) (fun p s1 s2 rest n k ih hst e => ?_) fuel st n hf hst h
  · cases e; exact ⟨hst, Tied.refl _⟩
  · obtain ⟨m, n1, h1, h2⟩ := Res.failCtx_bind_eq_ok e
    simp only [forall_mem_append, forall_mem_cons] at hst
    have hm := merge_spec hs hp hst.2.1 hst.2.2.1 h1
    obtain ⟨q1, q2⟩ := ih m n1
      (by simpa only [forall_mem_append, forall_mem_cons] using ⟨hst.1, hm.1, hst.2.2.2⟩) h2
    refine ⟨q1, .trans ?_ q2⟩
    simpa using (Tied.refl p.flatten).append (hm.2.append (Tied.refl rest.flatten))

theorem mainLoop_spec (hs : StrictWeak r) (hp : Pure lt r) (fuel : Nat) (rpre : List α)
    (st : List (List α)) (n n' : Nat) (ys : List α) (hst : ∀ s ∈ st, Sorted r s)
    (h : mainLoop lt fuel rpre st n = .ok ys n') :
    StableSorted r (rpre.reverse ++ st.flatten) ys := by
  induction fuel generalizing rpre st n with
  | zero =>
    match rpre, st, h with
    | [], [s], h => cases h; exact ⟨hst _ mem_cons_self, by simpa using Tied.refl ys⟩
  | succ fuel ih =>
    match rpre, st, h with
    | [], [s], h => cases h; exact ⟨hst _ mem_cons_self, by simpa using Tied.refl ys⟩
    | a :: rpre, st, h =>
      simp only [mainLoop] at h
      obtain ⟨p, n1, e1, h⟩ := Res.failCtx_bind_eq_ok h
      obtain ⟨q, n2, e2, h⟩ := Res.failCtx_bind_eq_ok h
      obtain ⟨st', n3, e3, h⟩ := Res.failCtx_bind_eq_ok h
      obtain ⟨s1, s2⟩ := findRun_spec hs hp e1
      obtain ⟨t1, t2⟩ := extendRun_spec hs hp s1 e2
      obtain ⟨u1, u2⟩ := collapseLoop_spec hs hp _ _ _ _ (by simp)
        (forall_mem_cons.mpr ⟨t1, hst⟩) e3
      obtain ⟨v1, v2⟩ := ih q.2 st' n3 u1 h
      refine ⟨v1, .trans ?_ v2⟩
      have := ((s2.trans t2).append (Tied.refl st.flatten)).trans
        (by simpa using (Tied.refl q.2.reverse).append u2)
      simpa using this

/-- **functional correctness of `try_sort`**: with a pure comparator deciding a strict weak order the
answer, if any, is the reference stable sort of the input -/
theorem trySort_spec (hs : StrictWeak r) (hp : Pure lt r) {xs ys : List α} {n n' : Nat}
    (h : trySort lt xs n = .ok ys n') : ys = isort r xs := by
  unfold trySort at h
  split at h
  · exact insertionSort_pure hp h
  · exact eq_isort_of_stableSorted hs
      (by simpa using mainLoop_spec hs hp _ _ [] _ _ _ (fun _ hs => nomatch hs) h)

theorem trySort_pure_ok (hp : Pure lt r) (xs : List α) (n : Nat) :
    ∃ ys n', trySort lt xs n = .ok ys n' := by
  have hg := trySort_good lt xs n
  cases hr : trySort lt xs n with
  | ok ys n' => exact ⟨ys, n', rfl⟩
  | fail e b n' =>
    rw [hr] at hg
    obtain ⟨_, _, _, a, b', hab⟩ := hg
    rw [hp] at hab; cases hab
  | panic => rw [hr] at hg; exact hg.elim

/-! ### `XSequence::sorted` -/

theorem isSortedPre_spec {cmp : Cmp3 ε α} {c3 : α → α → Int} (hp : Select.Pure3 cmp c3)
    (xs : List α) (n : Nat) :
    ∃ b n', isSortedPre cmp xs n = .ok b n' ∧ (b = true → xs.IsChain (fun a b => ¬ c3 a b > 0)) := by
  induction xs generalizing n with
  | nil => exact ⟨true, n, rfl, fun _ => .nil⟩
  | cons a t ih =>
    cases t with
    | nil => exact ⟨true, n, rfl, fun _ => .singleton a⟩
    | cons b t =>
      simp only [isSortedPre, hp n a b]
      split
      · exact ⟨false, _, rfl, nofun⟩
      · rename_i hc
        obtain ⟨s, n', e, h⟩ := ih (n + 1)
        exact ⟨s, n', e, fun hs => .cons_cons hc (h hs)⟩

end pure

/-! ## conservation for the index-based routines (`TryHeap`, `quickselect`): whatever the comparator
does, the array holds the same elements afterwards — also in the state a failure leaves behind.

`Conserves`, `Select.Post` and `Heap.PopPost` claim nothing of a `panic` outcome (an index outside the
array, or the model's fuel): they speak of the elements only.  That there is no panic is said apart, by `Sat` and
`Select.PureSat`, which in turn say nothing of the elements. -/

def Conserves (P : β → List α) (xs : List α) : Res ε α β → Prop
  | .ok v _ => (P v).Perm xs
  | .fail _ b _ => b.Perm xs
  | .panic => True

theorem Conserves.perm {P : β → List α} {xs ys : List α} {r : Res ε α β}
    (h : Conserves P xs r) (hp : xs.Perm ys) : Conserves P ys r :=
  Tri.mono h (fun _ _ q => q.trans hp) (fun _ _ _ q => q.trans hp) id

theorem lt_length_of_getElem? {l : List α} {i : Nat} {a : α} (h : l[i]? = some a) : i < l.length :=
  (List.getElem?_eq_some_iff.mp h).1

theorem set_self_of_getElem? {l : List α} {i : Nat} {a : α} (h : l[i]? = some a) : l.set i a = l := by
  obtain ⟨hi, rfl⟩ := List.getElem?_eq_some_iff.mp h
  exact set_getElem_self hi

/-- the entry at `j` was copied to `i`; writing `x` over the original amounts to writing `x` at `i` -/
theorem set_set_perm {l : List α} {i j : Nat} {p x : α} (hj : l[j]? = some p) (hij : i ≠ j)
    (hi : i < l.length) : ((l.set i p).set j x).Perm (l.set i x) := by
  obtain ⟨hjl, rfl⟩ := List.getElem?_eq_some_iff.mp hj
  have hj' : j < (l.set i l[j]).length := by simpa using hjl
  -- both sides are `x` and, but for one copy of `l[j]`, the entries of `l.set i l[j]`
  have h1 := getElem_cons_eraseIdx_perm hj'
  rw [getElem_set_of_ne hij] at h1
  exact (set_perm_cons_eraseIdx hj' x).trans
    ((((h1.trans (set_perm_cons_eraseIdx hi _)).cons_inv).cons x).trans (set_perm_cons_eraseIdx hi x).symm)

theorem getElem?_set' {l : List α} {i j : Nat} {v : α} (hi : i < l.length) :
    (l.set i v)[j]? = if j = i then some v else l[j]? := by
  rw [getElem?_set, if_pos hi]
  exact if_congr eq_comm rfl rfl

namespace Select

theorem swap_perm {l l' : List α} {i j : Nat} (h : swap l i j = some l') : l'.Perm l := by
  unfold swap at h
  split at h
  · rename_i a b hi hj
    cases h
    by_cases hij : i = j
    · subst hij
      rw [hi] at hj; cases hj
      rw [set_self_of_getElem? hi, set_self_of_getElem? hi]
    · have := set_set_perm (x := a) hj hij (lt_length_of_getElem? hi)
      rwa [set_self_of_getElem? hi] at this
  · cases h

theorem partLoop_conserves (cmp : Cmp3 ε α) (pivot : α) (k : Nat) (items : List α) (j ret n : Nat) :
    Conserves (fun p : List α × Nat => p.1) items (partLoop cmp pivot k items j ret n) := by
  induction k generalizing items j ret n with
  | zero => exact Perm.refl _
  | succ k ih =>
    simp only [partLoop]
    cases items[j]? with
    | none => trivial
    | some x =>
      simp only
      cases cmp n x pivot with
      | error e => exact Perm.refl _
      | ok c =>
        simp only
        split
        · cases hs : swap items j ret with
          | none => trivial
          | some items' => exact (ih items' _ _ _).perm (swap_perm hs)
        · exact ih items _ _ _

theorem choosePivot_conserves (cmp : Cmp3 ε α) (items : List α) (left right n : Nat) :
    Conserves (fun _ : Nat => items) items (choosePivot cmp items left right n) := by
  unfold choosePivot
  simp only
  split
  · split
    · exact Perm.refl _
    · split
      · exact Perm.refl _
      · split
        · exact Perm.refl _
        · split
          · exact Perm.refl _
          · split <;> exact Perm.refl _
  · trivial

theorem partition_conserves (cmp : Cmp3 ε α) (items : List α) (left right n : Nat) :
    Conserves (fun p : List α × Nat => p.1) items (partition cmp items left right n) := by
  unfold partition
  split
  · exact Perm.refl _
  · refine Tri.bind (choosePivot_conserves cmp items left right n) fun piv n1 _ => ?_
    cases hs : swap items piv right with
    | none => trivial
    | some items1 =>
      simp only
      cases items1[right]? with
      | none => trivial
      | some pivot =>
        simp only
        refine Tri.bind ((partLoop_conserves cmp pivot _ items1 left left n1).perm (swap_perm hs))
          fun st n2 hst => ?_
        cases hs2 : swap st.1 st.2 right with
        | none => trivial
        | some items2 => exact (swap_perm hs2).trans hst

def Post (arr : List α) : Res ε α (α × List α) → Prop
  | .ok v _ => v.2.Perm arr ∧ v.1 ∈ arr
  | .fail _ buf _ => buf.Perm arr
  | .panic => True

theorem Post.perm {arr arr' : List α} {r : Res ε α (α × List α)} (h : Post arr' r)
    (hp : arr'.Perm arr) : Post arr r := by
  cases r with
  | ok v n => exact ⟨h.1.trans hp, hp.subset h.2⟩
  | fail e b n => exact Perm.trans h hp
  | panic => trivial

theorem selectLoop_post (cmp : Cmp3 ε α) (target fuel : Nat) (arr : List α) (left right n : Nat) :
    Post arr (selectLoop cmp target fuel arr left right n) := by
  induction fuel generalizing arr left right n with
  | zero => trivial
  | succ fuel ih =>
    simp only [selectLoop]
    have hp := partition_conserves cmp arr left right n
    cases hr : partition cmp arr left right n with
    | panic => trivial
    | fail e b m => rw [hr] at hp; exact hp
    | ok st n1 =>
      rw [hr] at hp
      obtain ⟨arr', p⟩ := st
      refine Post.perm ?_ hp
      simp only [Res.bind]
      split
      · split
        · exact ⟨Perm.refl _, mem_of_getElem? ‹_›⟩
        · trivial
      · split
        · split
          · trivial
          · exact ih _ _ _ _
        · exact ih _ _ _ _

end Select

namespace Heap

theorem parent_left (h : Nat) : (2 * h + 1 - 1) / 2 = h := by omega

theorem parent_right (h : Nat) : (2 * h + 1 + 1 - 1) / 2 = h := by omega

theorem parent_lt {c : Nat} (hc : 0 < c) : (c - 1) / 2 < c := by omega

/-- the fuel invariant `len ≤ hole + fuel` of the sift-down loops when the hole moves to a child -/
theorem fuel_of_child {len h c fuel : Nat} (hf : len ≤ h + (fuel + 1)) (hc : h < c) : len ≤ c + fuel := by
  omega

theorem child_cases {c h : Nat} (hc : 0 < c) (hp : (c - 1) / 2 = h) :
    c = 2 * h + 1 ∨ c = 2 * h + 1 + 1 := by omega

theorem siftUp_conserves (le : Cmp ε α) (start fuel : Nat) (data : List α) (elt : α) (pos n : Nat)
    (hpos : pos < data.length) :
    Conserves (fun p : List α × Nat => p.1) (data.set pos elt) (siftUp le start fuel data elt pos n) := by
  induction fuel generalizing data pos n with
  | zero => trivial
  | succ fuel ih =>
    simp only [siftUp]
    split
    · rename_i hgt
      cases hp : data[(pos - 1) / 2]? with
      | none => trivial
      | some p =>
        simp only
        cases le n elt p with
        | error e => exact Perm.refl _
        | ok c =>
          cases c with
          | true => exact Perm.refl _
          | false =>
            have hpl := lt_length_of_getElem? hp
            refine (ih (data.set pos p) ((pos - 1) / 2) (n + 1) (by simpa using hpl)).perm ?_
            exact set_set_perm hp (Nat.ne_of_gt (parent_lt (Nat.zero_lt_of_lt hgt))) hpos
    · exact Perm.refl _

/-- `sift_down_range`'s loop: with `elt` put into the hole the array is the old one with `elt` at the old hole -/
theorem siftDownLoop_conserves (le : Cmp ε α) (elt : α) (fuel : Nat) (data : List α)
    (hole child n : Nat) (hh : hole < data.length) (hc : hole < child) :
    Tri (fun st _ => (st.1.set st.2.1 elt).Perm (data.set hole elt) ∧ st.2.1 < st.1.length ∧ st.2.1 < st.2.2)
      (fun _ b _ => b.Perm (data.set hole elt)) True (siftDownLoop le elt fuel data hole child n) := by
  induction fuel generalizing data hole child n with
  | zero => trivial
  | succ fuel ih =>
    simp only [siftDownLoop]
    split
    · split
      · split
        · exact Perm.refl _
        · rename_i c _
          have hch : hole < (if c = true then child + 1 else child) := by
            split
            · exact Nat.lt_succ_of_lt hc
            · exact hc
          generalize (if c = true then child + 1 else child) = ch at hch ⊢
          cases hv : data[ch]? with
          | none => trivial
          | some v =>
            have hp := set_set_perm (x := elt) hv (Nat.ne_of_lt hch) hh
            exact Tri.mono (ih (data.set hole v) ch _ _ (by simpa using lt_length_of_getElem? hv) (by omega))
              (fun _ _ q => ⟨q.1.trans hp, q.2⟩) (fun _ _ _ q => q.trans hp) id
      · trivial
    · exact ⟨Perm.refl _, hh, hc⟩

theorem siftDownToBottom_conserves (le : Cmp ε α) (data : List α) (pos n : Nat) :
    Conserves id data (siftDownToBottom le data pos n) := by
  unfold siftDownToBottom
  cases he : data[pos]? with
  | none => trivial
  | some elt =>
    simp only
    have hl := siftDownLoop_conserves le elt (data.length + 1) data pos (2 * pos + 1) n
      (lt_length_of_getElem? he) (by omega)
    rw [set_self_of_getElem? he] at hl
    refine Tri.bind hl fun st n1 hst => ?_
    obtain ⟨d, hole, child⟩ := st
    obtain ⟨q1, q2, q3⟩ := hst
    simp only at q1 q2 q3 ⊢
    split
    · trivial
    · -- a last single entry below the hole goes up like the others; then `sift_up` from where the hole is
      have up : ∀ q : List α × Nat, q.2 < q.1.length ∧ (q.1.set q.2 elt).Perm data →
          Conserves id data ((siftUp le pos (q.2 + 1) q.1 elt q.2 n1).map (·.1)) := fun q hq =>
        Tri.map ((siftUp_conserves le pos _ q.1 elt q.2 n1 hq.1).perm hq.2)
      refine up _ ?_
      split
      · split
        · rename_i v hv
          exact ⟨by simpa using lt_length_of_getElem? hv, (set_set_perm hv (Nat.ne_of_lt q3) q2).trans q1⟩
        · exact ⟨q2, q1⟩
      · exact ⟨q2, q1⟩

theorem push_conserves (le : Cmp ε α) (data : List α) (item : α) (n : Nat) :
    Conserves id (data ++ [item]) (push le data item n) := by
  unfold push
  refine Tri.map ?_
  have := siftUp_conserves le 0 (data.length + 1) (data ++ [item]) item data.length n (by simp)
  have hs : (data ++ [item]).set data.length item = data ++ [item] := by
    apply set_self_of_getElem?; simp
  rw [hs] at this
  exact this

theorem pop_cons_concat (le : Cmp ε α) (root : α) (t : List α) (last : α) (n : Nat) :
    pop le (root :: t ++ [last]) n =
      (siftDownToBottom le (last :: t) 0 n).map fun d' => (some root, d') := by
  simp only [pop, getLast?_concat, dropLast_concat, set_cons_zero]

theorem perm_root_concat (root : α) {d t : List α} {last : α} (h : d.Perm (last :: t)) :
    (root :: d).Perm (root :: t ++ [last]) :=
  (h.cons root).trans (by simpa using (perm_append_comm (l₁ := [last]) (l₂ := t)).cons root)

end Heap

def Heap.PopPost (data : List α) : Res ε α (Option α × List α) → Prop
  | .ok (some x, rest) _ => (x :: rest).Perm data
  | .ok (none, rest) _ => data = [] ∧ rest = []
  | .fail _ buf _ => ∃ root, data.head? = some root ∧ (root :: buf).Perm data
  | .panic => True

/-! ## `quickselect`: no index leaves the array, whatever the comparator does (after 9e13c00), and a
pure total-preorder comparator gets the element of the rank asked for.

Both come from one reading of the code, under a proposition `O`, "the comparator computes the order
`c3`": what is said about the order is said under `O`, and only without `O` can there be a failure.
With `O := False` what remains is that the indices stay inside the array. -/

def Sat (F : Prop) (Q : β → Prop) : Res ε α β → Prop := Tri (fun v _ => Q v) (fun _ _ _ => F) False

namespace Select

theorem swap_some {l : List α} {i j : Nat} (hi : i < l.length) (hj : j < l.length) :
    ∃ l', swap l i j = some l' ∧ l'.length = l.length := by
  unfold swap
  rw [getElem?_eq_getElem hi, getElem?_eq_getElem hj]
  exact ⟨_, rfl, by simp⟩

theorem swap_length {l l' : List α} {i j : Nat} (h : swap l i j = some l') : l'.length = l.length := by
  unfold swap at h
  split at h
  · cases h; simp
  · cases h

theorem swap_get {l l' : List α} {i j : Nat} (h : swap l i j = some l') (k : Nat) :
    l'[k]? = if k = j then l[i]? else if k = i then l[j]? else l[k]? := by
  unfold swap at h
  split at h
  · rename_i a b hi hj
    cases h
    have hil := lt_length_of_getElem? hi
    have hjl := lt_length_of_getElem? hj
    rw [getElem?_set' (by simpa using hjl), getElem?_set' hil, hi, hj]
  · cases h

theorem swap_get_left {l l' : List α} {i j : Nat} (h : swap l i j = some l') : l'[j]? = l[i]? := by
  rw [swap_get h, if_pos rfl]

theorem swap_get_right {l l' : List α} {i j : Nat} (h : swap l i j = some l') : l'[i]? = l[j]? := by
  rw [swap_get h]
  split
  · rename_i e; rw [e]
  · rw [if_pos rfl]

theorem swap_get_of_ne {l l' : List α} {i j k : Nat} (h : swap l i j = some l') (hi : k ≠ i)
    (hj : k ≠ j) : l'[k]? = l[k]? := by
  rw [swap_get h, if_neg hj, if_neg hi]

structure RangeRel (arr arr' : List α) (left right : Nat) : Prop where
  len : arr'.length = arr.length
  out : ∀ i, (i < left ∨ right < i) → arr'[i]? = arr[i]?
  inn : ∀ j, left ≤ j → j ≤ right → ∃ j', left ≤ j' ∧ j' ≤ right ∧ arr'[j]? = arr[j']?

theorem RangeRel.refl (arr : List α) (left right : Nat) : RangeRel arr arr left right :=
  ⟨rfl, fun _ _ => rfl, fun j h1 h2 => ⟨j, h1, h2, rfl⟩⟩

theorem RangeRel.trans {a b c : List α} {left right : Nat} (h1 : RangeRel a b left right)
    (h2 : RangeRel b c left right) : RangeRel a c left right := by
  refine ⟨h2.len.trans h1.len, fun i hi => (h2.out i hi).trans (h1.out i hi), fun j hl hr => ?_⟩
  obtain ⟨j', a1, a2, a3⟩ := h2.inn j hl hr
  obtain ⟨j'', b1, b2, b3⟩ := h1.inn j' a1 a2
  exact ⟨j'', b1, b2, a3.trans b3⟩

theorem RangeRel.src {arr arr' : List α} {left right : Nat} (hr : RangeRel arr arr' left right) (k : Nat) :
    ∃ k', arr'[k]? = arr[k']? ∧ (k' = k ∨ left ≤ k ∧ k ≤ right ∧ left ≤ k' ∧ k' ≤ right) := by
  by_cases h : left ≤ k ∧ k ≤ right
  · obtain ⟨k', h1, h2, h3⟩ := hr.inn k h.1 h.2
    exact ⟨k', h3, .inr ⟨h.1, h.2, h1, h2⟩⟩
  · exact ⟨k, hr.out k (by omega), .inl rfl⟩

theorem RangeRel.of_swap {l l' : List α} {i j left right : Nat} (h : swap l i j = some l')
    (hi1 : left ≤ i) (hi2 : i ≤ right) (hj1 : left ≤ j) (hj2 : j ≤ right) : RangeRel l l' left right := by
  refine ⟨swap_length h, fun k hk => swap_get_of_ne h (by omega) (by omega), fun k h1 h2 => ?_⟩
  by_cases ej : k = j
  · exact ⟨i, hi1, hi2, ej ▸ swap_get_left h⟩
  · by_cases ei : k = i
    · exact ⟨j, hj1, hj2, ei ▸ swap_get_right h⟩
    · exact ⟨k, h1, h2, swap_get_of_ne h ei ej⟩

def PureSat (Q : β → Prop) : Res ε α β → Prop
  | .ok v _ => Q v
  | .fail _ _ _ => False
  | .panic => False

/-- `c3 a b = -1` "a below b", `= 1` "a above b", anything else "tied" -/
structure TotalPre (c3 : α → α → Int) : Prop where
  anti : ∀ a b, c3 a b = -1 ↔ c3 b a = 1
  le_trans : ∀ a b c, c3 a b ≠ 1 → c3 b c ≠ 1 → c3 a c ≠ 1


section sat
variable {cmp : Cmp3 ε α} {c3 : α → α → Int} {O : Prop}

theorem not_of_error (hp : O → Pure3 cmp c3) {i : Nat} {a b : α} {e : ε} (h : cmp i a b = .error e) :
    ¬O := fun o => by rw [hp o] at h; cases h

theorem eq_of_ok (hp : O → Pure3 cmp c3) {i : Nat} {a b : α} {c : Int} (h : cmp i a b = .ok c) (o : O) :
    c = c3 a b := by rw [hp o] at h; cases h; rfl

def AllIn (p : α → Prop) (l : List α) (lo hi : Nat) : Prop :=
  ∀ i a, lo ≤ i → i < hi → l[i]? = some a → p a

section allIn
variable {p : α → Prop} {l l' : List α} {lo hi : Nat}

theorem AllIn.empty (h : hi ≤ lo) : AllIn p l lo hi :=
  fun i a h1 h2 => by omega

theorem AllIn.of_eq (h : AllIn p l lo hi) (e : ∀ k, lo ≤ k → k < hi → l'[k]? = l[k]?) :
    AllIn p l' lo hi :=
  fun i a h1 h2 hia => h i a h1 h2 (e i h1 h2 ▸ hia)

theorem AllIn.snoc {x : α} (h : AllIn p l lo hi) (hx : l[hi]? = some x) (px : p x) :
    AllIn p l lo (hi + 1) := by
  intro i a h1 h2 hia
  by_cases e : i = hi
  · rw [e, hx] at hia
    cases hia
    exact px
  · exact h i a h1 (by omega) hia

/-- the entries at `lo` and `hi` change places: the first of the range becomes the last of the next -/
theorem AllIn.rotate (h : AllIn p l lo hi) (e1 : l'[hi]? = l[lo]?)
    (e : ∀ k, k ≠ lo → k ≠ hi → l'[k]? = l[k]?) : AllIn p l' (lo + 1) (hi + 1) := by
  intro i a h1 h2 hia
  by_cases ei : i = hi
  · rw [ei, e1] at hia
    exact h lo a (Nat.le_refl _) (by omega) hia
  · rw [e i (by omega) ei] at hia
    exact h i a (by omega) (by omega) hia

end allIn

def Parted (c3 : α → α → Int) (pivot : α) (items : List α) (left ret j : Nat) : Prop :=
  AllIn (c3 · pivot = -1) items left ret ∧ AllIn (c3 · pivot ≠ -1) items ret j

theorem partLoop_sat (hp : O → Pure3 cmp c3) (pivot : α) (left right : Nat) (k : Nat) (items0 items : List α)
    (j ret n : Nat) (h0 : RangeRel items0 items left right) (h1 : left ≤ ret) (h2 : ret ≤ j)
    (h3 : j + k = right) (h4 : right < items.length) (hpv : items[right]? = some pivot)
    (hP : O → Parted c3 pivot items left ret j) :
    Sat (¬O) (fun p : List α × Nat => left ≤ p.2 ∧ p.2 ≤ right ∧ RangeRel items0 p.1 left right ∧
        p.1[right]? = some pivot ∧ (O → Parted c3 pivot p.1 left p.2 right))
      (partLoop cmp pivot k items j ret n) := by
  induction k generalizing items j ret n with
  | zero =>
    obtain rfl : j = right := by omega
    exact ⟨h1, h2, h0, hpv, hP⟩
  | succ k ih =>
    simp only [partLoop]
    have hjr : j < right := by omega
    have h3' : j + 1 + k = right := by omega
    have hj : j < items.length := Nat.lt_trans hjr h4
    have hxj := getElem?_eq_getElem hj
    rw [hxj]
    simp only
    cases hc : cmp n items[j] pivot with
    | error e => exact not_of_error hp hc
    | ok c =>
      simp only
      split
      · -- `items[j]` is below the pivot: it changes places with `items[ret]`, which is not (or is itself)
        rename_i hlt
        obtain ⟨items', hs, hl⟩ := swap_some hj (Nat.lt_of_le_of_lt h2 hj)
        rw [hs]
        have hout : ∀ k, k ≠ ret → k ≠ j → items'[k]? = items[k]? := fun k hr hj => swap_get_of_ne hs hj hr
        have hrr : ret < right := Nat.lt_of_le_of_lt h2 hjr
        refine ih items' (j + 1) (ret + 1) (n + 1)
          (h0.trans (RangeRel.of_swap hs (Nat.le_trans h1 h2) (Nat.le_of_lt hjr) h1 (Nat.le_of_lt hrr)))
          (Nat.le_succ_of_le h1) (Nat.succ_le_succ h2) h3' (hl ▸ h4)
          ((hout right (Nat.ne_of_gt hrr) (Nat.ne_of_gt hjr)).trans hpv)
          fun o => ⟨?_, (hP o).2.rotate (swap_get_right hs) hout⟩
        exact ((hP o).1.of_eq fun k _ hk =>
            hout k (Nat.ne_of_lt hk) (Nat.ne_of_lt (Nat.lt_of_lt_of_le hk h2))).snoc
          ((swap_get_left hs).trans hxj) ((eq_of_ok hp hc o).symm.trans (beq_iff_eq.mp hlt))
      · rename_i hge
        exact ih items (j + 1) ret (n + 1) h0 h1 (Nat.le_succ_of_le h2) h3' h4 hpv
          fun o => ⟨(hP o).1, (hP o).2.snoc hxj fun h => hge (beq_iff_eq.mpr ((eq_of_ok hp hc o).trans h))⟩

theorem mid_bounds {l r : Nat} (h : l ≤ r) : l ≤ (l + r) / 2 ∧ (l + r) / 2 ≤ r := by omega

theorem choosePivot_sat (hp : O → Pure3 cmp c3) (items : List α) (left right n : Nat)
    (hlr : left ≤ right) (hr : right < items.length) :
    Sat (¬O) (fun p : Nat => left ≤ p ∧ p ≤ right) (choosePivot cmp items left right n) := by
  unfold choosePivot
  have hl : left < items.length := Nat.lt_of_le_of_lt hlr hr
  have hm : (left + right) / 2 < items.length := Nat.lt_of_le_of_lt (mid_bounds hlr).2 hr
  simp only [getElem?_eq_getElem hl, getElem?_eq_getElem hr, getElem?_eq_getElem hm]
  split
  · exact not_of_error hp ‹_›
  · split
    · exact not_of_error hp ‹_›
    · split
      · exact ⟨Nat.le_refl _, hlr⟩
      · split
        · exact not_of_error hp ‹_›
        · split
          · exact ⟨hlr, Nat.le_refl _⟩
          · exact mid_bounds hlr

/-- what `partition` establishes; `x`, the entry at the returned index, is the pivot -/
def PartPost (O : Prop) (c3 : α → α → Int) (items : List α) (left right : Nat) (st : List α × Nat) : Prop :=
  left ≤ st.2 ∧ st.2 ≤ right ∧ RangeRel items st.1 left right ∧
  (O → ∀ x, st.1[st.2]? = some x →
    AllIn (c3 · x = -1) st.1 left st.2 ∧ AllIn (c3 · x ≠ -1) st.1 (st.2 + 1) (right + 1))

theorem partition_sat (hp : O → Pure3 cmp c3) (items : List α) (left right n : Nat)
    (hlr : left ≤ right) (hr : right < items.length) :
    Sat (¬O) (PartPost O c3 items left right) (partition cmp items left right n) := by
  unfold partition
  split
  · rename_i h
    subst h
    exact ⟨Nat.le_refl _, Nat.le_refl _, RangeRel.refl _ _ _,
      fun _ x _ => ⟨.empty (Nat.le_refl _), .empty (Nat.le_refl _)⟩⟩
  · refine Tri.bind (choosePivot_sat hp items left right n hlr hr) fun piv n1 hpiv => ?_
    obtain ⟨items1, hs, hl1⟩ := swap_some (l := items) (i := piv) (j := right) (Nat.lt_of_le_of_lt hpiv.2 hr) hr
    rw [hs]
    have hr1 : right < items1.length := hl1 ▸ hr
    have hpv := getElem?_eq_getElem hr1
    simp only [hpv]
    refine Tri.bind (partLoop_sat hp items1[right] left right (right - left) items items1 left left n1
      (RangeRel.of_swap hs hpiv.1 hpiv.2 hlr (Nat.le_refl _)) (Nat.le_refl _) (Nat.le_refl _)
      (Nat.add_sub_of_le hlr) hr1 hpv fun _ => ⟨.empty (Nat.le_refl _), .empty (Nat.le_refl _)⟩) fun st n2 hst => ?_
    obtain ⟨q1, q2, q3, q4, q5⟩ := hst
    have hr2 : right < st.1.length := q3.len ▸ hr
    obtain ⟨items2, hs2, hl2⟩ := swap_some (l := st.1) (i := st.2) (j := right) (Nat.lt_of_le_of_lt q2 hr2) hr2
    rw [hs2]
    refine ⟨q1, q2, q3.trans (RangeRel.of_swap hs2 q1 q2 hlr (Nat.le_refl _)), fun o x hx => ?_⟩
    -- the pivot changes places with the first entry that is not below it (or stays)
    obtain rfl : items1[right] = x :=
      Option.some.inj (q4.symm.trans ((swap_get_right hs2).symm.trans hx))
    exact ⟨(q5 o).1.of_eq fun k _ hk =>
        swap_get_of_ne hs2 (Nat.ne_of_lt hk) (Nat.ne_of_lt (Nat.lt_of_lt_of_le hk q2)),
      (q5 o).2.rotate (swap_get_left hs2) fun k => swap_get_of_ne hs2⟩

theorem TotalPre.refl (h : TotalPre c3) (a : α) : c3 a a ≠ 1 := by
  intro e
  have := (h.anti a a).mpr e
  omega

theorem TotalPre.le_of_not_lt (h : TotalPre c3) {a b : α} (e : c3 a b ≠ -1) : c3 b a ≠ 1 :=
  fun e' => e ((h.anti a b).mpr e')

/-- no entry before position `m` is above an entry at or after `m` -/
def Cut (c3 : α → α → Int) (arr : List α) (m : Nat) : Prop :=
  ∀ i j a b, i < m → m ≤ j → arr[i]? = some a → arr[j]? = some b → c3 a b ≠ 1

theorem Cut.of_rangeRel {arr arr' : List α} {left right m : Nat} (h : Cut c3 arr m)
    (hr : RangeRel arr arr' left right) (hm : m ≤ left ∨ right < m) : Cut c3 arr' m := by
  intro i j a b hi hj hia hjb
  obtain ⟨i', ei, hi'⟩ := hr.src i
  obtain ⟨j', ej, hj'⟩ := hr.src j
  rw [ei] at hia
  rw [ej] at hjb
  exact h i' j' a b (by omega) (by omega) hia hjb

theorem part_sep (ht : TotalPre c3) {arr' : List α} {left right p : Nat} {x : α}
    (hl : Cut c3 arr' left) (hr : Cut c3 arr' (right + 1)) (hpl : left ≤ p) (hpr : p ≤ right)
    (hx : arr'[p]? = some x)
    (hlt : AllIn (c3 · x = -1) arr' left p) (hge : AllIn (c3 · x ≠ -1) arr' (p + 1) (right + 1)) :
    (∀ i a, i ≤ p → arr'[i]? = some a → c3 a x ≠ 1) ∧ (∀ j b, p ≤ j → arr'[j]? = some b → c3 x b ≠ 1) := by
  constructor
  · intro i a hi hia
    by_cases h1 : i < left
    · exact hl i p a x h1 hpl hia hx
    · by_cases h2 : i = p
      · subst h2; rw [hx] at hia; cases hia; exact ht.refl _
      · have := hlt i a (by omega) (by omega) hia
        omega
  · intro j b hj hjb
    by_cases h1 : right < j
    · exact hr p j x b (Nat.lt_succ_of_le hpr) h1 hx hjb
    · by_cases h2 : j = p
      · subst h2; rw [hx] at hjb; cases hjb; exact ht.refl _
      · exact ht.le_of_not_lt (hge j b (by omega) (by omega) hjb)

/-- an entry that nothing before it is above and that is above nothing after it cuts the array on either side -/
theorem Cut.of_sep (ht : TotalPre c3) {arr : List α} {p : Nat} {x : α}
    (h1 : ∀ i a, i ≤ p → arr[i]? = some a → c3 a x ≠ 1) (h2 : ∀ j b, p ≤ j → arr[j]? = some b → c3 x b ≠ 1) :
    Cut c3 arr p ∧ Cut c3 arr (p + 1) :=
  ⟨fun i j a b hi hj hia hjb => ht.le_trans a x b (h1 i a (Nat.le_of_lt hi) hia) (h2 j b hj hjb),
    fun i j a b hi hj hia hjb =>
      ht.le_trans a x b (h1 i a (Nat.le_of_lt_succ hi) hia) (h2 j b (Nat.le_of_succ_le hj) hjb)⟩

def SelPost (c3 : α → α → Int) (target : Nat) (st : α × List α) : Prop :=
  st.2[target]? = some st.1 ∧ (∀ i a, i ≤ target → st.2[i]? = some a → c3 a st.1 ≠ 1) ∧
    (∀ i a, target ≤ i → st.2[i]? = some a → c3 a st.1 ≠ -1)

theorem selectLoop_sat (hp : O → Pure3 cmp c3) (ht : O → TotalPre c3) (target fuel : Nat)
    (arr : List α) (left right n : Nat) (hlt : left ≤ target) (htr : target ≤ right)
    (hr : right < arr.length) (hf : right < left + fuel) (hL : O → Cut c3 arr left)
    (hR : O → Cut c3 arr (right + 1)) :
    Sat (¬O) (fun st => O → SelPost c3 target st) (selectLoop cmp target fuel arr left right n) := by
  induction fuel generalizing arr left right n with
  | zero => omega
  | succ fuel ih =>
    simp only [selectLoop]
    refine Tri.bind (partition_sat hp arr left right n (Nat.le_trans hlt htr) hr) fun st n1 hst => ?_
    obtain ⟨arr', p⟩ := st
    obtain ⟨q1, q2, q3, q4⟩ := hst
    simp only at q1 q2 q3 q4 ⊢
    have hlen : arr'.length = arr.length := q3.len
    have hpl : p < arr'.length := hlen ▸ Nat.lt_of_le_of_lt q2 hr
    have hx := getElem?_eq_getElem hpl
    have hL' := fun o => (hL o).of_rangeRel q3 (.inl (Nat.le_refl _))
    have hR' := fun o => (hR o).of_rangeRel q3 (.inr (Nat.lt_succ_self _))
    have sep := fun o => part_sep (ht o) (hL' o) (hR' o) q1 q2 hx (q4 o _ hx).1 (q4 o _ hx).2
    -- the search goes on in one side of `p`, which `arr'[p]` cuts off from the other
    have cut := fun o => Cut.of_sep (ht o) (sep o).1 (sep o).2
    by_cases hpt : p = target
    · subst hpt
      rw [if_pos rfl, hx]
      exact fun o => ⟨hx, (sep o).1, fun i a hi hia e => (sep o).2 i a hi hia (((ht o).anti a _).mp e)⟩
    · rw [if_neg hpt]
      by_cases hgt : p > target
      · have hp1 : p - 1 + 1 = p := Nat.sub_add_cancel (Nat.zero_lt_of_lt hgt)
        rw [if_pos hgt, if_neg (Nat.ne_of_gt (Nat.zero_lt_of_lt hgt))]
        exact ih arr' left (p - 1) n1 hlt (Nat.le_sub_one_of_lt hgt) (Nat.lt_of_le_of_lt (Nat.sub_le _ _) hpl)
          (by omega) hL' fun o => hp1 ▸ (cut o).1
      · rw [if_neg hgt]
        exact ih arr' (p + 1) right n1 (Nat.lt_of_le_of_ne (Nat.le_of_not_gt hgt) hpt) htr (hlen ▸ hr) (by omega)
          (fun o => (cut o).2) hR'

theorem quickselect_sat (hp : O → Pure3 cmp c3) (ht : O → TotalPre c3) (arr : List α) (target : Nat)
    (hk : target < arr.length) :
    Sat (¬O) (fun st => O → SelPost c3 target st) (quickselect cmp arr target) := by
  unfold quickselect
  rw [if_neg (by omega)]
  exact selectLoop_sat hp ht target (arr.length + 1) arr 0 (arr.length - 1) 0 (Nat.zero_le _) (by omega)
    (by omega) (by omega) (fun _ i j a b hi => by omega) fun _ i j a b hi hj hia hjb => by
      have := lt_length_of_getElem? hjb
      omega

theorem countP_eq_add_countP_ne (l : List α) (f : α → Int) (v : Int) :
    l.countP (fun y => decide (f y = v)) + l.countP (fun y => decide (f y ≠ v)) = l.length := by
  rw [length_eq_countP_add_countP (fun y => decide (f y = v))]
  exact congrArg _ (countP_congr fun y _ => by simp)

theorem countP_le_of_tail_false (P : α → Bool) (l : List α) (p : Nat)
    (h : ∀ i a, p ≤ i → l[i]? = some a → P a = false) : l.countP P ≤ p := by
  have h0 : (l.drop p).countP P = 0 := countP_eq_zero.mpr fun a ha => by
    obtain ⟨i, hi⟩ := getElem?_of_mem ha
    rw [getElem?_drop] at hi
    simp [h _ a (Nat.le_add_right p i) hi]
  rw [← take_append_drop p l, countP_append, h0]
  exact Nat.le_trans countP_le_length (length_take_le p l)

theorem lt_countP_of_head_true (P : α → Bool) (l : List α) (p : Nat) (hp : p < l.length)
    (h : ∀ i a, i ≤ p → l[i]? = some a → P a = true) : p < l.countP P := by
  have h1 : (l.take (p + 1)).countP P = (l.take (p + 1)).length := countP_eq_length.mpr fun a ha => by
    obtain ⟨i, hi⟩ := getElem?_of_mem ha
    rw [getElem?_take] at hi
    split at hi
    · exact h i a (Nat.le_of_lt_succ ‹_›) hi
    · cases hi
  rw [← take_append_drop (p + 1) l, countP_append, h1, length_take, Nat.min_eq_left hp]
  exact Nat.lt_of_lt_of_le (Nat.lt_succ_self p) (Nat.le_add_right _ _)

theorem int_totalPre : TotalPre (fun a b : Int => if a < b then -1 else if b < a then 1 else 0) := by
  have neg : ∀ a b : Int, (if a < b then -1 else if b < a then 1 else 0 : Int) = -1 ↔ a < b :=
    fun a b => by split <;> [skip; split] <;> omega
  have pos : ∀ a b : Int, (if a < b then -1 else if b < a then 1 else 0 : Int) = 1 ↔ b < a :=
    fun a b => by split <;> [skip; split] <;> omega
  exact ⟨fun a b => by rw [neg, pos], fun a b c => by simp only [ne_eq, pos]; omega⟩

end sat
end Select
/-! ## `TryHeap`: the heap property (pure total-preorder `is_le`), `n_largest` / `n_smallest` -/

namespace Heap
open Select (PureSat)

structure TotalLe (r : α → α → Bool) : Prop where
  total : ∀ a b, r a b = true ∨ r b a = true
  trans : ∀ a b c, r a b = true → r b c = true → r a c = true

def HeapAt (r : α → α → Bool) (d : List α) (i : Nat) : Prop :=
  ∀ c p, d[i]? = some c → d[(i - 1) / 2]? = some p → r c p = true

def HeapInv (r : α → α → Bool) (d : List α) : Prop := ∀ i, 0 < i → HeapAt r d i

section heap
variable {r : α → α → Bool}

theorem TotalLe.refl (ht : TotalLe r) (a : α) : r a a = true := (ht.total a a).elim id id

theorem TotalLe.of_not (ht : TotalLe r) {a b : α} (h : r a b = false) : r b a = true :=
  (ht.total a b).resolve_left (by simp [h])

/-- the heap property but for the entry at `h`, whatever it is: every other entry is `is_le` its parent's, the
entries below `h` are `is_le` the one above `h` (the state while a hole travels through the array) -/
def Hole (r : α → α → Bool) (d : List α) (h : Nat) : Prop :=
  (∀ i, 0 < i → i ≠ h → (i - 1) / 2 ≠ h → HeapAt r d i) ∧
  ∀ c x g, 0 < h → 0 < c → (c - 1) / 2 = h → d[c]? = some x → d[(h - 1) / 2]? = some g → r x g = true

def Below (r : α → α → Bool) (d : List α) (h : Nat) (x : α) : Prop :=
  ∀ c y, 0 < c → (c - 1) / 2 = h → d[c]? = some y → r y x = true

theorem Below.of_leaf {d : List α} {h : Nat} (hl : d.length ≤ 2 * h + 1) (x : α) : Below r d h x := by
  intro c y _ hc hy
  have := lt_length_of_getElem? hy
  omega

theorem heapAt_write {d d' : List α} {h i : Nat} {x : α}
    (hd' : ∀ k, d'[k]? = if k = h then some x else d[k]?) (hi : 0 < i)
    (h1 : i = h → ∀ g, d[(h - 1) / 2]? = some g → r x g = true)
    (h2 : (i - 1) / 2 = h → ∀ y, d[i]? = some y → r y x = true)
    (h3 : i ≠ h → (i - 1) / 2 ≠ h → HeapAt r d i) : HeapAt r d' i := by
  intro c q hc hq
  rw [hd'] at hc hq
  by_cases e1 : i = h
  · subst e1
    rw [if_pos rfl] at hc
    rw [if_neg (Nat.ne_of_lt (parent_lt hi))] at hq
    cases hc
    exact h1 rfl q hq
  · rw [if_neg e1] at hc
    by_cases e2 : (i - 1) / 2 = h
    · rw [if_pos e2] at hq
      cases hq
      exact h2 e2 c hc
    · rw [if_neg e2] at hq
      exact h3 e1 e2 c q hc hq

theorem Hole.down {d d' : List α} {h ch : Nat} {v : α} (hH : Hole r d h) (hch : 0 < ch)
    (hp : (ch - 1) / 2 = h) (hv : d[ch]? = some v)
    (hother : ∀ o w, 0 < o → (o - 1) / 2 = h → o ≠ ch → d[o]? = some w → r w v = true)
    (hd' : ∀ i, d'[i]? = if i = h then some v else d[i]?) : Hole r d' ch := by
  have hlt : h < ch := hp ▸ parent_lt hch
  refine ⟨fun i hi hic _ => heapAt_write hd' hi (fun e g hg => hH.2 ch v g (e ▸ hi) hch hp hv hg)
    (fun e y hy => hother i y hi e hic hy) (hH.1 i hi), fun c x g _ hc hcp hx hg => ?_⟩
  -- below the new hole nothing has changed, above it is `v`
  have hne : c ≠ h := Nat.ne_of_gt (Nat.lt_trans hlt (hcp ▸ parent_lt hc))
  rw [hd', if_neg hne] at hx
  rw [hp, hd', if_pos rfl] at hg
  cases hg
  exact hH.1 c hc hne (hcp ▸ Nat.ne_of_gt hlt) x v hx (hcp ▸ hv)

theorem Hole.below_up (ht : TotalLe r) {d d' : List α} {h : Nat} {p x : α} (hH : Hole r d h) (hh : 0 < h)
    (hp : d[(h - 1) / 2]? = some p) (hpx : r p x = true)
    (hd' : ∀ i, d'[i]? = if i = h then some p else d[i]?) : Below r d' ((h - 1) / 2) x := by
  intro c y hc hcp hy
  rw [hd'] at hy
  split at hy
  · cases hy; exact hpx
  · rename_i e
    exact ht.trans _ _ _ (hH.1 c hc e (hcp ▸ Nat.ne_of_lt (parent_lt hh)) y p hy (hcp ▸ hp)) hpx

theorem Hole.up (ht : TotalLe r) {d d' : List α} {h : Nat} {p : α} (hH : Hole r d h) (hh : 0 < h)
    (hp : d[(h - 1) / 2]? = some p) (hd' : ∀ i, d'[i]? = if i = h then some p else d[i]?) :
    Hole r d' ((h - 1) / 2) := by
  have hlt := Nat.ne_of_lt (parent_lt hh)
  refine ⟨fun i hi _ hpc => heapAt_write hd' hi (fun e => absurd (e ▸ rfl) hpc)
    (fun e y hy => hH.2 i y p hh hi e hy hp) (hH.1 i hi), fun c x g hpar hc hcp hx hg => ?_⟩
  -- `p` was `is_le` what is above it
  have hlt2 := Nat.ne_of_lt (Nat.lt_trans (parent_lt hpar) (parent_lt hh))
  rw [hd', if_neg hlt2] at hg
  exact hH.below_up ht hh hp (hH.1 _ hpar hlt hlt2 p g hp hg) hd' c x hc hcp hx

theorem Hole.fill {d d' : List α} {h : Nat} {x : α} (hH : Hole r d h) (hb : Below r d h x)
    (ha : 0 < h → ∀ g, d[(h - 1) / 2]? = some g → r x g = true)
    (hd' : ∀ i, d'[i]? = if i = h then some x else d[i]?) : HeapInv r d' :=
  fun i hi => heapAt_write hd' hi (fun e => ha (e ▸ hi)) (fun e y => hb i y hi e) (hH.1 i hi)

/-- an array that agrees with a heap away from `h`, with nothing below `h`: an edge that does not touch
`h` is an edge of the heap -/
theorem Hole.of_heapInv {d d' : List α} {h : Nat} (hd : HeapInv r d)
    (e : ∀ i c, i ≠ h → d'[i]? = some c → d[i]? = some c)
    (hleaf : ∀ c x, 0 < h → (c - 1) / 2 = h → d'[c]? ≠ some x) : Hole r d' h :=
  ⟨fun i hi hne hpne c p h1 h2 => hd i hi c p (e i c hne h1) (e _ p hpne h2),
    fun c x _ hh _ hc hx => absurd hx (hleaf c x hh hc)⟩

theorem siftUp_heap {le : Cmp ε α} (hp : Pure le r) (ht : TotalLe r) (fuel : Nat) (data : List α)
    (elt : α) (pos n : Nat) (hpos : pos < data.length) (hf : pos < fuel) (hH : Hole r data pos)
    (hb : Below r data pos elt) :
    PureSat (fun st : List α × Nat => HeapInv r st.1) (siftUp le 0 fuel data elt pos n) := by
  induction fuel generalizing data pos n with
  | zero => omega
  | succ fuel ih =>
    simp only [siftUp]
    split
    · rename_i hgt
      have hpar : (pos - 1) / 2 < data.length := Nat.lt_trans (parent_lt hgt) hpos
      have hdp := getElem?_eq_getElem hpar
      rw [hdp]
      simp only [hp n]
      cases hc : r elt data[(pos - 1) / 2] with
      | true => exact hH.fill hb (fun _ g hg => by rw [hdp] at hg; cases hg; exact hc) fun i => getElem?_set' hpos
      | false =>
        have hd' := fun i => getElem?_set' (v := data[(pos - 1) / 2]) (j := i) hpos
        exact ih _ _ _ (by simpa using hpar) (Nat.lt_of_lt_of_le (parent_lt hgt) (Nat.le_of_lt_succ hf))
          (hH.up ht hgt hdp hd')
          (hH.below_up ht hgt hdp (ht.of_not hc) hd')
    · rename_i hle
      exact hH.fill hb (fun h => absurd h hle) fun i => getElem?_set' hpos

theorem heapInv_nil (r : α → α → Bool) : HeapInv r ([] : List α) := by
  intro i _ c p h; simp at h

theorem push_heap {le : Cmp ε α} (hp : Pure le r) (ht : TotalLe r) (data : List α) (item : α)
    (n : Nat) (hd : HeapInv r data) :
    PureSat (fun d : List α => HeapInv r d) (push le data item n) := by
  have hlen : (data ++ [item]).length = data.length + 1 := by simp
  refine Tri.map (siftUp_heap hp ht (data.length + 1) (data ++ [item]) item data.length n (hlen ▸ Nat.lt_succ_self _)
    (Nat.lt_succ_self _) (.of_heapInv hd (fun i c hne hi => ?_) fun c x _ hc hx => ?_)
    (Below.of_leaf (by omega) _))
  · have := lt_length_of_getElem? hi
    rwa [getElem?_append_left (by omega)] at hi
  · have := lt_length_of_getElem? hx
    omega


theorem siftDownLoop_heap {le : Cmp ε α} (hp : Pure le r) (ht : TotalLe r) (elt : α) (fuel : Nat)
    (data : List α) (hole n : Nat) (hh : hole < data.length) (hf : data.length ≤ hole + fuel)
    (hH : Hole r data hole) :
    PureSat (fun st : List α × Nat × Nat => Hole r st.1 st.2.1 ∧ st.2.1 < st.1.length ∧
        st.2.2 = 2 * st.2.1 + 1 ∧ st.1.length ≤ st.2.2 + 1)
      (siftDownLoop le elt fuel data hole (2 * hole + 1) n) := by
  induction fuel generalizing data hole n with
  | zero => omega
  | succ fuel ih =>
    simp only [siftDownLoop]
    split
    · have h2 : 2 * hole + 1 + 1 < data.length := by omega
      have h1 := Nat.lt_of_succ_lt h2
      have down : ∀ ch (hch : ch < data.length), 0 < ch → (ch - 1) / 2 = hole →
          (∀ o w, 0 < o → (o - 1) / 2 = hole → o ≠ ch → data[o]? = some w → r w data[ch] = true) →
          PureSat _ (siftDownLoop le elt fuel (data.set hole data[ch]) ch (2 * ch + 1) (n + 1)) :=
        fun ch hch h0 hpar hother => ih _ ch _ (by simpa using hch)
          (by rw [length_set]; exact fuel_of_child hf (hpar ▸ parent_lt h0))
          (hH.down h0 hpar (getElem?_eq_getElem hch) hother fun i => getElem?_set' hh)
      rw [getElem?_eq_getElem h1, getElem?_eq_getElem h2]
      simp only [hp n]
      -- the larger of the two entries below the hole goes up
      cases hcr : r data[2 * hole + 1] data[2 * hole + 1 + 1] with
      | true =>
        rw [if_pos rfl, getElem?_eq_getElem h2]
        refine down _ h2 (Nat.succ_pos _) (parent_right hole) fun o w ho hop hne how => ?_
        obtain rfl := (child_cases ho hop).resolve_right hne
        rw [getElem?_eq_getElem h1] at how
        cases how; exact hcr
      | false =>
        rw [if_neg Bool.false_ne_true, getElem?_eq_getElem h1]
        refine down _ h1 (Nat.succ_pos _) (parent_left hole) fun o w ho hop hne how => ?_
        obtain rfl := (child_cases ho hop).resolve_left hne
        rw [getElem?_eq_getElem h2] at how
        cases how; exact ht.of_not hcr
    · refine ⟨hH, hh, rfl, ?_⟩
      show data.length ≤ 2 * hole + 1 + 1
      omega

theorem siftDownToBottom_heap {le : Cmp ε α} (hp : Pure le r) (ht : TotalLe r) (data : List α)
    (n : Nat) (hne : 0 < data.length) (hH : Hole r data 0) :
    PureSat (HeapInv r) (siftDownToBottom le data 0 n) := by
  unfold siftDownToBottom
  rw [getElem?_eq_getElem hne]
  refine Tri.bind (siftDownLoop_heap hp ht data[0] _ data 0 n hne (by omega) hH) fun st n1 hst => ?_
  obtain ⟨d, hole, child⟩ := st
  simp only at hst ⊢
  obtain ⟨q1, q2, rfl, q4⟩ := hst
  rw [if_neg (Nat.ne_of_gt (Nat.zero_lt_of_lt q2))]
  -- once the hole is at a leaf the travelling entry fits below: `sift_up` takes over
  have leaf : ∀ d2 h2, h2 < d2.length → d2.length ≤ 2 * h2 + 1 → Hole r d2 h2 →
      PureSat (HeapInv r) ((siftUp le 0 (h2 + 1) d2 data[0] h2 n1).map (·.1)) :=
    fun d2 h2 hl hleaf hH2 =>
      Tri.map (siftUp_heap hp ht _ d2 _ h2 n1 hl (Nat.lt_succ_self _) hH2 (Below.of_leaf hleaf _))
  by_cases hcl : 2 * hole + 1 = d.length - 1
  · -- a single entry is left below the hole: it goes up
    have hc : 2 * hole + 1 < d.length := by omega
    rw [if_pos hcl, getElem?_eq_getElem hc]
    simp only
    refine leaf _ _ (by simpa using hc) (by simp; omega) (q1.down (Nat.succ_pos _) (parent_left hole)
      (getElem?_eq_getElem hc) (fun o w ho hop hne' how => ?_) fun i => getElem?_set' q2)
    obtain rfl := (child_cases ho hop).resolve_left hne'
    exact absurd (lt_length_of_getElem? how) (Nat.not_lt_of_le q4)
  · simp only [hcl, ite_false]
    exact leaf d hole q2 (by omega) q1

theorem root_max (ht : TotalLe r) {d : List α} (hd : HeapInv r d) :
    ∀ (i : Nat) (x m : α), d[i]? = some x → d[0]? = some m → r x m = true := by
  intro i
  induction i using Nat.strongRecOn with
  | _ i ih =>
    intro x m hx hm
    by_cases h0 : i = 0
    · subst h0; rw [hx] at hm; cases hm; exact ht.refl _
    · have hi := Nat.pos_of_ne_zero h0
      have hp := getElem?_eq_getElem (Nat.lt_trans (parent_lt hi) (lt_length_of_getElem? hx))
      exact ht.trans _ _ _ (hd i hi x _ hx hp) (ih ((i - 1) / 2) (parent_lt hi) _ m hp hm)

def PopSpec (r : α → α → Bool) (data : List α) (st : Option α × List α) : Prop :=
  match st.1 with
  | none => data = [] ∧ st.2 = []
  | some x => (x :: st.2).Perm data ∧ HeapInv r st.2 ∧ ∀ b ∈ data, r b x = true

theorem pop_spec {le : Cmp ε α} (hp : Pure le r) (ht : TotalLe r) (data : List α) (n : Nat)
    (hd : HeapInv r data) : PureSat (PopSpec r data) (pop le data n) := by
  rcases eq_nil_or_concat' data with rfl | ⟨init, last, rfl⟩
  · exact ⟨rfl, rfl⟩
  cases init with
  | nil => exact ⟨Perm.refl _, heapInv_nil r, fun b hb => by cases mem_singleton.mp hb; exact ht.refl _⟩
  | cons root t =>
    rw [pop_cons_concat]
    have hH : Hole r (last :: t) 0 := by
      refine .of_heapInv hd (fun i c hne hi => ?_) fun _ _ h => absurd h (Nat.lt_irrefl 0)
      obtain ⟨i', rfl⟩ := Nat.exists_eq_succ_of_ne_zero hne
      rw [getElem?_append_left (by simpa using lt_length_of_getElem? hi)]
      exact hi
    refine Tri.map (Tri.post (Tri.and (siftDownToBottom_heap hp ht (last :: t) n (by simp) hH)
      (siftDownToBottom_conserves le (last :: t) 0 n)) fun d' _ hd' => ?_)
    refine ⟨perm_root_concat root hd'.2, hd'.1, fun b hb => ?_⟩
    obtain ⟨i, hi⟩ := getElem?_of_mem hb
    exact root_max ht hd i b root hi rfl

theorem pushAll_heap {le : Cmp ε α} (hp : Pure le r) (ht : TotalLe r) (data xs : List α) (n : Nat)
    (hd : HeapInv r data) :
    PureSat (fun d : List α => HeapInv r d ∧ d.Perm (data ++ xs)) (pushAll le data xs n) := by
  induction xs generalizing data n with
  | nil => exact ⟨hd, by simp⟩
  | cons x xs ih =>
    refine Tri.bind (Tri.and (push_heap hp ht data x n hd) (push_conserves le data x n))
      fun d m hdm => Tri.post (ih d m hdm.1) fun v _ hv => ⟨hv.1, hv.2.trans ?_⟩
    simpa using hdm.2.append_right xs

def PopNSpec (r : α → α → Bool) (data acc : List α) (k : Nat) (st : List α × List α) : Prop :=
  ∃ qs, st.1 = acc.reverse ++ qs ∧ (qs ++ st.2).Perm data ∧ qs.length = min k data.length ∧
    qs.Pairwise (fun a b => r b a = true) ∧ (∀ a ∈ qs, ∀ b ∈ st.2, r b a = true) ∧ HeapInv r st.2

theorem popN_spec {le : Cmp ε α} (hp : Pure le r) (ht : TotalLe r) (k : Nat) (data acc : List α)
    (n : Nat) (hd : HeapInv r data) : PureSat (PopNSpec r data acc k) (popN le k data acc n) := by
  induction k generalizing data acc n with
  | zero => exact ⟨[], by simp, by simp, by simp, Pairwise.nil, by simp, hd⟩
  | succ k ih =>
    simp only [popN]
    refine Tri.bind (pop_spec hp ht data n hd) fun st n1 hst => ?_
    obtain ⟨o, rest⟩ := st
    cases o with
    | none =>
      obtain ⟨rfl, rfl⟩ := hst
      exact ⟨[], by simp, by simp, by simp, Pairwise.nil, by simp, heapInv_nil r⟩
    | some x =>
      obtain ⟨h1, h2, h3⟩ := hst
      simp only at h1 h2 h3 ⊢
      refine Tri.post (ih rest (x :: acc) n1 h2) fun v _ hv => ?_
      obtain ⟨qs, q1, q2, q3, q4, q5, q6⟩ := hv
      -- `x` was the root, and what is popped later or left behind was in the heap then
      have hx : ∀ y ∈ qs ++ v.2, r y x = true :=
        fun y hy => h3 y (h1.subset (mem_cons_of_mem x (q2.subset hy)))
      refine ⟨x :: qs, by simp [q1], (q2.cons x).trans h1, ?_,
        pairwise_cons.mpr ⟨fun a ha => hx a (mem_append_left _ ha), q4⟩, ?_, q6⟩
      · have : data.length = rest.length + 1 := by rw [← h1.length_eq]; simp
        simp only [length_cons, q3, this]; omega
      · intro a ha b hb
        rcases mem_cons.mp ha with rfl | ha
        · exact hx b (mem_append_right _ hb)
        · exact q5 a ha b hb

/-- what `n_largest` / `n_smallest` deliver: the `min n len` entries that nothing left behind exceeds
(w.r.t. `is_le`), each one not exceeded by the later ones -/
def NLargestSpec (r : α → α → Bool) (xs : List α) (k : Nat) (ps : List α) : Prop :=
  ∃ rest, (ps ++ rest).Perm xs ∧ ps.length = min k xs.length ∧ ps.Pairwise (fun a b => r b a = true) ∧
    ∀ a ∈ ps, ∀ b ∈ rest, r b a = true

end heap
end Heap

end XrayModel.Sort
