/-
C15 — helper definitions and lemmas: the representation invariant `Rep.wf`, the list/stream denotation
`den : Rep → Sem` (defined from the structure of the representation alone: concatenation of the parts of a
chain ignores the stored midpoints, a range is the arithmetic progression, …), the relation `Refines r d`
(`len` and `get` of `r` agree with the list `d`; `refines_den`: a well-formed `r` refines `den r`) and the lemmas
about the builtins: those that only read a sequence (copying updates, scans, `nth`, `==`) assume `Refines` and
nothing else of it; `slice` and `chain`, which build representations, re-establish `Rep.wf`.
-/
import XrayModel.Seq
namespace XrayModel.Seq

/-! ## the representation invariant (sequence.rs:75-85) -/

/-- midpoints are the cumulative lengths of the parts, every part but the last is finite, no part is empty,
the total length (the finite parts in front of an infinite last part) fits `usize` -/
def chainOk : List Rep → List Nat → Nat → Prop
  | [r], [], acc => (match r.len with | .fin n => acc + n < USIZE ∧ 0 < n | .inf => acc < USIZE | .panic _ => False)
  | r :: rs, m :: ms, acc => (∃ n, r.len = .fin n ∧ 0 < n ∧ m = acc + n) ∧ chainOk rs ms m
  | _, _, _ => False

mutual
def Rep.wf : Rep → Prop
  | .empty => True
  | .array xs => xs ≠ [] ∧ xs.length < USIZE
  | .range s e st => inI64 s = true ∧ inI64 e = true ∧ inI64 st = true ∧ ((0 < st ∧ s < e) ∨ (st < 0 ∧ e < s))
  | .map r _ => r.wf
  | .mapGet r base _ => r.wf ∧ base.wf
  | .zip rs => wfAll rs ∧ rs ≠ []
  | .chain parts mids => wfAll parts ∧ chainOk parts mids 0 ∧ 2 ≤ parts.length
  | .slice r a b => r.wf ∧ a < USIZE ∧
      (match b with
       | some e => a < e ∧ (match r.len with | .fin n => e ≤ n | .inf => e < USIZE | .panic _ => False)
       | none => r.len = .inf)
  | .count => True
def wfAll : List Rep → Prop
  | [] => True
  | r :: rs => r.wf ∧ wfAll rs
end

/-! ## denotation: a finite or infinite list, as (length, element function) -/

structure Sem where
  len : Option Nat
  el : Nat → Res Val

def oob : Res Val := .err "index out of bounds"

def toLen : Option Nat → Len
  | some n => .fin n
  | none => .inf

def optValid : Option Nat → Nat → Prop
  | some n, i => i < n
  | none, _ => True

def Sem.valid (s : Sem) (i : Nat) : Prop := optValid s.len i

def Sem.nil : Sem := ⟨some 0, fun _ => .panic "unreachable"⟩

def Sem.append (a b : Sem) : Sem :=
  match a.len with
  | none => a
  | some n => ⟨b.len.map (n + ·), fun i => if i < n then a.el i else b.el (i - n)⟩

def Sem.concat : List Sem → Sem
  | [] => .nil
  | s :: ss => s.append (Sem.concat ss)

/-- `drop a`, then `take (b - a)`; an infinite list is addressable below 2^64 only -/
def Sem.slice (s : Sem) (a : Nat) (b : Option Nat) : Sem :=
  ⟨b.map (· - a), fun i => if i + a < USIZE then s.el (i + a) else oob⟩

def elemMap (f : PFn) : Res Val → Res Val
  | .ok v => f.app v
  | .err m => .err m
  | .panic m => .panic m

def Sem.index (s : Sem) (j : Int) : Res Val :=
  match valueToIdx (toLen s.len) j with
  | .ok k => s.el k
  | .err m => .err m
  | .panic m => .panic m

def elemGet (base : Sem) (g : IFn) : Res Val → Res Val
  | .ok (.int x) => (match g.app x with
      | .ok j => base.index j
      | .err m => .err m
      | .panic m => .panic m)
  | .ok (.tup _) => .panic "to_primitive: not an int"
  | .err m => .err m
  | .panic m => .panic m

def minOpt : List (Option Nat) → Option Nat
  | [] => none
  | none :: ls => minOpt ls
  | some n :: ls => match minOpt ls with
      | some m => some (min n m)
      | none => some n

def tupAll : List (Res Val) → Res (List Val)
  | [] => .ok []
  | .ok v :: es => (match tupAll es with
      | .ok vs => .ok (v :: vs)
      | .err m => .err m
      | .panic m => .panic m)
  | .err m :: _ => .err m
  | .panic m :: _ => .panic m

def Sem.zip (ss : List Sem) : Sem :=
  ⟨minOpt (ss.map (·.len)), fun i => match tupAll (ss.map (·.el i)) with
      | .ok vs => .ok (.tup vs)
      | .err m => .err m
      | .panic m => .panic m⟩

mutual
def den : Rep → Sem
  | .empty => .nil
  | .array xs => ⟨some xs.length, fun i => match xs[i]? with | some v => .ok v | none => .panic "index out of bounds"⟩
  | .range s e st => ⟨lenOpt (rangeLen s e st), fun i => .ok (.int (s + i * st))⟩
  | .map r f => ⟨(den r).len, fun i => elemMap f ((den r).el i)⟩
  | .mapGet r base g => ⟨(den r).len, fun i => elemGet (den base) g ((den r).el i)⟩
  | .zip rs => Sem.zip (denList rs)
  | .chain parts _ => Sem.concat (denList parts)
  | .slice r a b => Sem.slice (den r) a b
  | .count => ⟨none, fun i => .ok (.int i)⟩
def denList : List Rep → List Sem
  | [] => []
  | r :: rs => den r :: denList rs
end

theorem Sem.valid_some {d : Sem} {n : Nat} (h : d.len = some n) {i : Nat} : d.valid i ↔ i < n := by
  simp only [Sem.valid, h, optValid]

theorem Sem.valid_none {d : Sem} (h : d.len = none) (i : Nat) : d.valid i := by
  simp only [Sem.valid, h, optValid]

theorem Sem.valid_of_le {d : Sem} {i j : Nat} (hj : d.valid j) (h : i ≤ j) : d.valid i := by
  cases hl : d.len with
  | none => exact valid_none hl i
  | some n => rw [valid_some hl] at hj ⊢; omega

/-- the `n = 1 + a / b` multiples `0, b, 2b, …` of `b` that are `≤ a` -/
theorem count_steps (a b : Int) (ha : 0 ≤ a) (hb : 0 < b) :
    ∃ n : Nat, (n : Int) = 1 + a / b ∧ 0 < n ∧ (∀ i : Nat, i < n → i * b ≤ a) ∧ a < n * b ∧
      (n : Int) ≤ a + 1 := by
  have h1 := Int.ediv_mul_le a (Int.ne_of_gt hb)
  have h2 := Int.lt_ediv_add_one_mul_self a hb
  have h3 : 0 ≤ a / b := Int.ediv_nonneg ha (Int.le_of_lt hb)
  have h4 : a / b * 1 ≤ a / b * b := Int.mul_le_mul_of_nonneg_left (by omega) h3
  refine ⟨(1 + a / b).toNat, by omega, by omega, fun i hi => ?_, ?_, by omega⟩
  · have : (i : Int) * b ≤ a / b * b := Int.mul_le_mul_of_nonneg_right (by omega) (by omega)
    omega
  · rw [show (((1 + a / b).toNat : Nat) : Int) = a / b + 1 by omega]; exact h2

theorem rangeLen_pos (s e st : Int) (h : 0 < st) (hse : s < e) :
    ∃ n, rangeLen s e st = .fin n ∧ 0 < n ∧ (∀ i : Nat, i < n → s + i * st < e) ∧ e ≤ s + n * st ∧
      (n : Int) ≤ e - s := by
  obtain ⟨n, hn, hpos, hlt, hge, hb⟩ := count_steps (e - 1 - s) st (by omega) h
  refine ⟨n, ?_, hpos, fun i hi => by have := hlt i hi; omega, by omega, by omega⟩
  simp only [rangeLen, h, hse, and_self, if_true, ← hn, Int.toNat_natCast]

theorem rangeLen_neg (s e st : Int) (h : st < 0) (hse : e < s) :
    ∃ n, rangeLen s e st = .fin n ∧ 0 < n ∧ (∀ i : Nat, i < n → e < s + i * st) ∧ s + n * st ≤ e ∧
      (n : Int) ≤ s - e := by
  obtain ⟨n, hn, hpos, hlt, hge, hb⟩ := count_steps (s - 1 - e) (-st) (by omega) (by omega)
  rw [Int.mul_neg] at hge
  refine ⟨n, ?_, hpos, fun i hi => by have := hlt i hi; rw [Int.mul_neg] at this; omega, by omega, by omega⟩
  have hn' : ¬ (0 < st ∧ s < e) := by omega
  simp only [rangeLen, hn', h, hse, and_self, if_true, if_false, ← hn, Int.toNat_natCast]

theorem toLen_eq_fin {o : Option Nat} {n : Nat} : toLen o = .fin n ↔ o = some n := by
  cases o <;> simp [toLen]

theorem toLen_eq_inf {o : Option Nat} : toLen o = .inf ↔ o = none := by
  cases o <;> simp [toLen]

theorem lenOpt_toLen (o : Option Nat) : lenOpt (toLen o) = o := by cases o <;> rfl

theorem minLen_toLen (ls : List (Option Nat)) : minLen (ls.map toLen) = toLen (minOpt ls) := by
  induction ls with
  | nil => rfl
  | cons a ls ih =>
    cases a with
    | none => simpa [minLen, minOpt, toLen] using ih
    | some n =>
      simp only [List.map, toLen, minLen, minOpt, ih]
      cases minOpt ls <;> rfl

theorem lastLen_cons (r : Rep) {rs : List Rep} (h : rs ≠ []) : lastLen (r :: rs) = lastLen rs := by
  cases rs with
  | nil => exact absurd rfl h
  | cons a as => simp only [lastLen]

theorem append_len_some {a b : Sem} {n : Nat} (h : a.len = some n) :
    (a.append b).len = b.len.map (n + ·) := by simp [Sem.append, h]
theorem append_len_none {a b : Sem} (h : a.len = none) : (a.append b).len = none := by
  simp [Sem.append, h]
theorem append_el_none {a b : Sem} (h : a.len = none) (i : Nat) : (a.append b).el i = a.el i := by
  simp [Sem.append, h]
theorem append_el_lt {a b : Sem} {n : Nat} (h : a.len = some n) (i : Nat) (hi : i < n) :
    (a.append b).el i = a.el i := by simp [Sem.append, h, hi]
theorem append_el_ge {a b : Sem} {n : Nat} (h : a.len = some n) (i : Nat) (hi : n ≤ i) :
    (a.append b).el i = b.el (i - n) := by
  simp [Sem.append, h, Nat.not_lt.2 hi]

/-- `chainOk parts mids acc` as an inductive family, indexed in addition by the position `e` at which the chain
ends (`none`: the last part is infinite).  `chainOk` itself is a recursive function, so that `Rep.wf` can recurse
through it structurally; the proofs go by induction on this view of it (`of_chainOk`, `ok`) -/
inductive Chain : List Rep → List Nat → Nat → Option Nat → Prop
  | fin {r : Rep} {n acc t : Nat} : r.len = .fin n → 0 < n → t = acc + n → t < USIZE → Chain [r] [] acc (some t)
  | inf {r : Rep} {acc : Nat} : r.len = .inf → acc < USIZE → Chain [r] [] acc none
  | cons {r : Rep} {rs : List Rep} {n acc m : Nat} {ms : List Nat} {e : Option Nat} :
      r.len = .fin n → 0 < n → m = acc + n → Chain rs ms m e → Chain (r :: rs) (m :: ms) acc e

namespace Chain

theorem of_chainOk : ∀ (parts : List Rep) (mids : List Nat) (acc : Nat),
    chainOk parts mids acc → ∃ e, Chain parts mids acc e
  | [r], [], acc, h => by
      simp only [chainOk] at h
      cases hr : r.len with
      | fin n => rw [hr] at h; exact ⟨_, .fin hr h.2 rfl h.1⟩
      | inf => rw [hr] at h; exact ⟨_, .inf hr h⟩
      | panic _ => rw [hr] at h; exact h.elim
  | r :: r2 :: rs, m :: ms, acc, h => by
      simp only [chainOk] at h
      obtain ⟨⟨n, hn, hpos, hm⟩, hrest⟩ := h
      obtain ⟨e, he⟩ := of_chainOk _ _ _ hrest
      exact ⟨e, .cons hn hpos hm he⟩
  | [], _, _, h | [_], _ :: _, _, h | _ :: _ :: _, [], _, h => by simp [chainOk] at h

variable {parts : List Rep} {mids : List Nat} {acc : Nat} {e : Option Nat}

theorem ne_nil (h : Chain parts mids acc e) : parts ≠ [] := by
  cases h <;> exact List.cons_ne_nil _ _

theorem ok (h : Chain parts mids acc e) : chainOk parts mids acc := by
  induction h with
  | fin hr hpos ht hlt => simp only [chainOk, hr]; omega
  | inf hr hlt => simp only [chainOk, hr]; exact hlt
  | cons hn hpos hm _ ih => simp only [chainOk]; exact ⟨⟨_, hn, hpos, hm⟩, ih⟩

theorem last (h : Chain parts mids acc e) :
    match (generalizing := false) e with
    | some t => ∃ l, lastLen parts = .fin l ∧ t = l + mids.getLast?.getD acc ∧ t < USIZE
    | none => lastLen parts = .inf := by
  induction h with
  | fin hr _ ht hlt => exact ⟨_, hr, by simp only [List.getLast?_nil, Option.getD_none]; omega, hlt⟩
  | inf hr _ => exact hr
  | cons _ _ _ h ih => rwa [lastLen_cons _ h.ne_nil, List.getLast?_cons, Option.getD_some]

theorem len (h : Chain parts mids acc e) (h2 : 2 ≤ parts.length) : (Rep.chain parts mids).len = toLen e := by
  have hl := h.last
  cases h with
  | fin _ _ _ _ | inf _ _ => simp at h2
  | cons _ _ _ _ =>
    rw [List.getLast?_cons, Option.getD_some] at hl
    simp only [Rep.len, List.getLast?_cons]
    cases e with
    | none => rw [hl]; rfl
    | some t => obtain ⟨l, h1, rfl, _⟩ := hl; rw [h1]; rfl

theorem end_eq (h : Chain parts mids acc e) (hl : lens parts = (denList parts).map (fun s => toLen s.len)) :
    e = (Sem.concat (denList parts)).len.map (acc + ·) := by
  induction h with
  | fin hr _ ht _ =>
    simp only [lens, denList, List.map, List.cons.injEq, and_true, hr] at hl
    simp [denList, Sem.concat, append_len_some (toLen_eq_fin.1 hl.symm), Sem.nil, ht]
  | inf hr _ =>
    simp only [lens, denList, List.map, List.cons.injEq, and_true, hr] at hl
    simp [denList, Sem.concat, append_len_none (toLen_eq_inf.1 hl.symm)]
  | cons hn _ hm _ ih =>
    simp only [lens, denList, List.map, List.cons.injEq, hn] at hl
    rw [ih hl.2]
    simp only [denList, Sem.concat, append_len_some (toLen_eq_fin.1 hl.1.symm), Option.map_map, hm]
    congr 1; funext s; simp only [Function.comp]; omega

theorem fit (h : Chain parts mids acc e) : acc < USIZE ∧ ∀ m ∈ mids, acc < m ∧ m < USIZE := by
  induction h with
  | fin _ _ _ _ => exact ⟨by omega, by simp⟩
  | inf _ hlt => exact ⟨hlt, by simp⟩
  | cons _ _ _ _ ih =>
    refine ⟨by omega, fun x hx => ?_⟩
    rcases List.mem_cons.1 hx with rfl | hx
    · omega
    · have := ih.2 x hx; omega

theorem append {T : Nat} {e0 : Option Nat} {parts1 : List Rep} {mids1 : List Nat}
    (h0 : Chain parts mids acc e0) (he : e0 = some T) (h1 : Chain parts1 mids1 T e) :
    Chain (parts ++ parts1) (mids ++ [T] ++ mids1) acc e := by
  induction h0 with
  | fin hr hpos ht _ => cases he; exact .cons hr hpos ht h1
  | inf _ _ => cases he
  | cons hn hpos hm _ ih => exact .cons hn hpos hm (ih he)

theorem shift (T : Nat) (h : Chain parts mids acc e) (hfit : e.getD (mids.getLast?.getD acc) + T < USIZE) :
    Chain parts (mids.map (· + T)) (acc + T) (e.map (· + T)) := by
  induction h with
  | fin hr hpos ht _ => exact .fin hr hpos (by dsimp only; omega) hfit
  | inf hr _ => exact .inf hr hfit
  | cons hn hpos hm _ ih =>
    rw [List.getLast?_cons, Option.getD_some] at hfit
    exact .cons hn hpos (by dsimp only; omega) (ih hfit)

end Chain

theorem append_valid_ge {x y : Sem} {n i : Nat} (hx : x.len = some n) (hv : (x.append y).valid i) (hi : n ≤ i) :
    y.valid (i - n) := by
  cases hy : y.len with
  | none => exact Sem.valid_none hy _
  | some m =>
    rw [Sem.valid_some (show _ = some (n + m) by simp [append_len_some hx, hy])] at hv
    rw [Sem.valid_some hy]; omega

theorem append_empty_el {x y : Sem} (hy : y.len = some 0) {k : Nat} (hv : (x.append y).valid k) :
    x.valid k ∧ (x.append y).el k = x.el k := by
  cases hx : x.len with
  | none => exact ⟨Sem.valid_none hx k, append_el_none hx k⟩
  | some n =>
    have hl : (x.append y).len = some n := by simp [append_len_some hx, hy]
    have hk : k < n := (Sem.valid_some hl).1 hv
    exact ⟨(Sem.valid_some hx).2 hk, append_el_lt hx k hk⟩

theorem chain_len_aux : ∀ (parts : List Rep) (mids : List Nat) (acc : Nat),
    chainOk parts mids acc →
    lens parts = (denList parts).map (fun s => toLen s.len) →
    (match lastLen parts with
     | .fin l => ∃ t, (Sem.concat (denList parts)).len = some t ∧ acc + t = l + mids.getLast?.getD acc ∧ acc + t < USIZE
     | .inf => (Sem.concat (denList parts)).len = none
     | .panic _ => False) := by
  intro parts mids acc h hl
  obtain ⟨e, hc⟩ := Chain.of_chainOk _ _ _ h
  have h2 := hc.last
  have h3 := hc.end_eq hl
  cases hL : (Sem.concat (denList parts)).len with
  | none => subst h3; rw [hL] at h2; rw [h2]
  | some s =>
    subst h3; rw [hL] at h2
    obtain ⟨l, h1, h4, h5⟩ := h2
    rw [h1]; exact ⟨s, rfl, h4, h5⟩

theorem chain_get_aux : ∀ (parts : List Rep) (mids : List Nat) (acc i : Nat),
    chainOk parts mids acc →
    lens parts = (denList parts).map (fun s => toLen s.len) →
    (∀ r ∈ parts, ∀ j, (den r).valid j → r.get j = (den r).el j) →
    acc ≤ i → (Sem.concat (denList parts)).valid (i - acc) →
    (if partitionPoint mids i = 0 then acc else mids.getD (partitionPoint mids i - 1) 0) ≤ i ∧
    getPart parts (partitionPoint mids i)
        (i - (if partitionPoint mids i = 0 then acc else mids.getD (partitionPoint mids i - 1) 0)) =
      (Sem.concat (denList parts)).el (i - acc) := by
  intro parts mids acc i h hl hg hacc hv
  obtain ⟨e, hc⟩ := Chain.of_chainOk _ _ _ h
  clear h
  induction hc with
  | fin _ _ _ _ | inf _ _ =>
    obtain ⟨hv', he⟩ := append_empty_el (y := .nil) rfl hv
    exact ⟨hacc, (hg _ (List.mem_singleton_self _) _ hv').trans he.symm⟩
  | @cons r rs n acc m ms e hn _ hm _ ih =>
    simp only [lens, denList, List.map, List.cons.injEq, hn] at hl
    have hd : (den r).len = some n := toLen_eq_fin.1 hl.1.symm
    have hr := hg r (List.mem_cons_self ..)
    simp only [denList, Sem.concat] at hv ⊢
    by_cases hmi : m ≤ i
    · have hsub : i - acc - n = i - m := by omega
      have ih := ih hl.2 (fun x hx => hg x (List.mem_cons_of_mem _ hx)) hmi
        (hsub ▸ append_valid_ge hd hv (by omega))
      have hpp : partitionPoint (m :: ms) i = partitionPoint ms i + 1 := by
        simp only [partitionPoint, hmi, if_true, Nat.add_comm]
      rw [append_el_ge hd _ (by omega), hsub, hpp]
      generalize partitionPoint ms i = p at ih ⊢
      cases p <;> simpa [getPart] using ih
    · have hlt : i - acc < n := by omega
      simp only [partitionPoint, hmi, if_false, if_true, getPart]
      exact ⟨hacc, (hr _ ((Sem.valid_some hd).2 hlt)).trans (append_el_lt hd _ hlt).symm⟩

theorem valueToIdx_nonneg {n : Nat} {i : Int} (hn : n < USIZE) (h0 : 0 ≤ i) (h1 : i < n) :
    valueToIdx (.fin n) i = .ok i.toNat := by
  have e1 : ¬ i < 0 := by omega
  have e2 : i.toNat < USIZE := by omega
  have e3 : ¬ i.toNat ≥ n := by omega
  simp only [valueToIdx, e1, e2, e3, if_true, if_false]

theorem valueToIdx_neg {n : Nat} {i : Int} (hn : n < USIZE) (h0 : -(n : Int) ≤ i) (h1 : i < 0) :
    valueToIdx (.fin n) i = .ok (i + n).toNat := by
  have e1 : ¬ i + n < 0 := by omega
  have e2 : (i + n).toNat < USIZE := by omega
  have e3 : ¬ (i + n).toNat ≥ n := by omega
  simp only [valueToIdx, h1, e1, e2, e3, if_true, if_false]

theorem valueToIdx_low {n : Nat} {i : Int} (h : i < -(n : Int)) : valueToIdx (.fin n) i = .err "index too low" := by
  have e0 : i < 0 := by omega
  have e1 : i + n < 0 := by omega
  simp only [valueToIdx, e0, e1, if_true]

/-- at or beyond the length: out of bounds whether or not the index fits `usize` -/
theorem valueToIdx_high {n : Nat} {i : Int} (h : (n : Int) ≤ i) :
    valueToIdx (.fin n) i = .err "index out of bounds" := by
  have e0 : ¬ i < 0 := by omega
  have e3 : i.toNat ≥ n := by omega
  simp only [valueToIdx, e0, e3, if_true, if_false, ite_self]

theorem valueToIdx_valid (o : Option Nat) (j : Int) (k : Nat) (h : valueToIdx (toLen o) j = .ok k) :
    optValid o k := by
  cases o with
  | none => trivial
  | some n =>
    simp only [toLen, valueToIdx] at h
    generalize (if j < 0 then j + (n : Int) else j) = j' at h
    split at h
    · cases h
    · split at h
      · split at h
        · cases h
        · injection h with h; simp only [optValid]; omega
      · cases h

theorem minOpt_valid : ∀ (ls : List (Option Nat)) (i : Nat),
    optValid (minOpt ls) i → ∀ o ∈ ls, optValid o i
  | [], _, _ => nofun
  | none :: ls, i, h => List.forall_mem_cons.2 ⟨trivial, minOpt_valid ls i h⟩
  | some n :: ls, i, h => by
      have ih := minOpt_valid ls i
      simp only [minOpt] at h
      refine List.forall_mem_cons.2 ?_
      cases hm : minOpt ls with
      | none => rw [hm] at h; exact ⟨h, ih (by rw [hm]; trivial)⟩
      | some m =>
        rw [hm] at h ih; simp only [optValid] at h ih ⊢
        exact ⟨by omega, ih (by omega)⟩

theorem tupAll_cons (x : Res Val) (es : List (Res Val)) :
    tupAll (x :: es) = match x with
      | .ok v => (match tupAll es with
          | .ok vs => .ok (v :: vs)
          | .err m => .err m
          | .panic m => .panic m)
      | .err m => .err m
      | .panic m => .panic m := by
  cases x <;> rfl

/-- `r` represents the list `d`: its two observers `len` and `get` agree with it.  Everything a builtin does with
a sequence goes through these two, so the lemmas about the builtins assume no more than this of `r` -/
structure Refines (r : Rep) (d : Sem) : Prop where
  len : r.len = toLen d.len
  get : ∀ i, d.valid i → r.get i = d.el i

namespace Refines
variable {r : Rep} {d : Sem} (hr : Refines r d)
include hr

theorem len_fin {n : Nat} (hn : d.len = some n) : r.len = .fin n := by rw [hr.len, hn]; rfl

theorem len_inf (hn : d.len = none) : r.len = .inf := by rw [hr.len, hn]; rfl

/-- `base[j]` as the closure of a `Map` evaluates it: index normalisation against `base.len`, then `base.get` -/
theorem index (j : Int) :
    (match valueToIdx r.len j with
      | .ok k => r.get k
      | .err m => .err m
      | .panic m => .panic m) = d.index j := by
  rw [hr.len, Sem.index]
  cases hk : valueToIdx (toLen d.len) j with
  | ok k => exact hr.get k (valueToIdx_valid _ _ _ hk)
  | err m => rfl
  | panic m => rfl

end Refines

theorem len_cases {r : Rep} {o : Option Nat} (h : r.len = toLen o) :
    (∃ n, r.len = .fin n ∧ o = some n) ∨ (r.len = .inf ∧ o = none) := by
  cases o with
  | none => exact .inr ⟨h, rfl⟩
  | some n => exact .inl ⟨n, h, rfl⟩

theorem lens_eq : ∀ {rs : List Rep}, (∀ r ∈ rs, Refines r (den r)) →
    lens rs = (denList rs).map (fun s => toLen s.len)
  | [], _ => rfl
  | r :: rs, h => by
      simp only [lens, denList, List.map]
      rw [(h r (List.mem_cons_self ..)).len, lens_eq fun x hx => h x (List.mem_cons_of_mem _ hx)]

theorem getAll_eq : ∀ {rs : List Rep}, (∀ r ∈ rs, Refines r (den r)) → ∀ i, (∀ s ∈ denList rs, s.valid i) →
    getAll rs i = tupAll ((denList rs).map (·.el i))
  | [], _, _, _ => rfl
  | r :: rs, h, i, hv => by
      have h1 := (h r (List.mem_cons_self ..)).get i (hv _ (List.mem_cons_self ..))
      have h2 := getAll_eq (fun x hx => h x (List.mem_cons_of_mem _ hx)) i
        (fun s hs => hv s (List.mem_cons_of_mem _ hs))
      simp only [getAll, denList, List.map, h1, h2]
      exact (tupAll_cons _ _).symm

theorem slice_valid {r : Rep} {a : Nat} {b : Option Nat} (hl : r.len = toLen (den r).len)
    (h : (Rep.slice r a b).wf) (i : Nat) (hv : (den (.slice r a b)).valid i) : (den r).valid (i + a) := by
  simp only [Rep.wf] at h
  rcases len_cases hl with ⟨n, h1, h2⟩ | ⟨_, h2⟩
  · rw [h1] at h
    cases b with
    | none => cases h.2.2
    | some e =>
      have := (Sem.valid_some (show (den (.slice r a (some e))).len = some (e - a) from rfl)).1 hv
      rw [Sem.valid_some h2]; have := h.2.2.2; omega
  · exact Sem.valid_none h2 _

mutual
theorem refines_den : (r : Rep) → r.wf → Refines r (den r)
  | .empty, _ => ⟨rfl, fun i hv => by simp [den, Sem.valid, optValid, Sem.nil] at hv⟩
  | .array _, _ => ⟨rfl, fun _ _ => rfl⟩
  | .count, _ => ⟨rfl, fun _ _ => rfl⟩
  | .range s e st, h => by
      refine ⟨?_, fun _ _ => rfl⟩
      simp only [Rep.wf] at h
      obtain ⟨n, hn⟩ : ∃ n, rangeLen s e st = .fin n := by
        rcases h.2.2.2 with ⟨h1, h2⟩ | ⟨h1, h2⟩
        · exact (rangeLen_pos s e st h1 h2).imp fun _ h => h.1
        · exact (rangeLen_neg s e st h1 h2).imp fun _ h => h.1
      simp only [Rep.len, den, hn]; rfl
  | .map r f, h => by
      have hr := refines_den r h
      refine ⟨hr.len, fun i hv => ?_⟩
      simp only [Rep.get, den, hr.get i hv]
      cases (den r).el i <;> rfl
  | .mapGet r base g, h => by
      have hr := refines_den r h.1
      refine ⟨hr.len, fun i hv => ?_⟩
      simp only [Rep.get, den, hr.get i hv]
      cases (den r).el i with
      | ok v =>
        cases v with
        | int x =>
          simp only [elemGet]
          cases g.app x with
          | ok j => exact (refines_den base h.2).index j
          | err m => rfl
          | panic m => rfl
        | tup vs => rfl
      | err m => rfl
      | panic m => rfl
  | .zip rs, h => by
      have hrs := refinesAll rs h.1
      refine ⟨?_, fun i hv => ?_⟩
      · simp only [Rep.len, den, Sem.zip]
        rw [lens_eq hrs, ← minLen_toLen, List.map_map]; rfl
      · have hall : ∀ s ∈ denList rs, s.valid i := fun s hs =>
          minOpt_valid _ i hv s.len (List.mem_map_of_mem hs)
        simp only [Rep.get, den, Sem.zip, getAll_eq hrs i hall]
        cases tupAll (List.map (fun x => x.el i) (denList rs)) <;> rfl
  | .slice r a b, h => by
      have hr := refines_den r h.1
      refine ⟨?_, fun i hv => ?_⟩
      · cases b with
        | none => rfl
        | some e => simp only [Rep.len, if_neg (Nat.lt_asymm h.2.2.1)]; rfl
      · simp only [Rep.get, den, Sem.slice]
        split
        · exact hr.get _ (slice_valid hr.len h i hv)
        · rfl
  | .chain parts mids, h => by
      have hps := refinesAll parts h.1
      obtain ⟨e, hc⟩ := Chain.of_chainOk _ _ _ h.2.1
      refine ⟨?_, fun i hv => ?_⟩
      · rw [hc.len h.2.2, hc.end_eq (lens_eq hps)]
        simp only [den, Nat.zero_add, Option.map_id']
      · have key := chain_get_aux parts mids 0 i h.2.1 (lens_eq hps) (fun r hr => (hps r hr).get) (Nat.zero_le _) hv
        simp only [Rep.get, den, if_neg (Nat.not_lt.2 key.1)]
        exact key.2
theorem refinesAll : (rs : List Rep) → wfAll rs → ∀ r ∈ rs, Refines r (den r)
  | x :: _, h, _, .head _ => refines_den x h.1
  | _ :: xs, h, r, .tail _ hr => refinesAll xs h.2 r hr
end

theorem Rep.wf.refines {r : Rep} (h : r.wf) : Refines r (den r) := refines_den r h

theorem len_den : (r : Rep) → r.wf → r.len = toLen (den r).len := fun r h => (refines_den r h).len

theorem get_den : (r : Rep) → r.wf → ∀ i, (den r).valid i → r.get i = (den r).el i :=
  fun r h => (refines_den r h).get

theorem getAll_den : (rs : List Rep) → wfAll rs → ∀ i, (∀ s ∈ denList rs, s.valid i) →
    getAll rs i = tupAll ((denList rs).map (·.el i)) := fun rs h => getAll_eq (refinesAll rs h)

def SemEq (a b : Sem) : Prop := a.len = b.len ∧ ∀ i, i < USIZE → a.valid i → a.el i = b.el i

/-- `drop start`, then keep the elements before position `end` of the original list -/
def Sem.dropTake (d : Sem) (start : Nat) (end_ : Option Nat) : Sem :=
  ⟨match d.len, end_ with
    | some n, some e => some (min e n - start)
    | some n, none => some (n - start)
    | none, some e => some (e - start)
    | none, none => none,
   fun i => if i + start < USIZE then d.el (i + start) else oob⟩

theorem SemEq.refl (a : Sem) : SemEq a a := ⟨rfl, fun _ _ _ => rfl⟩

theorem SemEq.symm {a b : Sem} (h : SemEq a b) : SemEq b a :=
  ⟨h.1.symm, fun i hi hv => (h.2 i hi (by unfold Sem.valid at hv ⊢; rwa [h.1])).symm⟩

theorem SemEq.trans {a b c : Sem} (h1 : SemEq a b) (h2 : SemEq b c) : SemEq a c :=
  ⟨h1.1.trans h2.1, fun i hi hv => (h1.2 i hi hv).trans (h2.2 i hi (by unfold Sem.valid at hv ⊢; rwa [← h1.1]))⟩

theorem slice_eq_dropTake (r : Rep) (a : Nat) (b : Option Nat) (h : (Rep.slice r a b).wf) :
    den (.slice r a b) = (den r).dropTake a b := by
  simp only [Rep.wf] at h
  simp only [den, Sem.slice, Sem.dropTake]
  congr 1
  rcases len_cases (len_den r h.1) with ⟨n, h1, h2⟩ | ⟨_, h2⟩ <;> rw [h2]
  · rw [h1] at h
    cases b with
    | none => cases h.2.2
    | some e => simp only [Option.map, Nat.min_eq_left h.2.2.2]
  · cases b <;> rfl

/-- the last `match` of `XSequence::slice`: flattened or not, the result denotes the slice -/
theorem sliceOf_den (r : Rep) (start : Nat) (end2 : Option Nat) :
    den (r.sliceOf start end2) = den (.slice r start end2) := by
  cases r with
  | slice origin os oe =>
    simp only [Rep.sliceOf]
    generalize (decide (os + start < USIZE) && _) = c
    cases c
    · rfl
    · -- the flattening arm: a slice of `Slice(origin, os, oe)` addresses `origin` directly
      simp only [if_true, den, Sem.slice, Option.map_map]
      congr 1
      · cases end2 with
        | none => rfl
        | some e => simp only [Option.map, Function.comp]; congr 1; omega
      · funext i
        rw [show i + (os + start) = i + start + os by omega]
        by_cases h1 : i + start + os < USIZE
        · simp only [h1, if_true, if_pos (show i + start < USIZE by omega)]
        · simp only [h1, if_false, ite_self]
  | _ => rfl

/-- when the shifted bounds fit `usize`, `sliceOf` of a slice is the flattened slice -/
theorem sliceOf_slice (origin : Rep) (os : Nat) (oe : Option Nat) (start : Nat) (end2 : Option Nat)
    (hfit1 : os + start < USIZE) (hfit2 : ∀ e, end2 = some e → os + e < USIZE) :
    (Rep.slice origin os oe).sliceOf start end2 = .slice origin (os + start) (end2.map (os + ·)) := by
  refine if_pos ?_
  cases end2 with
  | none => simp only [hfit1, decide_true, Bool.and_self]
  | some e => simp only [hfit1, hfit2 e rfl, decide_true, Bool.and_self]

theorem sliceOf_wf (r : Rep) (start : Nat) (end2 : Option Nat) (h : (Rep.slice r start end2).wf) :
    (r.sliceOf start end2).wf := by
  cases r with
  | slice origin os oe =>
    simp only [Rep.sliceOf]
    generalize hc : (decide (os + start < USIZE) && _) = c
    cases c
    · exact h
    · simp only [Bool.and_eq_true, decide_eq_true_eq] at hc
      simp only [if_true, Rep.wf, Rep.len] at h ⊢
      obtain ⟨⟨hw, -, hoe⟩, -, hb⟩ := h
      refine ⟨hw, hc.1, ?_⟩
      cases end2 with
      | none =>
        cases oe with
        | none => exact hoe
        | some e' => simp only [] at hb; split at hb <;> cases hb
      | some e =>
        have hf : os + e < USIZE := by simpa using hc.2
        cases oe with
        | none => simp only [Option.map, hoe] at hb ⊢; omega
        | some e' =>
          simp only [Option.map, if_neg (Nat.lt_asymm hoe.1)] at hb ⊢
          refine ⟨by omega, ?_⟩
          rcases len_cases (len_den origin hw) with ⟨n, h1, _⟩ | ⟨h1, _⟩ <;> rw [h1] at hoe ⊢ <;>
            dsimp only at hoe ⊢ <;> omega
  | _ => exact h

theorem SemEq.nil_of_len_zero {d : Sem} (h : d.len = some 0) : SemEq .nil d :=
  ⟨h.symm, fun i _ hv => absurd ((Sem.valid_some (d := .nil) rfl).1 hv) (Nat.not_lt_zero i)⟩

/-- where a cut at `end_` of a list of length `o` ends: at the smaller of the two -/
def cutAt : Option Nat → Option Nat → Option Nat
  | some n, some e => some (min e n)
  | o, none => o
  | none, e => e

theorem dropTake_eq_slice (d : Sem) (start : Nat) (end_ : Option Nat) :
    d.dropTake start end_ = d.slice start (cutAt d.len end_) := by
  unfold Sem.dropTake Sem.slice cutAt
  cases d.len <;> cases end_ <;> rfl

/-- `XSequence::slice` in terms of the effective end `cutAt o end_`, which is what its `end2` computes: the
whole-sequence test says that the cut is at the length, and of the two emptiness tests (`start ≥ end2`,
`start ≥ len`) the second implies the first -/
theorem mkSlice_eq (r : Rep) (o : Option Nat) (hl : r.len = toLen o) (start : Nat) (end_ : Option Nat) :
    r.mkSlice start end_ =
      if cutAt o end_ = o ∧ start = 0 then .ok none
      else if (cutAt o end_).any (· ≤ start) then .ok (some .empty)
      else .ok (some (r.sliceOf start (cutAt o end_))) := by
  unfold Rep.mkSlice
  rw [hl]
  rcases o with _ | n <;> rcases end_ with _ | e <;> simp [toLen, cutAt]
  by_cases hen : n ≤ e
  · simp [hen, Nat.min_eq_right hen]
  · have hlt : e < n := by omega
    have : (e ≤ start ∨ n ≤ start) ↔ e ≤ start := by omega
    simp [hen, Nat.min_eq_left (Nat.le_of_lt hlt), Nat.ne_of_lt hlt, this]

theorem append_assoc (x y z : Sem) : (x.append y).append z = x.append (y.append z) := by
  cases hx : x.len with
  | none => simp only [Sem.append, hx]
  | some n =>
    cases hy : y.len with
    | none => simp [Sem.append, hx, hy]
    | some m =>
      simp only [Sem.append, hx, hy, Option.map_some, Option.map_map]
      congr 1
      · congr 1; funext k; simp only [Function.comp]; omega
      funext i
      · by_cases h1 : i < n
        · simp only [h1, if_true, if_pos (show i < n + m by omega)]
        · by_cases h2 : i < n + m
          · simp only [h1, h2, if_true, if_false, if_pos (show i - n < m by omega)]
          · simp only [h1, h2, if_false, if_neg (show ¬ i - n < m by omega), Nat.sub_sub]

theorem nil_append (y : Sem) : Sem.nil.append y = y := by
  cases y with
  | mk l e => cases l <;> simp [Sem.append, Sem.nil]

theorem denList_append : ∀ (l1 l2 : List Rep), denList (l1 ++ l2) = denList l1 ++ denList l2
  | [], _ => rfl
  | r :: rs, l2 => by simp only [List.cons_append, denList, denList_append rs l2]

theorem concat_append : ∀ (l1 l2 : List Sem), Sem.concat (l1 ++ l2) = (Sem.concat l1).append (Sem.concat l2)
  | [], l2 => (nil_append _).symm
  | s :: ss, l2 => by simp only [List.cons_append, Sem.concat, concat_append ss l2, append_assoc]

theorem append_congr_right (x : Sem) {y y' : Sem} (h : SemEq y y') : SemEq (x.append y) (x.append y') := by
  cases hx : x.len with
  | none =>
    exact ⟨by rw [append_len_none hx, append_len_none hx],
      fun i _ _ => by rw [append_el_none hx, append_el_none hx]⟩
  | some n =>
    refine ⟨by rw [append_len_some hx, append_len_some hx, h.1], fun i hi hv => ?_⟩
    by_cases hlt : i < n
    · rw [append_el_lt hx i hlt, append_el_lt hx i hlt]
    · rw [append_el_ge hx i (by omega), append_el_ge hx i (by omega)]
      exact h.2 _ (by omega) (append_valid_ge hx hv (by omega))

theorem append_congr_left {x x' : Sem} (y : Sem) (h : SemEq x x') : SemEq (x.append y) (x'.append y) := by
  cases hx : x.len with
  | none =>
    have hx' : x'.len = none := by rw [← h.1, hx]
    refine ⟨by rw [append_len_none hx, append_len_none hx'], fun i hi _ => ?_⟩
    rw [append_el_none hx, append_el_none hx']
    exact h.2 i hi (Sem.valid_none hx i)
  | some n =>
    have hx' : x'.len = some n := by rw [← h.1, hx]
    refine ⟨by rw [append_len_some hx, append_len_some hx'], fun i hi _ => ?_⟩
    by_cases hlt : i < n
    · rw [append_el_lt hx i hlt, append_el_lt hx' i hlt]
      exact h.2 i hi ((Sem.valid_some hx).2 hlt)
    · rw [append_el_ge hx i (by omega), append_el_ge hx' i (by omega)]

theorem append_empty_right (x y : Sem) (hy : y.len = some 0) : SemEq (x.append y) x := by
  refine ⟨?_, fun i _ hv => (append_empty_el hy hv).2⟩
  cases hx : x.len with
  | none => exact append_len_none hx
  | some n => rw [append_len_some hx, hy]; rfl

theorem append_empty_left (x y : Sem) (hx : x.len = some 0) : SemEq (x.append y) y := by
  refine ⟨by rw [append_len_some hx]; cases y.len <;> simp [Option.map], fun i _ _ => ?_⟩
  rw [append_el_ge hx i (by omega)]; rfl

def Rep.parts : Rep → List Rep
  | .chain parts _ => parts
  | r => [r]

def Rep.mids : Rep → List Nat
  | .chain _ mids => mids
  | _ => []

theorem Rep.parts_of_not_chain {r : Rep} (h : ∀ p m, r = .chain p m → False) : r.parts = [r] ∧ r.mids = [] := by
  cases r <;> first | exact ⟨rfl, rfl⟩ | exact (h _ _ rfl).elim

/-- the four arms of `Rep.chainOf` at once -/
theorem chainOf_eq (a b : Rep) (n : Nat) :
    a.chainOf b n = .chain (a.parts ++ b.parts) (a.mids ++ [n] ++ b.mids.map (· + n)) := by
  unfold Rep.chainOf
  split
  · rfl
  next hb =>
    obtain ⟨h1, h2⟩ := Rep.parts_of_not_chain hb
    rw [h1, h2]; exact congrArg (Rep.chain _) (List.append_nil _).symm
  next ha =>
    obtain ⟨h1, h2⟩ := Rep.parts_of_not_chain ha
    rw [h1, h2]; rfl
  next ha hb _ =>
    obtain ⟨h1, h2⟩ := Rep.parts_of_not_chain ha
    obtain ⟨h3, h4⟩ := Rep.parts_of_not_chain hb
    rw [h1, h2, h3, h4]; rfl

theorem wfAll_append : ∀ (l1 l2 : List Rep), wfAll l1 → wfAll l2 → wfAll (l1 ++ l2)
  | [], _, _, h2 => h2
  | _ :: rs, l2, h1, h2 => ⟨h1.1, wfAll_append rs l2 h1.2 h2⟩

theorem wfAll_parts (r : Rep) (h : r.wf) : wfAll r.parts := by
  cases r with
  | chain parts mids => simp only [Rep.wf] at h; exact h.1
  | _ => exact ⟨h, trivial⟩

theorem den_parts (r : Rep) : SemEq (Sem.concat (denList r.parts)) (den r) := by
  cases r with
  | chain parts mids => simp only [Rep.parts, den]; exact .refl _
  | _ => exact append_empty_right _ _ rfl

namespace Chain

theorem single {r : Rep} {o : Option Nat} (hl : r.len = toLen o) (hne : o ≠ some 0) {T : Nat}
    (hfit : o.getD 0 + T < USIZE) : Chain [r] [] T (o.map (· + T)) := by
  cases o with
  | none => exact .inf hl (by simpa using hfit)
  | some n =>
    exact .fin hl (Nat.pos_of_ne_zero fun h0 => hne (h0 ▸ rfl)) (Nat.add_comm n T)
      (by simpa [Nat.add_comm] using hfit)

/-- `hfit`: the end of the operand (if it is infinite: of the finite parts in front of its infinite tail) stays below 2^64 -/
theorem of_wf (r : Rep) (h : r.wf) (o : Option Nat) (hl : r.len = toLen o) (hne : o ≠ some 0) (T : Nat)
    (hfit : o.getD r.finPrefix + T < USIZE) : Chain r.parts (r.mids.map (· + T)) T (o.map (· + T)) := by
  cases r with
  | chain parts mids =>
    simp only [Rep.wf] at h
    obtain ⟨e, hc⟩ := of_chainOk _ _ _ h.2.1
    obtain rfl : o = e := by
      have := congrArg lenOpt (hl.symm.trans (hc.len h.2.2)); rwa [lenOpt_toLen, lenOpt_toLen] at this
    have := hc.shift T hfit
    rwa [Nat.zero_add] at this
  | _ => exact .single hl hne hfit

end Chain

theorem mkChain_eq (a b : Rep) (oa ob : Option Nat) (ha : a.len = toLen oa) (hb : b.len = toLen ob) :
    a.mkChain b =
      if oa = some 0 then (if ob = some 0 then .new .empty else .right)
      else if ob = some 0 then .left
      else match (generalizing := false) oa with
        | none => .err "first sequence is infinite"
        | some n =>
          if USIZE ≤ n + ob.getD b.finPrefix then .err "sequence is too long" else .new (a.chainOf b n) := by
  unfold Rep.mkChain Rep.isEmpty
  rw [ha, hb]
  -- `isEmpty` is `len = fin 0`, i.e. `o = some 0`: infinite / empty / non-empty on either side decide every test
  rcases oa with _ | _ | n <;> rcases ob with _ | _ | m <;> simp [toLen]

theorem chainOf_wf (a b : Rep) (ha : a.wf) (hb : b.wf) (n : Nat) (la : a.len = .fin n) (hn : n ≠ 0)
    (ob : Option Nat) (lb : b.len = toLen ob) (hob : ob ≠ some 0) (hfit : n + ob.getD b.finPrefix < USIZE) :
    (a.chainOf b n).wf := by
  have ca := Chain.of_wf a ha (some n) la (by simpa using hn) 0 (by simp only [Option.getD_some]; omega)
  have cb := Chain.of_wf b hb ob lb hob n (by omega)
  simp only [Nat.add_zero, List.map_id', Option.map_some] at ca
  have := List.length_pos_iff.2 ca.ne_nil
  have := List.length_pos_iff.2 cb.ne_nil
  rw [chainOf_eq]
  simp only [Rep.wf]
  exact ⟨wfAll_append _ _ (wfAll_parts a ha) (wfAll_parts b hb), (ca.append rfl cb).ok,
    by rw [List.length_append]; omega⟩

theorem chainOf_den (a b : Rep) (n : Nat) : SemEq (den (a.chainOf b n)) ((den a).append (den b)) := by
  rw [chainOf_eq]
  simp only [den, denList_append, concat_append]
  exact (append_congr_left _ (den_parts a)).trans (append_congr_right _ (den_parts b))

/-- `XSequence::chain` on well-formed operands: never a panic; an empty operand yields the other one; an error
value exactly when the left operand is infinite or the total length does not fit `usize`; otherwise a
well-formed chain that denotes the concatenation of the two lists -/
theorem mkChain_spec (a b : Rep) (ha : a.wf) (hb : b.wf) :
    match a.mkChain b with
    | .new r => r.wf ∧ SemEq (den r) ((den a).append (den b))
    | .left => (den b).len = some 0
    | .right => (den a).len = some 0
    | .err _ => ((den a).len = none ∧ (den b).len ≠ some 0) ∨
        (∃ n m, (den a).len = some n ∧ (den b).len = some m ∧ USIZE ≤ n + m) ∨
        (∃ n, (den a).len = some n ∧ (den b).len = none ∧ USIZE ≤ n + b.finPrefix)
    | .panic _ => False := by
  have la := len_den a ha
  have lb := len_den b hb
  rw [mkChain_eq a b _ _ la lb]
  by_cases ea : (den a).len = some 0 <;> by_cases eb : (den b).len = some 0
  · rw [if_pos ea, if_pos eb]
    exact ⟨trivial, .nil_of_len_zero (by rw [append_len_some ea, eb]; rfl)⟩
  · rw [if_pos ea, if_neg eb]; exact ea
  · rw [if_neg ea, if_pos eb]; exact eb
  · rw [if_neg ea, if_neg eb]
    cases hoa : (den a).len with
    | none => exact .inl ⟨rfl, eb⟩
    | some n =>
      rw [hoa] at la
      dsimp only
      by_cases hfit : USIZE ≤ n + (den b).len.getD b.finPrefix
      · rw [if_pos hfit]
        cases hob : (den b).len with
        | none => rw [hob] at hfit; exact .inr (.inr ⟨n, rfl, rfl, hfit⟩)
        | some m => rw [hob] at hfit; exact .inr (.inl ⟨n, m, rfl, rfl, hfit⟩)
      · rw [if_neg hfit]
        exact ⟨chainOf_wf a b ha hb n la (fun h0 => ea (h0 ▸ hoa)) _ lb eb (by omega), chainOf_den a b n⟩

def elemsFrom (d : Sem) : Nat → Nat → List (Res Val)
  | _, 0 => []
  | i, n + 1 => d.el i :: elemsFrom d (i + 1) n

/-- the direct iteration over an array (`diter`) yields what the iteration through `get` yields -/
theorem collectFrom_array : ∀ (xs pre : List Val),
    collectFrom (.array (pre ++ xs)) pre.length xs.length = .ok xs
  | [], _ => rfl
  | x :: xs, pre => by
      have ih := collectFrom_array xs (pre ++ [x])
      simp only [List.append_assoc, List.singleton_append, List.length_append, List.length_singleton] at ih
      have : (Rep.array (pre ++ x :: xs)).get pre.length = .ok x := by simp [Rep.get]
      simp only [collectFrom, List.length_cons, this, ih]

namespace Refines
variable {r : Rep} {d : Sem} (hr : Refines r d) {n : Nat} (hn : d.len = some n)
include hr hn

theorem collectFrom_eq : ∀ (k i : Nat), i + k ≤ n → collectFrom r i k = tupAll (elemsFrom d i k)
  | 0, _, _ => rfl
  | k + 1, i, hi => by
      simp only [collectFrom, elemsFrom, hr.get i ((Sem.valid_some hn).2 (by omega)),
        collectFrom_eq k (i + 1) (by omega)]
      exact (tupAll_cons _ _).symm

theorem collect_eq : r.collect n = tupAll (elemsFrom d 0 n) := by
  rw [← hr.collectFrom_eq hn n 0 (by omega)]
  cases r with
  | array xs =>
    obtain rfl : xs.length = n := Len.fin.inj (hr.len_fin hn)
    exact (collectFrom_array xs []).symm
  | _ => rfl

end Refines

def listResult (pieces : Res (List Val)) (k : List Val → List Val) : V :=
  match pieces with
  | .ok vs => .seq (Rep.mkArray (k vs))
  | .err m => .err m
  | .panic m => .panic m

theorem liftList_eq (x : Res (List Val)) (k : List Val → List Val) :
    liftList x (fun vs => .seq (Rep.mkArray (k vs))) = listResult x k := by
  cases x <;> rfl

def listResult2 (a b : Res (List Val)) (k : List Val → List Val → List Val) : V :=
  match a with
  | .ok pre => (match b with
      | .ok post => .seq (Rep.mkArray (k pre post))
      | .err m => .err m
      | .panic m => .panic m)
  | .err m => .err m
  | .panic m => .panic m

theorem liftList2_eq (a b : Res (List Val)) (k : List Val → List Val → List Val) :
    liftList a (fun pre => liftList b fun post => .seq (Rep.mkArray (k pre post))) = listResult2 a b k := by
  cases a <;> cases b <;> rfl

/-- `liftList` with its arms in the order in which `swapResult` and `swapB` write their matches -/
theorem liftList_match (x : Res (List Val)) (k : List Val → V) :
    liftList x k = match x with
      | .err m => .err m
      | .panic m => .panic m
      | .ok vs => k vs := by
  cases x <;> rfl

/-! ## the library compositions written in xray -/

theorem rangeLen_unit (n : Nat) (hn : 0 < n) : rangeLen 0 n 1 = .fin n := by
  have h1 : (0 : Int) < 1 ∧ (0 : Int) < n := by omega
  simp only [rangeLen, h1, and_self, if_true, Int.ediv_one]
  congr 1; omega

theorem rangeB_three (s e st : Int) (hs : inI64 s = true) (he : inI64 e = true) (hst : inI64 st = true) :
    rangeB [s, e, st] =
      if st = 0 then .err "invalid range, step size cannot be zero"
      else if (0 < st ∧ s ≥ e) ∨ (st < 0 ∧ s ≤ e) then .seq .empty
      else .seq (.range s e st) := by
  simp only [rangeB, hs, he, hst, Bool.not_true, Bool.false_eq_true, if_false]

theorem rangeB_unit (n : Nat) (hin : inI64 (n : Int) = true) :
    rangeB [(n : Int)] = if n = 0 then .seq .empty else .seq (.range 0 n 1) := by
  have h1 : ¬ ((1 : Int) = 0) := by omega
  simp only [rangeB, hin, if_true, h1, if_false]
  by_cases h0 : n = 0
  · rw [if_pos h0, if_pos (.inl (by omega))]
  · rw [if_neg h0, if_neg (by omega)]

theorem fmod_nat (i n : Nat) : Int.fmod (i : Int) (n : Int) = ((i % n : Nat) : Int) := by
  rw [Int.fmod_eq_emod_of_nonneg _ (by omega)]
  exact (Int.natCast_emod i n).symm

theorem count2_notEmpty (s o : Int) : (count2 s o).isEmpty = false := rfl

theorem atEnd_valid (o : Option Nat) (i : Nat) (h : optValid o i) : atEnd o i = false := by
  cases o with
  | none => rfl
  | some n => exact decide_eq_false (Nat.not_le.2 h)

def passes (d : Sem) (c : Int) (stopOn : Bool) (k : Nat) : Prop :=
  ∃ x, d.el k = .ok (.int x) ∧ decide (x < c) ≠ stopOn

def stops (d : Sem) (c : Int) (stopOn : Bool) (j : Nat) : Prop :=
  ∃ x, d.el j = .ok (.int x) ∧ decide (x < c) = stopOn

namespace Refines
variable {r : Rep} {d : Sem} (hr : Refines r d) (c : Int) (stopOn : Bool)
include hr

theorem scanLt_pass {i : Nat} (hv : d.valid i) (hp : passes d c stopOn i) (fuel : Nat) :
    scanLt r c stopOn d.len i (fuel + 1) = scanLt r c stopOn d.len (i + 1) fuel := by
  obtain ⟨x, hx, hs⟩ := hp
  simp only [scanLt, atEnd_valid _ _ hv, Bool.false_eq_true, if_false, hr.get i hv, hx, hs]

theorem scanLt_stop {i : Nat} (hv : d.valid i) (hs : stops d c stopOn i) (fuel : Nat) :
    scanLt r c stopOn d.len i (fuel + 1) = .ok (some i) := by
  obtain ⟨x, hx, hs⟩ := hs
  simp only [scanLt, atEnd_valid _ _ hv, Bool.false_eq_true, if_false, hr.get i hv, hx, hs, if_true]

theorem scanLt_run : ∀ (k i fuel : Nat),
    (∀ j, i ≤ j → j < i + k → d.valid j ∧ passes d c stopOn j) →
    scanLt r c stopOn d.len i (fuel + k) = scanLt r c stopOn d.len (i + k) fuel
  | 0, _, _, _ => rfl
  | k + 1, i, fuel, hp => by
      obtain ⟨hv, hpi⟩ := hp i (Nat.le_refl i) (by omega)
      rw [← Nat.add_assoc, hr.scanLt_pass c stopOn hv hpi,
        scanLt_run k (i + 1) fuel fun j h1 h2 => hp j (by omega) (by omega)]
      congr 1; omega

/-- the scan of `take_while`/`skip_until` stops at the first stopping index `j`, having examined `j + 1` elements
(one search permit each): it succeeds with more fuel than `j` … -/
theorem scan_found (j : Nat) (hv : d.valid j) (hj : stops d c stopOn j)
    (hp : ∀ k, k < j → passes d c stopOn k) (fuel : Nat) (hf : j < fuel) :
    scanLt r c stopOn d.len 0 fuel = .ok (some j) := by
  obtain ⟨f, rfl⟩ : ∃ f, fuel = f + 1 + j := ⟨fuel - j - 1, by omega⟩
  rw [hr.scanLt_run c stopOn j 0 (f + 1) fun k _ hk => ⟨Sem.valid_of_le hv (by omega), hp k (by omega)⟩,
    Nat.zero_add, hr.scanLt_stop c stopOn hv hj]

/-- … and runs out of permits with `j` or fewer -/
theorem scan_out_of_fuel (j : Nat) (hv : d.valid j) (hp : ∀ k, k < j → passes d c stopOn k)
    (fuel : Nat) (hf : fuel ≤ j) : scanLt r c stopOn d.len 0 fuel = .panic "out of fuel" := by
  have := hr.scanLt_run c stopOn fuel 0 0 fun k _ hk => ⟨Sem.valid_of_le hv (by omega), hp k (by omega)⟩
  rw [Nat.zero_add] at this; rw [this]; rfl

theorem scan_end (n : Nat) (hn : d.len = some n) (hp : ∀ k, k < n → passes d c stopOn k)
    (fuel : Nat) (hf : n < fuel) : scanLt r c stopOn d.len 0 fuel = .ok none := by
  obtain ⟨f, rfl⟩ : ∃ f, fuel = f + 1 + n := ⟨fuel - n - 1, by omega⟩
  rw [hr.scanLt_run c stopOn n 0 (f + 1) fun k _ hk => ⟨(Sem.valid_some hn).2 (by omega), hp k (by omega)⟩,
    Nat.zero_add]
  simp [scanLt, hn, atEnd]

theorem takeWhile_unfold (fuel : Nat) :
    takeWhileLtB r c fuel = (match scanLt r c false d.len 0 fuel with
      | .ok (some i) => sliceB r 0 (some i)
      | .ok none => sliceB r 0 d.len
      | .err m => .err m
      | .panic m => .panic m) := by
  unfold takeWhileLtB
  rw [hr.len]; cases d.len <;> rfl

theorem skipUntil_unfold (fuel : Nat) :
    skipUntilLtB r c fuel = (match scanLt r c true d.len 0 fuel with
      | .ok (some i) => sliceB r i none
      | .ok none => sliceB r (d.len.getD 0) none
      | .err m => .err m
      | .panic m => .panic m) := by
  unfold skipUntilLtB
  rw [hr.len]; cases d.len <;> rfl

end Refines

theorem elems_cons {d : Sem} {α : Type} {f : α → Val} {x : α} {t : List α} {i : Nat}
    (h : ∀ k (hk : k < (x :: t).length), d.el (i + k) = .ok (f (x :: t)[k])) :
    d.el i = .ok (f x) ∧ ∀ k (hk : k < t.length), d.el (i + 1 + k) = .ok (f t[k]) :=
  ⟨h 0 (Nat.zero_lt_succ _), fun k hk => by
    rw [Nat.add_assoc, Nat.add_comm 1 k]; exact h (k + 1) (Nat.succ_lt_succ hk)⟩

namespace Refines
variable {r : Rep} {d : Sem} (hr : Refines r d) (c : Int) {n : Nat} (hn : d.len = some n)
include hr hn

theorem nthFwd_list : ∀ (xs : List Int) (i left fuel : Nat), i + xs.length = n →
    (∀ k (hk : k < xs.length), d.el (i + k) = .ok (.int xs[k])) → xs.length < fuel →
    nthFwd r c (some n) i left fuel = .opt (((xs.filter (fun x => decide (x < c)))[left]?).map Val.int)
  | [], i, left, fuel + 1, hi, _, _ => by
      simp [nthFwd, atEnd, ← hi]
  | x :: t, i, left, fuel + 1, hi, hel, hf => by
      simp only [List.length_cons] at hi hf
      have hvi : d.valid i := (Sem.valid_some hn).2 (by omega)
      obtain ⟨h0, ht⟩ := elems_cons hel
      have ih := fun l => nthFwd_list t (i + 1) l fuel (by omega) ht (by omega)
      simp only [nthFwd, atEnd_valid (some n) i (by simp only [optValid]; omega), Bool.false_eq_true, if_false,
        hr.get i hvi, h0, List.filter]
      by_cases hx : x < c
      · simp only [hx, if_true, decide_true]
        cases left with
        | zero => rfl
        | succ l => simp only [Nat.add_one_ne_zero, if_false, Nat.add_sub_cancel, ih l, List.getElem?_cons_succ]
      · simp only [hx, if_false, decide_false, ih left]

theorem nthBwd_list : ∀ (ys : List Int) (left : Nat), ys.length ≤ n →
    (∀ j (hj : j < ys.length), d.el (ys.length - 1 - j) = .ok (.int ys[j])) →
    nthBwd r c ys.length left = .opt (((ys.filter (fun x => decide (x < c)))[left]?).map Val.int)
  | [], left, _, _ => rfl
  | y :: t, left, hle, hel => by
      simp only [List.length_cons] at hle
      have hv : d.valid t.length := (Sem.valid_some hn).2 (by omega)
      have h0 : d.el t.length = .ok (.int y) := hel 0 (Nat.zero_lt_succ _)
      have ih := fun l => nthBwd_list t l (by omega) fun j hj => by
        rw [show t.length - 1 - j = (y :: t).length - 1 - (j + 1) by simp only [List.length_cons]; omega]
        exact hel (j + 1) (Nat.succ_lt_succ hj)
      simp only [List.length_cons, nthBwd, hr.get _ hv, h0, List.filter]
      by_cases hx : y < c
      · simp only [hx, if_true, decide_true]
        cases left with
        | zero => rfl
        | succ l => simp only [Nat.add_one_ne_zero, if_false, Nat.add_sub_cancel, ih l, List.getElem?_cons_succ]
      · simp only [hx, if_false, decide_false, ih left]

end Refines

theorem nth_unfold_fin (r : Rep) (h : r.wf) (n : Nat) (hn : (den r).len = some n) (k c : Int) (fuel : Nat) :
    nthLtB r k c fuel = (if k < 0 then nthBwd r c n (-k - 1).toNat else nthFwd r c (some n) 0 k.toNat fuel) := by
  unfold nthLtB; rw [h.refines.len_fin hn]; rfl

theorem nth_inf_negative (r : Rep) (h : r.wf) (hn : (den r).len = none) (k c : Int) (fuel : Nat) (hk : k < 0) :
    nthLtB r k c fuel = .err "negative match index cannot be used with infinite sequence" := by
  unfold nthLtB; rw [h.refines.len_inf hn]; simp [hk]

/-- the list-level result of `swap` for distinct normalised positions `lo < hi` -/
def swapResult (d : Sem) (n lo hi : Nat) : V :=
  match tupAll (elemsFrom d 0 lo) with
  | .err m => .err m
  | .panic m => .panic m
  | .ok pre =>
  match d.el hi with
  | .err m => .err m
  | .panic m => .panic m
  | .ok vhi =>
  match tupAll (elemsFrom d (lo + 1) (hi - (lo + 1))) with
  | .err m => .err m
  | .panic m => .panic m
  | .ok mid =>
  match d.el lo with
  | .err m => .err m
  | .panic m => .panic m
  | .ok vlo =>
  match tupAll (elemsFrom d (hi + 1) (n - (hi + 1))) with
  | .err m => .err m
  | .panic m => .panic m
  | .ok post => .seq (Rep.mkArray (pre ++ [vhi] ++ mid ++ [vlo] ++ post))

namespace Refines

theorem eqScan_list {a b : Rep} {da db : Sem} (ha : Refines a da) (hb : Refines b db) (n : Nat)
    (hna : da.len = some n) (hnb : db.len = some n) :
    ∀ (xs ys : List Val) (i fuel : Nat), xs.length = ys.length → i + xs.length = n →
      (∀ k (hk : k < xs.length), da.el (i + k) = .ok xs[k]) →
      (∀ k (hk : k < ys.length), db.el (i + k) = .ok ys[k]) → xs.length < fuel →
      eqScan a b (some n) i fuel = .bool (xs == ys)
  | [], [], i, fuel + 1, _, hi, _, _, _ => by
      simp [eqScan, atEnd, ← hi]
  | x :: t, y :: u, i, fuel + 1, hl, hi, hxa, hyb, hf => by
      simp only [List.length_cons] at hl hi hf
      have hva : da.valid i := (Sem.valid_some hna).2 (by omega)
      have hvb : db.valid i := (Sem.valid_some hnb).2 (by omega)
      obtain ⟨hx0, hxt⟩ := elems_cons (f := id) hxa
      obtain ⟨hy0, hyu⟩ := elems_cons (f := id) hyb
      have ih := eqScan_list ha hb n hna hnb t u (i + 1) fuel (by omega) (by omega) hxt hyu (by omega)
      simp only [eqScan, atEnd_valid (some n) i (by simp only [optValid]; omega), Bool.false_eq_true, if_false,
        ha.get i hva, hb.get i hvb, hx0, hy0, id, ih]
      rw [show (x :: t == y :: u) = (x == y && t == u) from rfl]
      cases x == y <;> rfl

end Refines

/-- a concatenation tree: `+` applied in any parenthesisation -/
inductive CTree where
  | leaf (r : Rep)
  | node (l r : CTree)

def CTree.leaves : CTree → List Rep
  | .leaf r => [r]
  | .node l r => l.leaves ++ r.leaves

def CTree.eval : CTree → Option Rep
  | .leaf r => some r
  | .node l r =>
    match l.eval, r.eval with
    | some a, some b =>
      (match a.mkChain b with
       | .new c => some c
       | .left => some a
       | .right => some b
       | .err _ => none
       | .panic _ => none)
    | _, _ => none

end XrayModel.Seq
