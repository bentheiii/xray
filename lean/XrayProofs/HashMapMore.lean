/- C17 continued, the operations that read the whole table: mapping `==` (the same classes with related values), the
xor-folding hashes of sets and mappings (functions of the class set, by `keys_perm` and because `xorSum` is invariant
under permutation), `map_values`, the reference returned by `put` with `with_count`, and `update` from a mapping. -/
import XrayProofs.HashMap
namespace XrayModel.HM

section
variable {K V : Type} {hash : K → Res Int} {eq : K → K → Res Bool}

def optRel (r : V → V → Bool) : Option V → Option V → Bool
  | none, none => true
  | some a, some b => r a b
  | _, _ => false

theorem optRel_isSome {r : V → V → Bool} {x y : Option V} (h : optRel r x y = true) : x.isSome = y.isSome := by
  cases x <;> cases y <;> first | rfl | cases h

theorem dynEqGo_eq (C : Consistent hash eq) (veq : V → V → Res Bool) (ve : V → V → Bool)
    (hve : ∀ a b, veq a b = .ok (ve a b)) {m1 : Table K V} (h1 : Inv C m1) (l : List (K × V)) :
    dynEqGo hash eq veq m1 l = .ok (l.all fun kv => optRel ve (some kv.2) (look C m1 kv.1)) := by
  induction l with
  | nil => rfl
  | cons kv r ih =>
    obtain ⟨k, v⟩ := kv
    simp only [dynEqGo, List.all_cons]
    rw [look_eq_lookB C h1 k]
    cases locate_cases C m1 k with
    | vacant _ hloc hl | missing _ _ hloc hl => rw [hloc, hl]; rfl
    | @found _ _ _ p hg hi _ hloc hl =>
      simp only [hloc, hl, getAt, hg, hi, hve]
      show _ = Except.ok (ve v p && _)
      cases ve v p
      · rfl
      · exact ih

def xorSum (l : List Nat) : Nat := l.foldl xor64 0

theorem foldl_xor64 (l : List Nat) (acc : Nat) : l.foldl xor64 acc = xor64 acc (xorSum l) := by
  induction l generalizing acc with
  | nil => simp [xorSum, xor64]
  | cons a r ih =>
    simp only [List.foldl_cons, xorSum]
    rw [ih, ih (xor64 0 a)]
    simp [xor64, Nat.xor_assoc]

theorem xorSum_cons (a : Nat) (l : List Nat) : xorSum (a :: l) = xor64 a (xorSum l) := by
  simp only [xorSum, List.foldl_cons]
  rw [foldl_xor64]; simp [xor64, xorSum]

theorem xorSum_append (l1 l2 : List Nat) : xorSum (l1 ++ l2) = xor64 (xorSum l1) (xorSum l2) := by
  simp only [xorSum, List.foldl_append]
  rw [foldl_xor64]; rfl

theorem xorSum_perm {l1 l2 : List Nat} (h : l1.Perm l2) : xorSum l1 = xorSum l2 :=
  h.foldl_eq' (fun x _ y _ z => by simp only [xor64, Nat.xor_assoc, Nat.xor_comm x y]) 0

theorem xorSum_lt (l : List Nat) (h : ∀ a ∈ l, a < 2 ^ 64) : xorSum l < 2 ^ 64 := by
  induction l with
  | nil => exact Nat.two_pow_pos 64
  | cons a r ih =>
    rw [xorSum_cons]
    exact Nat.xor_lt_two_pow (h a List.mem_cons_self) (ih fun b hb => h b (List.mem_cons_of_mem _ hb))

-- `U64` is the numeral 2^64: the statement matches `Nat.mod_lt` by evaluating the power
theorem mod_U64_lt (n : Nat) : n % U64 < 2 ^ 64 := Nat.mod_lt _ (Nat.two_pow_pos 64)

/-- what the hash reads of the table: every stored hash with the length of its bucket -/
def sig (bs : List (Nat × Bucket K V)) : List (Nat × Nat) := bs.map (fun hb => (hb.1, hb.2.length))

theorem sHash_eq_xorSum (t : Table K V) : sHash t = xorSum ((sig t.buckets).map fun p => (p.1 + p.2) % U64) := by
  simp only [sHash, xorSum, sig, List.foldl_map]

theorem sHash_lt (t : Table K V) : sHash t < 2 ^ 64 := by
  rw [sHash_eq_xorSum]
  exact xorSum_lt _ fun a ha => by obtain ⟨p, _, rfl⟩ := List.mem_map.1 ha; exact mod_U64_lt _

theorem mem_sig_of_bget {bs : List (Nat × Bucket K V)} {h : Nat} {b : Bucket K V} (hg : bget bs h = some b) :
    (h, b.length) ∈ sig bs := by
  fun_induction bget bs h with
  | case1 => cases hg
  | case2 => cases hg; exact List.mem_cons_self
  | case3 _ _ _ _ _ ih => exact List.mem_cons_of_mem _ (ih hg)

theorem bget_of_mem (C : Consistent hash eq) {bs : List (Nat × Bucket K V)} (hb : BucketsOK C bs) {h : Nat}
    {b : Bucket K V} (hm : (h, b) ∈ bs) : bget bs h = some b := by
  induction bs with
  | nil => cases hm
  | cons x r ih =>
    obtain ⟨h0, b0⟩ := x
    rcases List.mem_cons.1 hm with he | hr
    · cases he; exact if_pos rfl
    · have hg := ih hb.2.2 hr
      have hne : h0 ≠ h := fun he => by rw [← he, hb.2.1] at hg; cases hg
      rw [bget, if_neg hne, hg]

theorem sig_nodup (C : Consistent hash eq) {bs : List (Nat × Bucket K V)} (hb : BucketsOK C bs) : (sig bs).Nodup := by
  induction bs with
  | nil => exact .nil
  | cons hb0 rest ih =>
    obtain ⟨h0, b0⟩ := hb0
    obtain ⟨_, h2, h3⟩ := hb
    refine List.nodup_cons.2 ⟨fun hm => ?_, ih h3⟩
    obtain ⟨⟨h, b⟩, hx, he⟩ := List.mem_map.1 hm
    cases (Prod.mk.inj he).1
    rw [bget_of_mem C h3 hx] at h2; cases h2

/-- the hashes of the stored keys, with multiplicity; `sig` is its histogram -/
theorem count_hash (C : Consistent hash eq) {bs : List (Nat × Bucket K V)} (hb : BucketsOK C bs) (h : Nat) :
    (((bs.flatMap (·.2)).map (·.1)).map C.h).count h = blen bs h := by
  induction bs with
  | nil => rfl
  | cons x r ih =>
    obtain ⟨h0, b0⟩ := x
    have h1 : (b0.map (·.1)).map C.h = List.replicate b0.length h0 :=
      List.eq_replicate_iff.2 ⟨by rw [List.length_map, List.length_map], fun y hy => by
        obtain ⟨kv, hkv, rfl⟩ := List.mem_map.1 (List.map_map ▸ hy); exact hb.1.1 kv hkv⟩
    rw [List.flatMap_cons, List.map_append, List.map_append, List.count_append, ih hb.2.2, blen_cons, h1, List.count_replicate]
    by_cases hh : h0 = h
    · have : blen r h = 0 := by rw [blen, ← hh, hb.2.1]; rfl
      simp [hh, this]
    · simp [hh]

theorem mem_sig_iff (C : Consistent hash eq) {t : Table K V} (hI : Inv C t) (p : Nat × Nat) :
    p ∈ sig t.buckets ↔ p.2 = ((keys t).map C.h).count p.1 ∧ 0 < p.2 := by
  have hc : ((keys t).map C.h).count p.1 = blen t.buckets p.1 := count_hash C hI.buckets_ok p.1
  constructor
  · intro hp
    obtain ⟨⟨h, b⟩, hm, rfl⟩ := List.mem_map.1 hp
    have hg := bget_of_mem C hI.buckets_ok hm
    rw [blen, hg] at hc
    exact ⟨hc.symm, List.length_pos_iff.2 (hI.buckets_ok.get hg).2.2⟩
  · intro ⟨h1, h2⟩
    rw [← h1] at hc
    cases hg : bget t.buckets p.1 with
    | none => rw [blen, hg] at hc; exact absurd hc (Nat.ne_of_gt h2)
    | some b =>
      rw [blen, hg] at hc
      have := mem_sig_of_bget hg
      rwa [← show p.2 = b.length from hc] at this

theorem sHash_congr {W : Type} (C : Consistent hash eq) {a : Table K V} {b : Table K W} (ha : Inv C a) (hb : Inv C b)
    (h : ∀ k, has C a k = has C b k) : sHash a = sHash b := by
  rw [sHash_eq_xorSum, sHash_eq_xorSum]
  refine xorSum_perm (((List.perm_ext_iff_of_nodup (sig_nodup C ha.buckets_ok) (sig_nodup C hb.buckets_ok)).2
    fun p => ?_).map _)
  rw [mem_sig_iff C ha, mem_sig_iff C hb, (keys_perm C ha hb h C.h C.congr).count_eq]

theorem get2_eq (C : Consistent hash eq) {t : Table K V} (hI : Inv C t) (k : K) :
    get2 hash eq t k = match look C t k with
      | some v => .ok v
      | none => .error (.err "key not found") := by
  unfold get2
  rw [lookup_eq C hI]
  cases look C t k <;> rfl

/-- the `on_empty` callback of `map_values`, with `m[k]` read off the association list -/
def mvEmpty {W : Type} (C : Consistent hash eq) (f : V → Res W) (t : Table K V) (k : K) : Res W :=
  match look C t k with
  | some v => f v
  | none => .error (.err "key not found")

theorem mvEmpty_stored {W : Type} (C : Consistent hash eq) (f : V → Res W) {t : Table K V} (hI : Inv C t)
    {kv : K × V} (hkv : kv ∈ toList t) : mvEmpty C f t kv.1 = f kv.2 := by
  rw [mvEmpty, look_of_stored C hI hkv]

/-- `map_values` is the bulk update of an empty table with the stored keys in order, each looked up in `t` -/
theorem mapValues_fold {W : Type} (C : Consistent hash eq) (f : V → Res W) {t : Table K V} (hI : Inv C t) :
    match foldF C (mvEmpty C f t) (fun _ _ => .error (.err "unreachable")) (fun _ => none)
      ((toList t).map fun kv => .ok kv.1) with
    | .error er => mapValues hash eq f t = .error er
    | .ok F => ∃ t', mapValues hash eq f t = .ok t' ∧ Inv C t' ∧ ∀ k, look C t' k = F k := by
  -- a table with `len = 0` has no buckets, so `clear` gives the empty table in both cases
  have hclear : (if t.len = 0 then ({ buckets := t.buckets.map (fun hb => (hb.1, [])), len := t.len } : Table K W)
      else empty) = empty := by
    by_cases h0 : t.len = 0
    · rw [if_pos h0, buckets_nil_of_len_zero C hI h0, h0]; rfl
    · rw [if_neg h0]
  have : mapValues hash eq f t = updateFromKeys hash eq (mvEmpty C f t) (fun _ _ => .error (.err "unreachable"))
      empty ((toList t).map fun kv => .ok kv.1) := by
    rw [mapValues, hclear, keys, List.map_map]
    congr 1
    funext k
    rw [get2_eq C hI, mvEmpty]
    cases look C t k <;> rfl
  rw [this]
  exact updateFromKeys_spec C _ _ (⟨trivial, rfl⟩ : Inv C (empty : Table K W)) _

section mapValues
variable {W : Type} (C : Consistent hash eq) (onE : K → Res W) (onO : K → W → Res W)

theorem foldF_fresh (g : V → W) (l : List (K × V)) (hp : l.Pairwise (fun x y => C.e x.1 y.1 = false))
    (hE : ∀ kv ∈ l, onE kv.1 = .ok (g kv.2)) (acc : K → Option W) (hacc : ∀ kv ∈ l, acc kv.1 = none) :
    foldF C onE onO acc (l.map fun kv => .ok kv.1) =
      .ok fun k' => (findE C.e k' (l.map fun kv => (kv.1, g kv.2))).or (acc k') := by
  induction l generalizing acc with
  | nil => rfl
  | cons kv r ih =>
    obtain ⟨k, v⟩ := kv
    rw [List.pairwise_cons] at hp
    simp only [List.map_cons, foldF, stepF, hacc (k, v) List.mem_cons_self, newVal, hE (k, v) List.mem_cons_self]
    rw [ih hp.2 (fun kv hkv => hE kv (List.mem_cons_of_mem _ hkv))]
    · congr 1
      funext k'
      simp only [findE]
      cases hk' : C.e k' k
      · rfl
      · rw [findE_map_values, findE_none_of_equiv C hp.1 hk']; rfl
    · intro kv hkv
      rw [e_comm, hp.1 kv hkv]
      exact hacc kv (List.mem_cons_of_mem _ hkv)

theorem foldF_fresh_err (pre : List (K × V)) (k : K) (v : V) (rest : List (Res K)) (er : Err)
    (hp : (pre ++ [(k, v)]).Pairwise (fun x y => C.e x.1 y.1 = false))
    (hpre : ∀ kv ∈ pre, ∃ w, onE kv.1 = .ok w) (hk : onE k = .error er)
    (acc : K → Option W) (hacc : ∀ kv ∈ pre ++ [(k, v)], acc kv.1 = none) :
    foldF C onE onO acc ((pre.map fun kv => .ok kv.1) ++ .ok k :: rest) = .error er := by
  induction pre generalizing acc with
  | nil => simp only [List.map_nil, List.nil_append, foldF, stepF, hacc (k, v) (List.mem_singleton.2 rfl), newVal, hk]
  | cons kv r ih =>
    rw [List.cons_append, List.pairwise_cons] at hp
    obtain ⟨w, hw⟩ := hpre kv List.mem_cons_self
    simp only [List.map_cons, List.cons_append, foldF, stepF, hacc kv List.mem_cons_self, newVal, hw]
    refine ih hp.2 (fun x hx => hpre x (List.mem_cons_of_mem _ hx)) _ fun x hx => ?_
    rw [e_comm, hp.1 x hx]
    exact hacc x (List.mem_cons_of_mem _ hx)

end mapValues

/-- the value hash function is total with hashes in range: `vh` is its pure reading (the raw hash stays an
existential `x`, as in `locate_cases`, so that nothing ever evaluates `toU64` on a cast) -/
def VHashOK (vhash : V → Res Int) (vh : V → Nat) : Prop := ∀ v, ∃ x, vhash v = .ok x ∧ toU64 x = some (vh v)

theorem hashBucketValues_eq {vhash : V → Res Int} {vh : V → Nat} (hv : VHashOK vhash vh) (b : Bucket K V) (acc : Nat) :
    hashBucketValues vhash b acc = .ok (xor64 acc (xorSum (b.map (fun kv => vh kv.2)))) := by
  induction b generalizing acc with
  | nil => simp [hashBucketValues, xorSum, xor64]
  | cons kv r ih =>
    obtain ⟨k, v⟩ := kv
    obtain ⟨x, h1, h2⟩ := hv v
    simp only [hashBucketValues, h1, h2, ih, List.map_cons, xorSum_cons]
    simp [xor64, Nat.xor_assoc]

/-- the words the mapping hash folds, in order -/
def tokens (vh : V → Nat) (bs : List (Nat × Bucket K V)) : List Nat :=
  bs.flatMap (fun hb => ((hb.1 + hb.2.length) % U64) :: hb.2.map (fun kv => vh kv.2))

theorem dynHashGo_eq {vhash : V → Res Int} {vh : V → Nat} (hv : VHashOK vhash vh) (bs : List (Nat × Bucket K V))
    (acc : Nat) : dynHashGo vhash bs acc = .ok (xor64 acc (xorSum (tokens vh bs))) := by
  induction bs generalizing acc with
  | nil => simp [dynHashGo, tokens, xorSum, xor64]
  | cons hb rest ih =>
    obtain ⟨h, b⟩ := hb
    simp only [dynHashGo, hashBucketValues_eq hv, ih, tokens, List.flatMap_cons, List.cons_append, xorSum_cons, xorSum_append]
    simp [xor64, Nat.xor_assoc]

theorem xorSum_tokens (vh : V → Nat) (bs : List (Nat × Bucket K V)) :
    xorSum (tokens vh bs) = xor64 (xorSum ((sig bs).map fun p => (p.1 + p.2) % U64))
      (xorSum ((bs.flatMap (·.2)).map (fun kv => vh kv.2))) := by
  induction bs with
  | nil => simp [tokens, sig, xorSum, xor64]
  | cons hb rest ih =>
    obtain ⟨h, b⟩ := hb
    have ih' : xorSum (tokens vh rest) = _ := ih
    simp only [tokens, List.flatMap_cons, List.cons_append, xorSum_cons, xorSum_append, List.map_append] at ih' ⊢
    rw [ih']
    simp only [sig, List.map_cons, xorSum_cons, xor64]
    ac_rfl

theorem dynHash_eq (C : Consistent hash eq) {vhash : V → Res Int} {vh : V → Nat} (hv : VHashOK vhash vh)
    {t : Table K V} (hI : Inv C t) :
    dynHash vhash t = .ok (xor64 (sHash t)
      (xorSum ((keys t).map (fun k => match look C t k with | some v => vh v | none => 0)))) := by
  have : (toList t).map (fun kv => vh kv.2) =
      (keys t).map (fun k => match look C t k with | some v => vh v | none => 0) := by
    rw [keys, List.map_map]
    exact List.map_congr_left fun kv hkv => by simp only [Function.comp, look_of_stored C hI hkv]
  rw [dynHash, dynHashGo_eq hv, xorSum_tokens, ← sHash_eq_xorSum, ← this]
  simp [xor64, toList]

theorem toU64_lt {x : Int} {n : Nat} (h : toU64 x = some n) : n < 2 ^ 64 := by
  unfold toU64 at h
  split at h
  · cases h; omega
  · cases h

theorem dynHash_lt {vhash : V → Res Int} {vh : V → Nat} (hv : VHashOK vhash vh) (t : Table K V) :
    ∃ n, dynHash vhash t = .ok n ∧ n < 2 ^ 64 := by
  refine ⟨_, dynHashGo_eq hv t.buckets 0, Nat.xor_lt_two_pow (Nat.two_pow_pos 64) (xorSum_lt _ fun a ha => ?_)⟩
  simp only [tokens, List.mem_flatMap, List.mem_cons, List.mem_map] at ha
  obtain ⟨hb, _, rfl | ⟨kv, _, rfl⟩⟩ := ha
  · exact mod_U64_lt _
  · obtain ⟨x, _, h2⟩ := hv kv.2; exact toU64_lt h2

/-- `newVal (ok ∘ onEmpty) (ok ∘ onFound) o = ok (pureNew onEmpty onFound o)` -/
def pureNew (onEmpty : Unit → V) (onFound : V → V) : Option V → V
  | some p => onFound p
  | none => onEmpty ()

theorem putRet_eq (C : Consistent hash eq) {t : Table K V} (hI : Inv C t) (k : K) (onEmpty : Unit → V)
    (onFound : V → V) :
    putRet hash eq t k onEmpty onFound =
      match put hash eq t k onEmpty onFound with
      | .error e => .error e
      | .ok t' => .ok (t', pureNew onEmpty onFound (look C t k)) := by
  unfold putRet put putLocated
  rw [look_eq_lookB C hI]
  cases locate_cases C t k with
  | vacant hg hloc hl => simp only [hloc, hl, hg, tryPutLocatedRet, tryPutLocated, pureNew]
  | missing hg _ hloc hl =>
    simp only [hloc, hl, hg, tryPutLocatedRet, tryPutLocated, pureNew, List.getLast?_concat]
  | found hg hi _ hloc hl =>
    simp only [hloc, hl, hg, hi, tryPutLocatedRet, tryPutLocated, pureNew,
      List.getElem?_set_self (List.getElem?_eq_some_iff.1 hi).1]

theorem put_spec (C : Consistent hash eq) {t : Table K V} (hI : Inv C t) (k : K) (onEmpty : Unit → V)
    (onFound : V → V) :
    ∃ t', put hash eq t k onEmpty onFound = .ok t' ∧ Inv C t' ∧
      t'.len = (if (look C t k).isSome then t.len else t.len + 1) ∧
      ∀ k', look C t' k' = if C.e k' k then some (pureNew onEmpty onFound (look C t k)) else look C t k' :=
  (tryPut_spec C hI k (fun u => .ok (onEmpty u)) (fun v => .ok (onFound v))).2
    (pureNew onEmpty onFound (look C t k)) (by cases look C t k <;> rfl)

/-- running class counts: the specification of `with_count` over an association function of counts -/
def wcSpec (C : Consistent hash eq) (f : K → Nat) : List K → List (K × Nat)
  | [] => []
  | k :: r => (k, f k + 1) :: wcSpec C (fun k' => if C.e k' k then f k + 1 else f k') r

theorem withCount_spec (C : Consistent hash eq) {counter : Table K Nat} (hI : Inv C counter) (ks : List K) :
    withCount hash eq counter (ks.map .ok) =
      (wcSpec C (fun k => (look C counter k).getD 0) ks).map .ok := by
  induction ks generalizing counter with
  | nil => rfl
  | cons k r ih =>
    obtain ⟨t1, h1, h2, _, h4⟩ := put_spec C hI k (fun _ => 1) (fun v => v + 1)
    have hnew : pureNew (fun _ => 1) (fun v => v + 1) (look C counter k) = (look C counter k).getD 0 + 1 := by
      cases look C counter k <;> simp [pureNew]
    simp only [List.map_cons, withCount, putRet_eq C hI, h1, wcSpec, ih h2, hnew]
    congr 3
    funext k'
    rw [h4, hnew]
    cases C.e k' k <;> rfl

theorem writeAll_pairwise (C : Consistent hash eq) (l : List (K × V))
    (hp : l.Pairwise (fun x y => C.e x.1 y.1 = false)) (f : K → Option V) (k : K) :
    writeAll C f l k = match findE C.e k l with | some v => some v | none => f k := by
  induction l generalizing f with
  | nil => rfl
  | cons kv rest ih =>
    obtain ⟨k0, v0⟩ := kv
    rw [List.pairwise_cons] at hp
    simp only [writeAll, findE, ih hp.2]
    cases hk : C.e k k0
    · rfl
    · rw [findE_none_of_equiv C hp.1 hk]; rfl

end
end XrayModel.HM
