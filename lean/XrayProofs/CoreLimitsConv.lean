/-
Need-based exactness of the depth and the recursion limit (C08), both halves, for the configuration
`cfgO`: depth and recursion limit each set or not, no call limit (the call limit has its whole-run
iff in `callsAt`).  `SimO`: counters of the unchecked run `evalI` within the limits ⇒ the limited run
is that run; `VioO`: the counters reach a limit ⇒ the limited run ends in a violation.  Both are
`Lock` (CoreLimitsSim) at `cfgO`.
-/
import XrayProofs.CoreLimitsSim
namespace XrayModel.CoreLimitsSim
open XrayModel.Core XrayModel.CoreLimits

def cfgO (tco : Bool) (Ld Lr : Option Nat) : Cfg := { depthLimit := Ld, callLimit := none, recLimit := Lr, tco := tco }

@[simp] theorem cfgO_tco (tco Ld Lr) : (cfgO tco Ld Lr).tco = tco := rfl
@[simp] theorem cfgO_depth (tco Ld Lr) : (cfgO tco Ld Lr).depthLimit = Ld := rfl
@[simp] theorem cfgO_call (tco Ld Lr) : (cfgO tco Ld Lr).callLimit = none := rfl
@[simp] theorem cfgO_rec (tco Ld Lr) : (cfgO tco Ld Lr).recLimit = Lr := rfl

def TO (c0 : Nat) (s : StI) : St := { out := s.out, calls := c0 }
@[simp] theorem TO_out (c0 s) : (TO c0 s).out = s.out := rfl
@[simp] theorem TO_calls (c0 s) : (TO c0 s).calls = c0 := rfl
theorem TO_mk (c0 o c h r) : TO c0 { out := o, calls := c, maxH := h, maxRec := r } = { out := o, calls := c0 } := rfl

def mapTO (c0 : Nat) (p : Res × StI) : Res × St := (p.1, TO c0 p.2)
def mapTOE {α : Type} (c0 : Nat) (p : Except Res α × StI) : Except Res α × St := (p.1, TO c0 p.2)
@[simp] theorem mapTO_mk (c0 r s) : mapTO c0 (r, s) = (r, TO c0 s) := rfl
@[simp] theorem mapTOE_mk {α} (c0) (r : Except Res α) (s) : mapTOE c0 (r, s) = (r, TO c0 s) := rfl

def WithinO (Ld Lr : Option Nat) (s : StI) : Prop := optLt s.maxH Ld ∧ optLeN s.maxRec Lr

structure SimO (tco : Bool) (Ld Lr : Option Nat) (c0 : Nat) (n : Nat) : Prop where
  eval : ∀ fr e tail s, WithinO Ld Lr (evalI n tco fr e tail s).2 →
    eval n (cfgO tco Ld Lr) fr e tail (TO c0 s) = mapTO c0 (evalI n tco fr e tail s)
  callNamed : ∀ fr f args tail s, WithinO Ld Lr (callNamedI n tco fr f args tail s).2 →
    callNamed n (cfgO tco Ld Lr) fr f args tail (TO c0 s) = mapTO c0 (callNamedI n tco fr f args tail s)
  builtin : ∀ fr f args tail s, WithinO Ld Lr (builtinI n tco fr f args tail s).2 →
    builtin n (cfgO tco Ld Lr) fr f args tail (TO c0 s) = mapTO c0 (builtinI n tco fr f args tail s)
  callVal : ∀ fr c args tail s, WithinO Ld Lr (callValI n tco fr c args tail s).2 →
    callVal n (cfgO tco Ld Lr) fr c args tail (TO c0 s) = mapTO c0 (callValI n tco fr c args tail s)
  evalList : ∀ fr es s, WithinO Ld Lr (evalListI n tco fr es s).2 →
    evalList n (cfgO tco Ld Lr) fr es (TO c0 s) = mapTOE c0 (evalListI n tco fr es s)
  mkClos : ∀ fr f s, WithinO Ld Lr (mkClosI n tco fr f s).2 →
    mkClos n (cfgO tco Ld Lr) fr f (TO c0 s) = mapTO c0 (mkClosI n tco fr f s)
  evalDflts : ∀ fr ps s, WithinO Ld Lr (evalDfltsI n tco fr ps s).2 →
    evalDflts n (cfgO tco Ld Lr) fr ps (TO c0 s) = mapTOE c0 (evalDfltsI n tco fr ps s)
  callUser : ∀ h c args s, WithinO Ld Lr (callUserI n tco h c args s).2 →
    callUser n (cfgO tco Ld Lr) h c args (TO c0 s) = mapTO c0 (callUserI n tco h c args s)
  tramp : ∀ h c args rec s, WithinO Ld Lr (trampI n tco h c args rec s).2 →
    tramp n (cfgO tco Ld Lr) h c args rec (TO c0 s) = mapTO c0 (trampI n tco h c args rec s)
  evalDecls : ∀ fr ds s, WithinO Ld Lr (evalDeclsI n tco fr ds s).2 →
    evalDecls n (cfgO tco Ld Lr) fr ds (TO c0 s) = mapTOE c0 (evalDeclsI n tco fr ds s)

theorem belowO {tco : Bool} {Ld Lr : Option Nat} {c0 : Nat} {s : StI} (h : WithinO Ld Lr s) :
    Below (cfgO tco Ld Lr) c0 s := ⟨.inr h.1, .inr trivial, h.2⟩

theorem simO (tco : Bool) (Ld Lr : Option Nat) (c0 n : Nat) : SimO tco Ld Lr c0 n :=
  have L := lock (cfgO tco Ld Lr) c0 n
  ⟨fun fr e tail s h => (L.eval fr e tail s).sim (belowO h), fun fr f args tail s h => (L.callNamed fr f args tail s).sim (belowO h),
   fun fr f args tail s h => (L.builtin fr f args tail s).sim (belowO h), fun fr c args tail s h => (L.callVal fr c args tail s).sim (belowO h),
   fun fr es s h => (L.evalList fr es s).sim (belowO h), fun fr f s h => (L.mkClos fr f s).sim (belowO h),
   fun fr ps s h => (L.evalDflts fr ps s).sim (belowO h), fun hh c args s h => (L.callUser hh c args s).sim (belowO h),
   fun hh c args rec s h => (L.tramp hh c args rec s).sim (belowO h), fun fr ds s h => (L.evalDecls fr ds s).sim (belowO h)⟩

theorem withinO_of_le {Ld Lr : Option Nat} {s s' : StI} (hle : StI.le s s') (h : WithinO Ld Lr s') : WithinO Ld Lr s :=
  ⟨optLt_of_le hle.2.1 h.1, optLeN_of_le hle.2.2 h.2⟩

section monoO
variable {n : Nat} {tco : Bool} {Ld Lr : Option Nat}
theorem mO_eval {fr e tail s} (h : WithinO Ld Lr (evalI n tco fr e tail s).2) : WithinO Ld Lr s :=
  withinO_of_le ((monoAt tco n).eval fr e tail s) h
theorem mO_callNamed {fr f args tail s} (h : WithinO Ld Lr (callNamedI n tco fr f args tail s).2) : WithinO Ld Lr s :=
  withinO_of_le ((monoAt tco n).callNamed fr f args tail s) h
theorem mO_builtin {fr f args tail s} (h : WithinO Ld Lr (builtinI n tco fr f args tail s).2) : WithinO Ld Lr s :=
  withinO_of_le ((monoAt tco n).builtin fr f args tail s) h
theorem mO_callVal {fr c args tail s} (h : WithinO Ld Lr (callValI n tco fr c args tail s).2) : WithinO Ld Lr s :=
  withinO_of_le ((monoAt tco n).callVal fr c args tail s) h
theorem mO_evalList {fr es s} (h : WithinO Ld Lr (evalListI n tco fr es s).2) : WithinO Ld Lr s :=
  withinO_of_le ((monoAt tco n).evalList fr es s) h
theorem mO_mkClos {fr f s} (h : WithinO Ld Lr (mkClosI n tco fr f s).2) : WithinO Ld Lr s :=
  withinO_of_le ((monoAt tco n).mkClos fr f s) h
theorem mO_evalDflts {fr ps s} (h : WithinO Ld Lr (evalDfltsI n tco fr ps s).2) : WithinO Ld Lr s :=
  withinO_of_le ((monoAt tco n).evalDflts fr ps s) h
theorem mO_evalDecls {fr ds s} (h : WithinO Ld Lr (evalDeclsI n tco fr ds s).2) : WithinO Ld Lr s :=
  withinO_of_le ((monoAt tco n).evalDecls fr ds s) h
theorem mO_callUser {h' c args s} (h : WithinO Ld Lr (callUserI n tco h' c args s).2) : WithinO Ld Lr s :=
  withinO_of_le ((monoAt tco n).callUser h' c args s) h
theorem mO_tramp {h' c args rec s} (h : WithinO Ld Lr (trampI n tco h' c args rec s).2) : WithinO Ld Lr s :=
  withinO_of_le ((monoAt tco n).tramp h' c args rec s) h
end monoO

structure VioO (tco : Bool) (Ld Lr : Option Nat) (c0 : Nat) (n : Nat) : Prop where
  eval : ∀ fr e tail s, WithinO Ld Lr s → ¬ WithinO Ld Lr (evalI n tco fr e tail s).2 →
    Res.isViol (eval n (cfgO tco Ld Lr) fr e tail (TO c0 s)).1 = true
  callNamed : ∀ fr f args tail s, WithinO Ld Lr s → ¬ WithinO Ld Lr (callNamedI n tco fr f args tail s).2 →
    Res.isViol (callNamed n (cfgO tco Ld Lr) fr f args tail (TO c0 s)).1 = true
  builtin : ∀ fr f args tail s, WithinO Ld Lr s → ¬ WithinO Ld Lr (builtinI n tco fr f args tail s).2 →
    Res.isViol (builtin n (cfgO tco Ld Lr) fr f args tail (TO c0 s)).1 = true
  callVal : ∀ fr c args tail s, WithinO Ld Lr s → ¬ WithinO Ld Lr (callValI n tco fr c args tail s).2 →
    Res.isViol (callVal n (cfgO tco Ld Lr) fr c args tail (TO c0 s)).1 = true
  evalList : ∀ fr es s, WithinO Ld Lr s → ¬ WithinO Ld Lr (evalListI n tco fr es s).2 →
    exViol (evalList n (cfgO tco Ld Lr) fr es (TO c0 s)).1 = true
  mkClos : ∀ fr f s, WithinO Ld Lr s → ¬ WithinO Ld Lr (mkClosI n tco fr f s).2 →
    Res.isViol (mkClos n (cfgO tco Ld Lr) fr f (TO c0 s)).1 = true
  evalDflts : ∀ fr ps s, WithinO Ld Lr s → ¬ WithinO Ld Lr (evalDfltsI n tco fr ps s).2 →
    exViol (evalDflts n (cfgO tco Ld Lr) fr ps (TO c0 s)).1 = true
  callUser : ∀ h c args s, WithinO Ld Lr s → ¬ WithinO Ld Lr (callUserI n tco h c args s).2 →
    Res.isViol (callUser n (cfgO tco Ld Lr) h c args (TO c0 s)).1 = true
  tramp : ∀ h c args rec s, WithinO Ld Lr s → ¬ WithinO Ld Lr (trampI n tco h c args rec s).2 →
    Res.isViol (tramp n (cfgO tco Ld Lr) h c args rec (TO c0 s)).1 = true
  evalDecls : ∀ fr ds s, WithinO Ld Lr s → ¬ WithinO Ld Lr (evalDeclsI n tco fr ds s).2 →
    exViol (evalDecls n (cfgO tco Ld Lr) fr ds (TO c0 s)).1 = true

section
variable {tco : Bool} {Ld Lr : Option Nat} {c0 n : Nat}
theorem VioO.mkClos'' (ih : VioO tco Ld Lr c0 n) {fr f s r st1}
    (heq : Core.mkClos n (cfgO tco Ld Lr) fr f (TO c0 s) = (r, st1))
    (hs : WithinO Ld Lr s) (hn : ¬ WithinO Ld Lr (mkClosI n tco fr f s).2) : Res.isViol r = true := by
  have := ih.mkClos fr f s hs hn; rw [heq] at this; exact this
theorem VioO.evalDecls'' (ih : VioO tco Ld Lr c0 n) {fr ds s r st1}
    (heq : Core.evalDecls n (cfgO tco Ld Lr) fr ds (TO c0 s) = (r, st1))
    (hs : WithinO Ld Lr s) (hn : ¬ WithinO Ld Lr (evalDeclsI n tco fr ds s).2) : exViol r = true := by
  have := ih.evalDecls fr ds s hs hn; rw [heq] at this; exact this
end

theorem vioO (tco : Bool) (Ld Lr : Option Nat) (c0 n : Nat) : VioO tco Ld Lr c0 n :=
  have L := lock (cfgO tco Ld Lr) c0 n
  have N {s s' : StI} (hs : WithinO Ld Lr s) (h : ¬ WithinO Ld Lr s') : ¬ Below (cfgO tco Ld Lr) c0 s' :=
    fun hb => h ⟨hb.1.elim (fun h0 => h0 ▸ optLt_of_le (Nat.zero_le _) hs.1) id, hb.2.2⟩
  ⟨fun fr e tail s hs h => (L.eval fr e tail s).vio (belowO hs) (N hs h),
   fun fr f args tail s hs h => (L.callNamed fr f args tail s).vio (belowO hs) (N hs h),
   fun fr f args tail s hs h => (L.builtin fr f args tail s).vio (belowO hs) (N hs h),
   fun fr c args tail s hs h => (L.callVal fr c args tail s).vio (belowO hs) (N hs h),
   fun fr es s hs h => (L.evalList fr es s).vio (belowO hs) (N hs h),
   fun fr f s hs h => (L.mkClos fr f s).vio (belowO hs) (N hs h),
   fun fr ps s hs h => (L.evalDflts fr ps s).vio (belowO hs) (N hs h),
   fun hh c args s hs h => (L.callUser hh c args s).vio (belowO hs) (N hs h),
   fun hh c args rec s hs h => (L.tramp hh c args rec s).vio (belowO hs) (N hs h),
   fun fr ds s hs h => (L.evalDecls fr ds s).vio (belowO hs) (N hs h)⟩

/-- `K`: a field of `kindAt` -/
theorem depth_of_kind {cfg : Cfg} {α : Type} {x : α} {inj : Viol → α}
    (K : (x = inj .depth → cfg.depthLimit ≠ none) ∧ (x = inj .calls → cfg.callLimit ≠ none) ∧
      (x = inj .recursion → cfg.recLimit ≠ none))
    (hc : cfg.callLimit = none) (hr : cfg.recLimit = none) {k : Viol} (hk : x = inj k) : x = inj .depth := by
  cases k with
  | depth => exact hk
  | calls => exact absurd hc (K.2.1 hk)
  | recursion => exact absurd hr (K.2.2 hk)

theorem recursion_of_kind {cfg : Cfg} {α : Type} {x : α} {inj : Viol → α}
    (K : (x = inj .depth → cfg.depthLimit ≠ none) ∧ (x = inj .calls → cfg.callLimit ≠ none) ∧
      (x = inj .recursion → cfg.recLimit ≠ none))
    (hd : cfg.depthLimit = none) (hc : cfg.callLimit = none) {k : Viol} (hk : x = inj k) : x = inj .recursion := by
  cases k with
  | depth => exact absurd hd (K.1 hk)
  | calls => exact absurd hc (K.2.1 hk)
  | recursion => exact hk

/-- a limit that fires when reached (`N`) and is quiet otherwise (`P`) is exact; `quiet` has the shape of
`no_violation_when_limits_exceed_need`, the conclusion is the three conjuncts of `depth_limit_exact_run`,
`recursion_limit_exact_run` -/
theorem exact_of_fires_quiet {α β : Type} {p : α × β} {y : α} {inj : Viol → α} {kd : Viol} {P N : Prop}
    {T : β → Prop} (total : P ∨ N) (fires : N → p.1 = inj kd)
    (quiet : P → (∃ s', p = (y, s') ∧ T s') ∧ ∀ k, y ≠ inj k) :
    (N → p.1 = inj kd) ∧ (P → p.1 = y ∧ ∀ k, p.1 ≠ inj k) ∧ (p.1 = inj kd ↔ N) := by
  have quiet' : P → p.1 = y ∧ ∀ k, p.1 ≠ inj k := fun hp => by
    obtain ⟨⟨s', e, _⟩, nv⟩ := quiet hp
    exact ⟨e ▸ rfl, e ▸ nv⟩
  exact ⟨fires, quiet', fun hr => total.elim (fun hp => absurd hr ((quiet' hp).2 _)) id, fires⟩

end XrayModel.CoreLimitsSim
