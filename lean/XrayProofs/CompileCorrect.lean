/-
compile_correct (C03, stretch): the program compiled by the scope model (XrayModel/Scope.lean) and run on the
cell machine (XrayModel/CellRun.lean) against the named-level evaluator (XrayModel/Core.lean) on the source.
This file: the translation of core programs to the scope model's source language (`ofExpr` …), the function-free
fragment (`exprOK`, `declsOK`), what its expressions parse and compile to (`px`, `cx`, with functions in scope `cxf`:
`parse_frag`, `compile_fragF`, `compile_frag`), and values without function values (`closFree`).  The run-time
simulation is in XrayProofs/CompileSim.lean.
-/
import XrayModel.CellRun
import XrayProofs.Scope
namespace XrayModel.CellRun
open XrayModel.Scope

/-! An anonymous top-level `fnD` (at which `Core.evalDecls` is stuck) is given the name `""`; `declsOK` and `declsOKF`
reject it. -/
mutual
  def ofExpr : Core.Expr → SExpr
    | .int n => .lit (.int n)
    | .bool b => .lit (.bool b)
    | .str s => .lit (.str s)
    | .var x => .ident x
    | .call f args => .call (.ident f) (ofExprs args)
    | .callE f args => .call (ofExpr f) (ofExprs args)
    | .lam f => .lam (ofFunc f)
    | .tup es => .tup (ofExprs es)
    | .arr es => .arr (ofExprs es)
    | .item e i => .member (ofExpr e) i
  def ofExprs : List Core.Expr → List SExpr
    | [] => []
    | e :: rest => ofExpr e :: ofExprs rest
  def ofParams : List Core.Param → List SParam
    | [] => []
    | .mk n none :: rest => .mk n none :: ofParams rest
    | .mk n (some d) :: rest => .mk n (some (ofExpr d)) :: ofParams rest
  def ofDecls : List Core.Decl → List SDecl
    | [] => []
    | .letD x e :: rest => .letD x (ofExpr e) :: ofDecls rest
    | .fnD (.mk n ps ds b) :: rest => .fnD (n.getD "") (.mk (ofParams ps) (ofDecls ds) (ofExpr b)) :: ofDecls rest
  def ofFunc : Core.Func → SFunc
    | .mk _ ps ds b => .mk (ofParams ps) (ofDecls ds) (ofExpr b)
end

/-! ### the function-free fragment: no function declarations, no lambdas, no computed callees; all natives of the
core fragment (the strict ones, `display`, and the short-circuiting `if`/`and`/`or`/`if_error`/`is_error`) -/

mutual
  def exprOK : Core.Expr → Bool
    | .int _ => true
    | .bool _ => true
    | .str _ => true
    | .var _ => true
    | .call _ args => exprsOK args
    | .callE _ _ => false
    | .lam _ => false
    | .tup es => exprsOK es
    | .arr es => exprsOK es
    | .item e _ => exprOK e
  def exprsOK : List Core.Expr → Bool
    | [] => true
    | e :: rest => exprOK e && exprsOK rest
end

def declsOK : List Core.Decl → Bool
  | [] => true
  | .letD _ e :: rest => exprOK e && declsOK rest
  | .fnD _ :: _ => false

/-- `exprOK.mutual_induct` with the cases named -/
theorem expr_induct {P : Core.Expr → Prop} {Ps : List Core.Expr → Prop}
    (int : ∀ n, P (.int n)) (bool : ∀ b, P (.bool b)) (str : ∀ s, P (.str s)) (var : ∀ x, P (.var x))
    (call : ∀ f args, Ps args → P (.call f args)) (callE : ∀ f args, P (.callE f args)) (lam : ∀ f, P (.lam f))
    (tup : ∀ es, Ps es → P (.tup es)) (arr : ∀ es, Ps es → P (.arr es)) (item : ∀ e i, P e → P (.item e i))
    (nil : Ps []) (cons : ∀ e es, P e → Ps es → Ps (e :: es)) : (∀ e, P e) ∧ (∀ es, Ps es) :=
  exprOK.mutual_induct P Ps int bool str var call callE lam tup arr item nil cons

/-! the parsed form of a fragment expression (`callE` and `lam` are outside the fragment: `px`, `cx` and `cxf` give them
a dummy literal) -/
mutual
  def px : Core.Expr → XE
    | .int n => .lit (.int n)
    | .bool b => .lit (.bool b)
    | .str s => .lit (.str s)
    | .var x => .ident x
    | .call f args => .call (.ident f) (pxs args)
    | .tup es => .tup (pxs es)
    | .arr es => .arr (pxs es)
    | .item e i => .member (px e) i
    | .callE _ _ => .lit (.int 0)
    | .lam _ => .lit (.int 0)
  def pxs : List Core.Expr → List XE
    | [] => []
    | e :: rest => px e :: pxs rest
end

/-! the compiled form of a fragment expression in a scope whose variables are `vars` -/
mutual
  def cx (vars : List (String × Nat)) : Core.Expr → XE
    | .int n => .lit (.int n)
    | .bool b => .lit (.bool b)
    | .str s => .lit (.str s)
    | .var x => match Scope.lookup x vars with
        | some k => .val k
        | none => .ident x
    | .call f args => match Scope.lookup f vars with
        | some k => .call (.val k) (cxs vars args)
        | none => .bcall f (cxs vars args)
    | .tup es => .tup (cxs vars es)
    | .arr es => .arr (cxs vars es)
    | .item e i => .member (cx vars e) i
    | .callE _ _ => .lit (.int 0)
    | .lam _ => .lit (.int 0)
  def cxs (vars : List (String × Nat)) : List Core.Expr → List XE
    | [] => []
    | e :: rest => cx vars e :: cxs vars rest
end

/-! … and in a scope that also has the functions `funs` (a name → the cell of its one overload) -/
mutual
  def cxf (vars funs : List (String × Nat)) : Core.Expr → XE
    | .int n => .lit (.int n)
    | .bool b => .lit (.bool b)
    | .str s => .lit (.str s)
    | .var x => match Scope.lookup x vars with
        | some k => .val k
        | none => match Scope.lookup x funs with
          | some k => .val k
          | none => .ident x
    | .call f args => match Scope.lookup f vars with
        | some k => .call (.val k) (cxfs vars funs args)
        | none => match Scope.lookup f funs with
          | some k => .call (.val k) (cxfs vars funs args)
          | none => .bcall f (cxfs vars funs args)
    | .tup es => .tup (cxfs vars funs es)
    | .arr es => .arr (cxfs vars funs es)
    | .item e i => .member (cxf vars funs e) i
    | .callE _ _ => .lit (.int 0)
    | .lam _ => .lit (.int 0)
  def cxfs (vars funs : List (String × Nat)) : List Core.Expr → List XE
    | [] => []
    | e :: rest => cxf vars funs e :: cxfs vars funs rest
end

theorem parse_frag : ∀ (fuel : Nat),
    (∀ e, exprOK e = true → ∀ ps cur r, parseExpr fuel ps cur (ofExpr e) = .ok r → r = (px e, cur)) ∧
    (∀ es, exprsOK es = true → ∀ ps cur r, parseList fuel ps cur (ofExprs es) = .ok r → r = (pxs es, cur)) := by
  intro fuel
  induction fuel with
  | zero => constructor <;> intro _ _ ps cur r h <;> cases h
  | succ n ih =>
    obtain ⟨i1, i2⟩ := ih
    constructor
    · intro e hok ps cur r h
      cases e with
      | int v | bool v | str v | var x => simp only [ofExpr, parseExpr] at h; cases h; rfl
      | callE f args | lam f => simp [exprOK] at hok
      | call f args =>
        simp only [exprOK] at hok
        simp only [ofExpr, parseExpr] at h
        -- the callee `.ident f` is parsed one unit of fuel further on
        cases n with
        | zero => cases h
        | succ m =>
          simp only [parseExpr] at h
          split at h <;> cases h
          rename_i h2
          cases i2 args hok _ _ _ h2
          rfl
      | tup es | arr es =>
        simp only [exprOK] at hok
        simp only [ofExpr, parseExpr] at h
        split at h <;> cases h
        rename_i h2
        cases i2 es hok _ _ _ h2
        rfl
      | item e i =>
        simp only [exprOK] at hok
        simp only [ofExpr, parseExpr] at h
        split at h <;> cases h
        rename_i h2
        cases i1 e hok _ _ _ h2
        rfl
    · intro es hok ps cur r h
      cases es with
      | nil => simp only [ofExprs, parseList] at h; cases h; rfl
      | cons e rest =>
        simp only [exprsOK, Bool.and_eq_true] at hok
        simp only [ofExprs, parseList] at h
        split at h
        · cases h
        · rename_i h1
          cases i1 e hok.1 _ _ _ h1
          split at h <;> cases h
          rename_i h2
          cases i2 rest hok.2 _ _ _ h2
          rfl

/-- `get_item` answers for `x` as `vars` / `funs` say -/
def GI (ps : List Scope) (cur : Scope) (vars funs : List (String × Nat)) (x : String) : Prop :=
  match Scope.lookup x vars with
  | some k => getItem (cur :: ps) x = .ok (some (.value (cur.height, k, [])))
  | none => match Scope.lookup x funs with
    | some k => getItem (cur :: ps) x = .ok (some (.overloads [(cur.height, k, [])]))
    | none => getItem (cur :: ps) x = .ok none

/-! `GI` at every name the expression mentions -/
mutual
  def CW (ps : List Scope) (cur : Scope) (vars funs : List (String × Nat)) : Core.Expr → Prop
    | .int _ => True
    | .bool _ => True
    | .str _ => True
    | .var x => GI ps cur vars funs x
    | .call f args => GI ps cur vars funs f ∧ CWs ps cur vars funs args
    | .tup es => CWs ps cur vars funs es
    | .arr es => CWs ps cur vars funs es
    | .item e _ => CW ps cur vars funs e
    | .callE _ _ => False
    | .lam _ => False
  def CWs (ps : List Scope) (cur : Scope) (vars funs : List (String × Nat)) : List Core.Expr → Prop
    | [] => True
    | e :: rest => CW ps cur vars funs e ∧ CWs ps cur vars funs rest
end

theorem useCand_same (ps : List Scope) (cur : Scope) (k : Nat) :
    useCand ps cur (cur.height, k, []) = .ok (.val k, cur) := by
  simp [useCand, requireForwards]

theorem compileIdent_GI (ps : List Scope) (cur : Scope) (vars funs : List (String × Nat)) (x : String)
    (h : GI ps cur vars funs x) (r : XE × Scope) (hc : compileIdent ps cur x = .ok r) :
    r = (cxf vars funs (.var x), cur) := by
  simp only [GI] at h
  simp only [cxf]
  cases hv : Scope.lookup x vars with
  | some k =>
    rw [hv] at h
    simp only [compileIdent, h, useCand_same] at hc
    cases hc; rfl
  | none =>
    rw [hv] at h
    cases hf : Scope.lookup x funs with
    | some k =>
      rw [hf] at h
      simp only [compileIdent, h, useCand_same] at hc
      cases hc; rfl
    | none =>
      rw [hf] at h
      simp [compileIdent, h] at hc

theorem compile_fragF : ∀ (fuel : Nat),
    (∀ e ps cur vars funs r, CW ps cur vars funs e → compileExpr fuel ps cur (px e) = .ok r → r = (cxf vars funs e, cur)) ∧
    (∀ es ps cur vars funs r, CWs ps cur vars funs es → compileList fuel ps cur (pxs es) = .ok r → r = (cxfs vars funs es, cur)) := by
  intro fuel
  induction fuel with
  | zero => constructor <;> intro _ ps cur vars funs r _ h <;> cases h
  | succ n ih =>
    obtain ⟨i1, i2⟩ := ih
    constructor
    · intro e ps cur vars funs r hw h
      cases e with
      | int v | bool v | str v => simp only [px, compileExpr] at h; cases h; rfl
      | var x =>
        simp only [px, compileExpr] at h
        exact compileIdent_GI ps cur vars funs x hw r h
      | callE f args | lam f => simp [CW] at hw
      | call f args =>
        obtain ⟨hg, hargs⟩ := hw
        simp only [px, compileExpr] at h
        split at h
        · cases h
        · rename_i args' cur1 h1
          cases i2 args ps cur vars funs _ hargs h1
          have hgi := hg
          simp only [GI] at hg
          cases hv : Scope.lookup f vars with
          | some k =>
            simp only [hv] at hg
            simp only [hg] at h
            split at h <;> cases h
            rename_i h2
            -- a variable as callee is compiled as an expression, one unit of fuel further on
            cases n with
            | zero => cases h2
            | succ m =>
              simp only [compileExpr] at h2
              cases compileIdent_GI ps cur vars funs f hgi _ h2
              simp [cxf, hv]
          | none =>
            simp only [hv] at hg
            cases hf : Scope.lookup f funs with
            | some k =>
              simp only [hf] at hg
              simp only [hg, useCand_same] at h
              cases h; simp [cxf, hv, hf]
            | none =>
              simp only [hf] at hg
              simp only [hg] at h
              cases h; simp [cxf, hv, hf]
      | tup es | arr es =>
        simp only [px, compileExpr] at h
        split at h <;> cases h
        rename_i h2
        cases i2 es ps cur vars funs _ hw h2
        rfl
      | item e i =>
        simp only [px, compileExpr] at h
        split at h <;> cases h
        rename_i h2
        cases i1 e ps cur vars funs _ hw h2
        rfl
    · intro es ps cur vars funs r hw h
      cases es with
      | nil => simp only [pxs, compileList] at h; cases h; rfl
      | cons e rest =>
        simp only [pxs, compileList] at h
        split at h
        · cases h
        · rename_i h1
          cases i1 e ps cur vars funs _ hw.1 h1
          split at h <;> cases h
          rename_i h2
          cases i2 rest ps cur vars funs _ hw.2 h2
          rfl

theorem cw_of_GI (ps : List Scope) (cur : Scope) (vars funs : List (String × Nat)) (h : ∀ x, GI ps cur vars funs x) :
    (∀ e, exprOK e = true → CW ps cur vars funs e) ∧ (∀ es, exprsOK es = true → CWs ps cur vars funs es) := by
  apply expr_induct <;> intros <;>
    simp_all only [exprOK, exprsOK, CW, CWs, Bool.and_eq_true, and_self, Bool.false_eq_true]

structure RootOK (cur : Scope) : Prop where
  funcs : cur.funcs = []
  height : cur.height = 0
  reqs : cur.reqs = []
  cells : ∀ x k, Scope.lookup x cur.vars = some k → cur.cells[k]? = some .var
  allVar : ∀ c ∈ cur.cells, c = .var

theorem GI_rootOK (cur : Scope) (ok : RootOK cur) (x : String) : GI [] cur cur.vars [] x := by
  simp only [GI]
  cases hl : Scope.lookup x cur.vars with
  | some k =>
    simp only []
    rw [getItem_var cur [] x k hl (ok.cells x k hl)]
    simp [Scope.cellReqs, ok.reqs, lookupReqs]
  | none => simp [Scope.lookup, getItem, hl, ok.funcs, overloadCells]

theorem cxf_nil (vars : List (String × Nat)) :
    (∀ e, cxf vars [] e = cx vars e) ∧ (∀ es, cxfs vars [] es = cxs vars es) := by
  apply expr_induct <;> intros <;> simp_all only [cxf, cxfs, cx, cxs, Scope.lookup]

theorem compile_frag : ∀ (fuel : Nat),
    (∀ e, exprOK e = true → ∀ cur r, RootOK cur → compileExpr fuel [] cur (px e) = .ok r → r = (cx cur.vars e, cur)) ∧
    (∀ es, exprsOK es = true → ∀ cur r, RootOK cur → compileList fuel [] cur (pxs es) = .ok r → r = (cxs cur.vars es, cur)) := by
  -- the case `funs = []` of `compile_fragF`
  intro fuel
  refine ⟨fun e hok cur r rok h => ?_, fun es hok cur r rok h => ?_⟩
  · rw [← (cxf_nil cur.vars).1 e]
    exact (compile_fragF fuel).1 e [] cur cur.vars [] r ((cw_of_GI [] cur cur.vars [] (GI_rootOK cur rok)).1 e hok) h
  · rw [← (cxf_nil cur.vars).2 es]
    exact (compile_fragF fuel).2 es [] cur cur.vars [] r ((cw_of_GI [] cur cur.vars [] (GI_rootOK cur rok)).2 es hok) h

def closFree : Core.Val → Bool
  | .int _ => true
  | .bool _ => true
  | .str _ => true
  | .err _ => true
  | .tup vs => vs.attach.all (fun ⟨v, _⟩ => closFree v)
  | .arr vs => vs.attach.all (fun ⟨v, _⟩ => closFree v)
  | .clos _ _ _ => false

theorem closFree_tup (vs : List Core.Val) : closFree (.tup vs) = true ↔ ∀ v ∈ vs, closFree v = true := by
  simp [closFree]

theorem closFree_arr (vs : List Core.Val) : closFree (.arr vs) = true ↔ ∀ v ∈ vs, closFree v = true := by
  simp [closFree]

theorem toCore_ofCore (v : Core.Val) (h : closFree v = true) : toCore (ofCore v) = v := by
  induction v using closFree.induct with
  | case1 | case2 | case3 | case4 => simp only [ofCore, toCore]
  | case5 vs ih =>
    simp only [ofCore, toCore, List.map_map, Core.Val.tup.injEq]
    exact (List.map_congr_left fun v hv => ih v hv ((closFree_tup vs).mp h v hv)).trans (List.map_id vs)
  | case6 vs ih =>
    simp only [ofCore, toCore, List.map_map, Core.Val.arr.injEq]
    exact (List.map_congr_left fun v hv => ih v hv ((closFree_arr vs).mp h v hv)).trans (List.map_id vs)
  | case7 => simp [closFree] at h

theorem toCore_ofCore_list (vs : List Core.Val) (h : ∀ v ∈ vs, closFree v = true) :
    (vs.map ofCore).map toCore = vs := by
  rw [List.map_map]
  exact (List.map_congr_left fun v hv => toCore_ofCore v (h v hv)).trans (List.map_id vs)

theorem ofCore_isErr (v : Core.Val) (h : closFree v = true) : (ofCore v).isErr = v.isErr := by
  cases v <;> simp [ofCore, CVal.isErr, Core.Val.isErr, closFree] at h ⊢

theorem ofCore_err_iff (v : Core.Val) (h : closFree v = true) (m : String) : ofCore v = .err m ↔ v = .err m := by
  cases v <;> simp [ofCore, closFree] at h ⊢

theorem prim_result (f : String) (args : List Core.Val) :
    (∃ v, Core.prim f args = .val v ∧ closFree v = true) ∨ (∃ w, Core.prim f args = .stuck w) := by
  fun_cases Core.prim f args
  all_goals first | exact Or.inr ⟨_, rfl⟩ | exact Or.inl ⟨_, rfl, by simp [closFree]⟩

end XrayModel.CellRun
