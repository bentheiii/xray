/- compile_correct for function-free programs: the declaration loop at top level. -/
import XrayProofs.CompileSim
namespace XrayModel.CellRun
open XrayModel.Scope

/-- `vars`: the final map from names to cells -/
def DeclRel (vars : List (String × Nat)) (a : Except Core.Res Core.Frame × St) (b : Except CRes RFrame × St) : Prop :=
  a.2 = b.2 ∧
  match a.1, b.1 with
  | .ok fr, .ok rfr => fr.self = none ∧ FrRel fr.env vars rfr
  | .error r, .error r' => r' = cr r
  | _, _ => False

def letScope (cur : Scope) (x : String) (e : XE) : Scope :=
  { cur with cells := cur.cells ++ [.var], vars := (x, cur.cells.length) :: cur.vars,
             decls := cur.decls ++ [.value cur.cells.length e] }

theorem addVariable_ok (cur : Scope) (x : String) (e : XE) (h : Scope.lookup x cur.funcs = none) :
    addVariable cur x e = .ok (letScope cur x e) := by
  simp [addVariable, Scope.hasOverloads, overloadCells_of_lookup_none x _ h, letScope]

theorem rootOK_letScope (cur : Scope) (rok : RootOK cur) (x : String) (e : XE) : RootOK (letScope cur x e) := by
  refine ⟨rok.funcs, rok.height, rok.reqs, ?_, ?_⟩
  · intro y k hk
    simp only [letScope, Scope.lookup] at hk ⊢
    split at hk
    · cases hk; simp
    · have := rok.cells y k hk
      have hlt : k < cur.cells.length := (List.getElem?_eq_some_iff.mp this).1
      simp only [List.getElem?_append_left hlt, this]
  · intro c hc
    simp only [letScope, List.mem_append, List.mem_cons, List.not_mem_nil, or_false] at hc
    exact hc.elim (rok.allVar c) id

theorem frRel_extend (env : List (String × Core.Val)) (vars : List (String × Nat)) (rfr : RFrame) (x : String)
    (v : Core.Val) (n : Nat) (hv : closFree v = true) (hrel : FrRel env vars rfr)
    (hn : rfr.cells[n]? = some (.owned .uninit)) :
    FrRel ((x, v) :: env) ((x, n) :: vars)
      (.mk (rfr.cells.set n (.owned (.value (ofCore v)))) rfr.height rfr.scopeParent rfr.tmpl) := by
  obtain ⟨cells0, h0, sp0, t0⟩ := rfr
  simp only [RFrame.cells, RFrame.height, RFrame.scopeParent, RFrame.tmpl] at hn ⊢
  -- `RFrame.cells` is defined by cases on the frame: `hrel` restated for the destructured frame
  have hrel : ∀ x, match Core.lookup x env with
       | some v => closFree v = true ∧ ∃ k, Scope.lookup x vars = some k ∧ cells0[k]? = some (.owned (.value (ofCore v)))
       | none => Scope.lookup x vars = none := hrel
  have hlt : n < cells0.length := (List.getElem?_eq_some_iff.mp hn).1
  intro y
  by_cases hy : y = x
  · subst hy
    simp only [Core.lookup, if_true, Scope.lookup, RFrame.cells]
    exact ⟨hv, n, rfl, by rw [List.getElem?_set]; simp [hlt]⟩
  · have := hrel y
    simp only [Core.lookup, hy, if_false, Scope.lookup, RFrame.cells]
    cases hl : Core.lookup y env with
    | none => rw [hl] at this; exact this
    | some w =>
      rw [hl] at this
      obtain ⟨hw, k, hk, hc⟩ := this
      refine ⟨hw, k, hk, ?_⟩
      have hne : n ≠ k := by
        intro he; subst he; rw [hn] at hc; cases hc
      rw [List.getElem?_set_ne hne]; exact hc

/-- By induction on the declarations with the scope `cur` and the two frames general.  `D`: what `feedDecls` appends,
one `Value` per `let`; its shape is recorded for `runRoot_allVar` (no leading `Parameter` declaration).  The cells from
`cur.cells.length` on must still be uninitialised: each `let` puts its value into the next one. -/
theorem feed_run (cfg : Core.Cfg) : ∀ (ds : List Core.Decl), declsOK ds = true → ∀ (cf : Nat) (cur root : Scope),
    RootOK cur → feedDecls cf [] cur (ofDecls ds) = .ok root →
    RootOK root ∧ cur.cells.length ≤ root.cells.length ∧ ∃ D, root.decls = cur.decls ++ D ∧
    (D = [] ∨ ∃ c e D', D = .value c e :: D') ∧
    ∀ (fuel : Nat) (fr : Core.Frame) (rfr : RFrame) (st : St) (args : List CVal), fr.self = none →
      FrRel fr.env cur.vars rfr →
      (∀ k, cur.cells.length ≤ k → k < root.cells.length → rfr.cells[k]? = some (.owned .uninit)) →
      DeclRel root.vars (Core.evalDecls fuel cfg fr ds st) (runDecls fuel cfg rfr D args st) := by
  intro ds
  induction ds with
  | nil =>
    intro _ cf cur root rok h
    cases cf with
    | zero => cases h
    | succ c =>
      simp only [ofDecls, feedDecls, Except.ok.injEq] at h
      subst h
      refine ⟨rok, Nat.le_refl _, [], by simp, Or.inl rfl, ?_⟩
      intro fuel fr rfr st args hs hrel _
      cases fuel with
      | zero => simp [DeclRel, Core.evalDecls, runDecls, cr]
      | succ F => simp [DeclRel, Core.evalDecls, runDecls, hs, hrel]
  | cons d rest ih =>
    intro hok cf cur root rok h
    cases d with
    | fnD f => simp [declsOK] at hok
    | letD x e =>
      simp only [declsOK, Bool.and_eq_true] at hok
      cases cf with
      | zero => cases h
      | succ c =>
        simp only [ofDecls, feedDecls] at h
        split at h
        · cases h
        · rename_i hp
          cases (parse_frag c).1 e hok.1 [] cur _ hp
          split at h
          · cases h
          · rename_i hc
            cases (compile_frag c).1 e hok.1 cur _ rok hc
            rw [addVariable_ok cur x _ (by rw [rok.funcs]; rfl)] at h
            obtain ⟨rokR, hlen, D', hD', -, hsim⟩ := ih hok.2 c _ root (rootOK_letScope cur rok x _) h
            simp only [letScope, List.length_append, List.length_cons, List.length_nil] at hlen
            refine ⟨rokR, by omega, .value cur.cells.length (cx cur.vars e) :: D', by rw [hD']; simp [letScope],
              Or.inr ⟨_, _, _, rfl⟩, ?_⟩
            intro fuel fr rfr st args hs hrel hun
            cases fuel with
            | zero => simp [DeclRel, Core.evalDecls, runDecls, cr]
            | succ F =>
              obtain ⟨hev, hgood⟩ := (sim_all cfg F).1 e hok.1 fr rfr cur.vars false st hs hrel
              simp only [Core.evalDecls, runDecls, hev]
              cases hr : Core.eval F cfg fr e false st with
              | mk r s1 =>
                rw [hr] at hgood
                cases r with
                | val v =>
                  have hn := hun cur.cells.length (Nat.le_refl _) (by omega)
                  simp only [cr, RFrame.put, putCell, hn]
                  apply hsim F { fr with env := (x, v) :: fr.env } _ s1 args hs
                    (frRel_extend fr.env cur.vars rfr x v cur.cells.length hgood hrel hn)
                  intro k hk1 hk2
                  simp only [letScope, List.length_append, List.length_cons, List.length_nil] at hk1
                  simp only [RFrame.cells]
                  rw [List.getElem?_set_ne (by omega)]
                  exact hun k (by omega) hk2
                | tail a => simp [Good] at hgood
                | _ => simp [DeclRel, cr]

theorem fromSpecs_allVar (cells : List Cell) (h : ∀ c ∈ cells, c = .var) :
    fromSpecs cells none = .ok (cells.map (fun _ => ECell.uninit)) := by
  induction cells with
  | nil => simp [fromSpecs]
  | cons c rest ih =>
    have hc : c = .var := h c (by simp)
    subst hc
    simp [fromSpecs, fromSpec, ih (fun c hc => h c (by simp [hc]))]

theorem initCells_uninit (n : Nat) (i : Nat) :
    initCells (List.replicate n ECell.uninit) i = List.replicate n (TCell.owned .uninit) := by
  induction n generalizing i with
  | zero => simp [initCells]
  | succ m ih => simp [List.replicate_succ, initCells, ih]

theorem runRoot_allVar (fuel : Nat) (cfg : Core.Cfg) (root : Scope) (hall : ∀ c ∈ root.cells, c = .var)
    (hnp : ∀ c a rest, root.decls ≠ .param c a :: rest) (hdl : cfg.depthLimit ≠ some 0) :
    runRoot fuel cfg root =
      runDecls fuel cfg
        (.mk (List.replicate root.cells.length (.owned .uninit)) 0 none
          (.mk [] none (List.replicate root.cells.length .uninit) root.decls 0 [] none))
        root.decls [] {} := by
  have hrp : ∀ fr0 : RFrame, runParams fr0 root.decls [] = .ok (fr0, root.decls) := by
    intro fr0
    cases hd : root.decls with
    | nil => simp [runParams]
    | cons d rest => cases d <;> first | exact absurd hd (hnp _ _ _) | simp [runParams]
  simp only [runRoot, fromSpecs_allVar root.cells hall, fromTemplate, initFrame, Tmpl.parentId, Tmpl.cells,
    Tmpl.decls, List.map_const', initCells_uninit]
  cases hl : cfg.depthLimit with
  | none => simp [hrp]
  | some l =>
    have : l ≠ 0 := by intro h0; subst h0; exact hdl hl
    simp [this, hrp]

theorem compile_correct_program (cfg : Core.Cfg) (ds : List Core.Decl) (hok : declsOK ds = true) (cf : Nat)
    (root : Scope) (hc : compileProgram cf (ofDecls ds) = .ok root) (hdl : cfg.depthLimit ≠ some 0) (fuel : Nat) :
    DeclRel root.vars (Core.runProgram fuel cfg ds) (runRoot fuel cfg root) := by
  have rok0 : RootOK ({} : Scope) :=
    ⟨rfl, rfl, rfl, by intro x k h; simp [Scope.lookup] at h, by intro c hc; simp at hc⟩
  obtain ⟨rokR, -, D, hD, hshape, hsim⟩ := feed_run cfg ds hok cf {} root rok0 hc
  simp only [List.nil_append] at hD
  rw [runRoot_allVar fuel cfg root rokR.allVar (by rcases hshape with rfl | ⟨c, e, D', rfl⟩ <;> simp [hD]) hdl, hD]
  apply hsim fuel { env := [], self := none, height := 0 } _ {} [] rfl
  · intro x; simp [Core.lookup, Scope.lookup]
  · intro k _ hk
    simp only [RFrame.cells]
    rw [List.getElem?_replicate]
    simp [hk]

end XrayModel.CellRun
