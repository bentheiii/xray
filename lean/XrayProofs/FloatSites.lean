/-
C13 — helper lemmas about the checked constructor and construction at a site.
-/
import XrayModel.FloatSites
namespace XrayModel.FloatSites

theorem mk_allFin (D : FloatDom) (x : D.F) : AllFin D (mk D x) := by
  unfold mk
  cases h : D.isFin x with
  | true => exact h
  | false => trivial

/-- `hx`: the raw float is finite whenever the code at the call has a closed form -/
theorem construct_allFin (D : FloatDom) {T : List FSite} (hT : sitesOk T = true) (s : Nat) (h? : Option Hyp) (x : D.F)
    (hx : h? ≠ none → D.isFin x = true) : AllFin D (construct D T s h? x) := by
  unfold construct
  cases hs : T[s]? with
  | none => simp [AllFin]
  | some site =>
    have hok : siteOk site = true := List.all_eq_true.mp hT site (List.mem_of_getElem? hs)
    simp only
    cases htag : site.tag with
    | guarded => exact mk_allFin D x
    | unguarded => rw [siteOk, htag] at hok; cases hok
    | closed h =>
      simp only
      by_cases hh : h? = some h
      · simp only [hh, if_true, AllFin]
        exact hx (by simp [hh])
      · simp [hh, AllFin]

end XrayModel.FloatSites
