/- The hash table of `XMapping` / `XSet` as a finite map on the classes of the key equivalence (C17; model:
XrayModel/HashMap.lean): the invariant `Inv`, the hash-free lookup `look` against which the operations are specified
(`lookB`, through the hash, agrees with it on a well-formed table), `locate` by its three cases, one specification
per operation (put, lookup, removal, bulk updates, the set operations), and the counting of classes (`map_subperm`) behind
the `len` shortcuts of the subset tests and behind `keys_perm`: tables with the same classes store the same keys up to
order and choice of representatives. -/
import XrayModel.HashMap
namespace XrayModel.HM

/-- the premise of the property: `eq` is a (total, error-free) equivalence relation, `hash` is total,
equal keys hash equally, and hashes lie in `[0, 2^64)` -/
structure Consistent {K : Type} (hash : K → Res Int) (eq : K → K → Res Bool) where
  h : K → Nat
  e : K → K → Bool
  hash_ok : ∀ k, hash k = .ok (h k : Int)
  hash_lt : ∀ k, h k < 18446744073709551616
  eq_ok : ∀ a b, eq a b = .ok (e a b)
  refl : ∀ a, e a a = true
  symm : ∀ a b, e a b = true → e b a = true
  trans : ∀ a b c, e a b = true → e b c = true → e a c = true
  congr : ∀ a b, e a b = true → h a = h b

section
variable {K V : Type}

def findE (e : K → K → Bool) (k : K) : List (K × V) → Option V
  | [] => none
  | (k', v) :: r => if e k k' then some v else findE e k r

variable {hash : K → Res Int} {eq : K → K → Res Bool}

theorem toU64_nat (n : Nat) (hn : n < 18446744073709551616) : toU64 (n : Int) = some n := by
  unfold toU64
  split
  · simp
  · omega

/-! ### the `HashMap<u64, _>` association list -/

theorem bget_binsert {β : Type} (bs : List (Nat × β)) (h h' : Nat) (b : β) :
    bget (binsert bs h b) h' = if h = h' then some b else bget bs h' := by
  fun_induction binsert bs h b <;> grind [bget]

theorem bget_bremove {β : Type} (bs : List (Nat × β)) (h h' : Nat) :
    bget (bremove bs h) h' = if h = h' then none else bget bs h' := by
  fun_induction bremove bs h <;> grind [bget]

theorem bremove_of_none {β : Type} (bs : List (Nat × β)) (h : Nat) (hn : bget bs h = none) :
    bremove bs h = bs := by
  fun_induction bremove bs h <;> grind [bget]

theorem binsert_self {β : Type} (bs : List (Nat × β)) (h : Nat) (b : β) (hg : bget bs h = some b) :
    binsert bs h b = bs := by
  fun_induction binsert bs h b <;> grind [bget]

def lenSum : List (Nat × Bucket K V) → Nat
  | [] => 0
  | (_, b) :: rest => b.length + lenSum rest

theorem toList_length (t : Table K V) : (toList t).length = lenSum t.buckets := by
  unfold toList
  induction t.buckets with
  | nil => rfl
  | cons hb rest ih => simp [List.flatMap_cons, lenSum, ih]

def blen (bs : List (Nat × Bucket K V)) (h : Nat) : Nat := (bget bs h).elim 0 List.length

def BucketOK (C : Consistent hash eq) (h : Nat) (b : Bucket K V) : Prop :=
  (∀ kv ∈ b, C.h kv.1 = h) ∧ b.Pairwise (fun x y => C.e x.1 y.1 = false) ∧ b ≠ []

def BucketsOK (C : Consistent hash eq) : List (Nat × Bucket K V) → Prop
  | [] => True
  | (h, b) :: rest => BucketOK C h b ∧ bget rest h = none ∧ BucketsOK C rest

structure Inv (C : Consistent hash eq) (t : Table K V) : Prop where
  buckets_ok : BucketsOK C t.buckets
  len_eq : t.len = lenSum t.buckets

theorem blen_cons (h0 : Nat) (b0 : Bucket K V) (rest : List (Nat × Bucket K V)) (h : Nat) :
    blen ((h0, b0) :: rest) h = if h0 = h then b0.length else blen rest h := by
  by_cases hh : h0 = h <;> simp only [blen, bget, hh, if_true, if_false, Option.elim_some]

theorem lenSum_binsert (bs : List (Nat × Bucket K V)) (h : Nat) (b : Bucket K V) :
    lenSum (binsert bs h b) + blen bs h = lenSum bs + b.length := by
  fun_induction binsert bs h b with
  | case1 => simp [lenSum, blen, bget]
  | case2 => simp only [lenSum, blen_cons, if_true]; omega
  | case3 h' b' rest h b hne ih => simp only [lenSum, blen_cons, if_neg hne]; omega

theorem BucketsOK.get {C : Consistent hash eq} {bs : List (Nat × Bucket K V)} (hb : BucketsOK C bs)
    {h : Nat} {b : Bucket K V} (hg : bget bs h = some b) : BucketOK C h b := by
  fun_induction bget bs h with
  | case1 => cases hg
  | case2 => cases hg; exact hb.1
  | case3 _ _ _ _ _ ih => exact ih hb.2.2 hg

theorem BucketsOK.binsert {C : Consistent hash eq} {bs : List (Nat × Bucket K V)} (hb : BucketsOK C bs)
    {h : Nat} {b : Bucket K V} (hok : BucketOK C h b) : BucketsOK C (binsert bs h b) := by
  fun_induction HM.binsert bs h b with
  | case1 => exact ⟨hok, rfl, trivial⟩
  | case2 => exact ⟨hok, hb.2⟩
  | case3 h' _ _ _ _ hne ih => exact ⟨hb.1, by rw [bget_binsert, if_neg (Ne.symm hne)]; exact hb.2.1, ih hb.2.2 hok⟩

theorem BucketsOK.bremove {C : Consistent hash eq} {bs : List (Nat × Bucket K V)} (hb : BucketsOK C bs)
    (h : Nat) : BucketsOK C (bremove bs h) := by
  fun_induction HM.bremove bs h with
  | case1 => trivial
  | case2 _ _ _ ih => exact ih hb.2.2
  | case3 h' _ _ _ hne ih => exact ⟨hb.1, by rw [bget_bremove, hb.2.1, ite_self], ih hb.2.2⟩

theorem lenSum_bremove {C : Consistent hash eq} {bs : List (Nat × Bucket K V)} (hb : BucketsOK C bs) (h : Nat) :
    lenSum (bremove bs h) + blen bs h = lenSum bs := by
  fun_induction HM.bremove bs h with
  | case1 => rfl
  | case2 b' rest h ih =>
    have hn : blen rest h = 0 := by rw [blen, hb.2.1, Option.elim_none]
    simp only [lenSum, blen_cons, if_true, bremove_of_none rest h hb.2.1]; omega
  | case3 h' b' rest h hne ih => have := ih hb.2.2; simp only [lenSum, blen_cons, if_neg hne]; omega

section equiv
variable (C : Consistent hash eq)

theorem e_comm (a b : K) : C.e a b = C.e b a :=
  Bool.eq_iff_iff.2 ⟨C.symm a b, C.symm b a⟩

theorem e_congr_right {a b : K} (h : C.e a b = true) (c : K) : C.e c a = C.e c b :=
  Bool.eq_iff_iff.2 ⟨fun h1 => C.trans c a b h1 h, fun h1 => C.trans c b a h1 (C.symm a b h)⟩

theorem e_congr_left {a b : K} (h : C.e a b = true) (c : K) : C.e a c = C.e b c := by
  rw [e_comm C a c, e_comm C b c, e_congr_right C h]

theorem e_false_of_hash_ne {a b : K} (h : C.h a ≠ C.h b) : C.e a b = false :=
  Bool.eq_false_iff.2 fun h1 => h (C.congr a b h1)

end equiv

theorem findE_some_mem {e : K → K → Bool} {k : K} {l : List (K × V)} {v : V} (h : findE e k l = some v) :
    ∃ k0, (k0, v) ∈ l ∧ e k k0 = true := by
  induction l with
  | nil => cases h
  | cons kv r ih =>
    obtain ⟨k1, v1⟩ := kv
    simp only [findE] at h
    split at h
    · cases h; exact ⟨k1, List.mem_cons_self, ‹_›⟩
    · obtain ⟨k0, hm, he⟩ := ih h
      exact ⟨k0, List.mem_cons_of_mem _ hm, he⟩

theorem findE_isSome (e : K → K → Bool) (k : K) (l : List (K × V)) :
    (findE e k l).isSome = l.any (fun x => e k x.1) := by
  induction l with
  | nil => rfl
  | cons x r ih =>
    obtain ⟨k0, v0⟩ := x
    simp only [findE, List.any_cons, ← ih]
    cases e k k0 <;> rfl

theorem findE_none_iff (e : K → K → Bool) (k : K) (b : List (K × V)) :
    findE e k b = none ↔ ∀ kv ∈ b, e k kv.1 = false := by
  rw [← Option.not_isSome_iff_eq_none, findE_isSome, List.any_eq_true]
  exact ⟨fun h kv hkv => Bool.eq_false_iff.2 fun he => h ⟨kv, hkv, he⟩,
    fun h ⟨kv, hkv, he⟩ => by rw [h kv hkv] at he; cases he⟩

theorem findE_append (e : K → K → Bool) (k : K) (a b : List (K × V)) :
    findE e k (a ++ b) = (findE e k a).or (findE e k b) := by
  induction a with
  | nil => rfl
  | cons kv r ih =>
    obtain ⟨k1, v1⟩ := kv
    simp only [List.cons_append, findE, ih]
    split <;> rfl

theorem findE_map_values {W : Type} (e : K → K → Bool) (g : V → W) (k : K) (l : List (K × V)) :
    findE e k (l.map (fun kv => (kv.1, g kv.2))) = (findE e k l).map g := by
  induction l with
  | nil => rfl
  | cons kv r ih =>
    obtain ⟨k1, v1⟩ := kv
    simp only [List.map_cons, findE, ih]
    split <;> rfl

section classes
variable (C : Consistent hash eq)

theorem findE_congr {a b : K} (h : C.e a b = true) (l : List (K × V)) : findE C.e a l = findE C.e b l := by
  induction l with
  | nil => rfl
  | cons kv r ih => obtain ⟨k1, v1⟩ := kv; simp only [findE, e_congr_left C h, ih]

theorem findE_none_of_equiv {r : List (K × V)} {k0 k' : K} (hr : ∀ x ∈ r, C.e k0 x.1 = false)
    (hk : C.e k' k0 = true) : findE C.e k' r = none := by
  rw [findE_congr C hk, findE_none_iff]; exact hr

theorem findE_self_of_mem (l : List (K × V))
    (hp : l.Pairwise (fun x y => C.e x.1 y.1 = false)) (kv : K × V) (h : kv ∈ l) :
    findE C.e kv.1 l = some kv.2 := by
  induction l with
  | nil => cases h
  | cons x rest ih =>
    obtain ⟨k0, v0⟩ := x
    rw [List.pairwise_cons] at hp
    rcases List.mem_cons.1 h with rfl | h'
    · simp only [findE, C.refl, if_true]
    · have : C.e kv.1 k0 = false := by rw [e_comm]; exact hp.1 kv h'
      simp only [findE, this, ih hp.2 h']; rfl

theorem findE_snoc {b : Bucket K V} {k : K} (hn : ∀ kv ∈ b, C.e k kv.1 = false) (v : V) (k' : K) :
    findE C.e k' (b ++ [(k, v)]) = if C.e k' k then some v else findE C.e k' b := by
  rw [findE_append]
  cases hk : C.e k' k
  · cases findE C.e k' b <;> simp [findE, hk]
  · rw [findE_none_of_equiv C hn hk]; simp [findE, hk]

variable {b : Bucket K V} (hp : b.Pairwise (fun x y => C.e x.1 y.1 = false)) {i : Nat} {k0 : K} {p : V}
  (hi : b[i]? = some (k0, p))
include hp hi

theorem findE_set (v : V) (k' : K) :
    findE C.e k' (b.set i (k0, v)) = if C.e k' k0 then some v else findE C.e k' b := by
  induction b generalizing i with
  | nil => cases hi
  | cons kv r ih =>
    obtain ⟨k1, v1⟩ := kv
    rw [List.pairwise_cons] at hp
    cases i with
    | zero => cases hi; cases h1 : C.e k' k0 <;> simp [findE, h1]
    | succ j =>
      simp only [List.set_cons_succ, findE, ih hp.2 hi]
      cases h1 : C.e k' k1
      · rfl
      · rw [e_congr_left C h1, hp.1 _ (List.mem_of_getElem? hi)]; rfl

theorem findE_eraseIdx (k' : K) :
    findE C.e k' (b.eraseIdx i) = if C.e k' k0 then none else findE C.e k' b := by
  induction b generalizing i with
  | nil => cases hi
  | cons kv r ih =>
    obtain ⟨k1, v1⟩ := kv
    rw [List.pairwise_cons] at hp
    cases i with
    | zero =>
      cases hi
      cases h1 : C.e k' k0
      · simp [findE, h1]
      · exact findE_none_of_equiv C hp.1 h1
    | succ j =>
      simp only [List.eraseIdx_cons_succ, findE, ih hp.2 hi]
      cases h1 : C.e k' k1
      · rfl
      · rw [e_congr_left C h1, hp.1 _ (List.mem_of_getElem? hi)]; rfl

end classes

/-! ### the abstraction: a table as an association list over the classes of `e` -/

def lookB (C : Consistent hash eq) (t : Table K V) (k : K) : Option V :=
  match bget t.buckets (C.h k) with
  | none => none
  | some b => findE C.e k b

def look (C : Consistent hash eq) (t : Table K V) (k : K) : Option V := findE C.e k (toList t)

theorem findE_flat (C : Consistent hash eq) {bs : List (Nat × Bucket K V)} (hb : BucketsOK C bs) (k : K) :
    findE C.e k (bs.flatMap (·.2)) = match bget bs (C.h k) with
      | none => none
      | some b => findE C.e k b := by
  induction bs with
  | nil => rfl
  | cons hb0 rest ih =>
    obtain ⟨h0, b0⟩ := hb0
    obtain ⟨h1, h2, h3⟩ := hb
    simp only [List.flatMap_cons, findE_append, ih h3, bget]
    by_cases hh : h0 = C.h k
    · rw [if_pos hh, ← hh, h2, Option.or_none]
    · -- a bucket under another hash holds no key equivalent to `k`
      have : findE C.e k b0 = none := (findE_none_iff ..).2 fun kv hkv =>
        e_false_of_hash_ne C (by rw [h1.1 kv hkv]; exact Ne.symm hh)
      rw [if_neg hh, this, Option.none_or]

theorem look_eq_lookB (C : Consistent hash eq) {t : Table K V} (hI : Inv C t) (k : K) :
    look C t k = lookB C t k := findE_flat C hI.buckets_ok k

theorem look_fun (C : Consistent hash eq) {t : Table K V} (hI : Inv C t) : look C t = lookB C t :=
  funext (look_eq_lookB C hI)

theorem look_congr (C : Consistent hash eq) (t : Table K V) {a b : K} (h : C.e a b = true) :
    look C t a = look C t b := findE_congr C h _

/-- the loop of `locate` finds the first entry with an equivalent key, which is the entry `findE` reads -/
theorem scan_cases (C : Consistent hash eq) (k : K) (b : Bucket K V) :
    (scan eq k b = .ok none ∧ findE C.e k b = none) ∨
    ∃ i k0 p, scan eq k b = .ok (some i) ∧ b[i]? = some (k0, p) ∧ C.e k k0 = true ∧ findE C.e k b = some p := by
  induction b with
  | nil => exact .inl ⟨rfl, rfl⟩
  | cons kv r ih =>
    obtain ⟨k1, v1⟩ := kv
    simp only [scan, findE, C.eq_ok]
    cases h1 : C.e k k1
    · rcases ih with ⟨hs, hf⟩ | ⟨i, k0, p, hs, hi, he, hf⟩
      · exact .inl ⟨by rw [hs], hf⟩
      · exact .inr ⟨i + 1, k0, p, by rw [hs], hi, he, hf⟩
    · exact .inr ⟨0, k1, v1, rfl, rfl, h1, rfl⟩

inductive LocateCase (C : Consistent hash eq) (t : Table K V) (k : K) : Prop
  | vacant (hg : bget t.buckets (C.h k) = none) (hloc : locate hash eq t k = .ok (.vacant (C.h k)))
      (hl : lookB C t k = none)
  | missing {b : Bucket K V} (hg : bget t.buckets (C.h k) = some b) (hn : ∀ kv ∈ b, C.e k kv.1 = false)
      (hloc : locate hash eq t k = .ok (.missing (C.h k))) (hl : lookB C t k = none)
  | found {b : Bucket K V} {i : Nat} {k0 : K} {p : V} (hg : bget t.buckets (C.h k) = some b)
      (hi : b[i]? = some (k0, p)) (hek : C.e k k0 = true)
      (hloc : locate hash eq t k = .ok (.found (C.h k) i)) (hl : lookB C t k = some p)

theorem locate_cases (C : Consistent hash eq) (t : Table K V) (k : K) : LocateCase C t k := by
  -- the hash as an opaque `x`, so that the kernel never tries to evaluate `toU64` on a cast
  obtain ⟨x, hh, hu⟩ : ∃ x, hash k = .ok x ∧ toU64 x = some (C.h k) := ⟨_, C.hash_ok k, toU64_nat _ (C.hash_lt k)⟩
  cases hg : bget t.buckets (C.h k) with
  | none => exact .vacant hg (by simp only [locate, hh, hu, hg]) (by simp only [lookB, hg])
  | some b =>
    rcases scan_cases C k b with ⟨hs, hf⟩ | ⟨i, k0, p, hs, hi, he, hf⟩
    · exact .missing hg ((findE_none_iff ..).1 hf) (by simp only [locate, hh, hu, hg, hs]) (by simp only [lookB, hg, hf])
    · exact .found hg hi he (by simp only [locate, hh, hu, hg, hs]) (by simp only [lookB, hg, hf])

theorem set_getElem?_self {α : Type} {l : List α} {i : Nat} {a : α} (h : l[i]? = some a) : l.set i a = l := by
  obtain ⟨hlt, rfl⟩ := List.getElem?_eq_some_iff.1 h
  exact List.set_getElem_self hlt

theorem bucketOK_singleton (C : Consistent hash eq) (k : K) (v : V) : BucketOK C (C.h k) [(k, v)] :=
  ⟨fun _ h => by cases List.mem_singleton.1 h; rfl, List.pairwise_singleton .., List.cons_ne_nil _ _⟩

section bucket
variable (C : Consistent hash eq) {h : Nat} {b : Bucket K V} (hb : BucketOK C h b)
include hb

theorem bucketOK_set {i : Nat} {k0 : K} {p : V} (hi : b[i]? = some (k0, p)) (v : V) :
    BucketOK C h (b.set i (k0, v)) := by
  have hk : (b.set i (k0, v)).map Prod.fst = b.map Prod.fst := by
    rw [List.map_set]; exact set_getElem?_self (by rw [List.getElem?_map, hi]; rfl)
  refine ⟨fun kv hkv => ?_, (List.pairwise_map (R := fun x y => C.e x y = false)).1 (by rw [hk]; exact List.pairwise_map.2 hb.2.1),
    fun hn => hb.2.2 ((List.set_eq_nil_iff ..).1 hn)⟩
  rcases List.mem_or_eq_of_mem_set hkv with hm | rfl
  · exact hb.1 kv hm
  · exact hb.1 (k0, p) (List.mem_of_getElem? hi)

theorem bucketOK_append {k : K} (hk : C.h k = h) (hn : ∀ kv ∈ b, C.e k kv.1 = false) (v : V) :
    BucketOK C h (b ++ [(k, v)]) := by
  refine ⟨?_, ?_, by simp⟩
  · intro kv hkv
    rcases List.mem_append.1 hkv with hm | hm
    · exact hb.1 kv hm
    · cases List.mem_singleton.1 hm; exact hk
  · rw [List.pairwise_append]
    refine ⟨hb.2.1, List.pairwise_singleton .., fun x hx y hy => ?_⟩
    cases List.mem_singleton.1 hy
    rw [e_comm]; exact hn x hx

theorem bucketOK_eraseIdx (i : Nat) (hl : 1 < b.length) : BucketOK C h (b.eraseIdx i) := by
  have hs := List.eraseIdx_sublist b i
  refine ⟨fun kv hkv => hb.1 kv (hs.subset hkv), hb.2.1.sublist hs, fun hn => ?_⟩
  rcases List.eraseIdx_eq_nil_iff.1 hn with rfl | ⟨h1, _⟩
  · exact Nat.not_lt_zero _ hl
  · rw [h1] at hl; exact Nat.lt_irrefl _ hl

end bucket

theorem Inv.binsert {C : Consistent hash eq} {t : Table K V} (hI : Inv C t) {h : Nat} {ob : Option (Bucket K V)}
    (hg : bget t.buckets h = ob) {b : Bucket K V} (hb : BucketOK C h b) {d : Nat}
    (hd : b.length = ob.elim 0 List.length + d) : Inv C ⟨binsert t.buckets h b, t.len + d⟩ := by
  refine ⟨hI.buckets_ok.binsert hb, ?_⟩
  have := lenSum_binsert t.buckets h b
  rw [blen, hg, ← hI.len_eq, hd] at this
  show t.len + d = lenSum (HM.binsert t.buckets h b)
  omega

theorem lookB_eq_bind (C : Consistent hash eq) (t : Table K V) (k : K) :
    lookB C t k = (bget t.buckets (C.h k)).bind (findE C.e k) := by
  unfold lookB; cases bget t.buckets (C.h k) <;> rfl

/-- from one bucket to the table -/
theorem look_update (C : Consistent hash eq) {t t' : Table K V} (hI : Inv C t) (hI' : Inv C t') {k : K}
    {ob ob' : Option (Bucket K V)} (hg : bget t.buckets (C.h k) = ob)
    (hg' : ∀ h', bget t'.buckets h' = if C.h k = h' then ob' else bget t.buckets h') {o : Option V}
    (hf : ∀ k', ob'.bind (findE C.e k') = if C.e k' k then o else ob.bind (findE C.e k')) (k' : K) :
    look C t' k' = if C.e k' k then o else look C t k' := by
  rw [look_eq_lookB C hI', look_eq_lookB C hI, lookB_eq_bind, lookB_eq_bind, hg']
  by_cases hh : C.h k = C.h k'
  · rw [if_pos hh, hf, ← hh, hg]
  · rw [if_neg hh, e_false_of_hash_ne C (Ne.symm hh)]; rfl

/-- the value a put writes: `on_found(prev)` for a present key, `on_empty()` for an absent one -/
def newVal (onEmpty : Unit → Res V) (onFound : V → Res V) : Option V → Res V
  | some v => onFound v
  | none => onEmpty ()

theorem tryPut_spec (C : Consistent hash eq) {t : Table K V} (hI : Inv C t) (k : K)
    (onEmpty : Unit → Res V) (onFound : V → Res V) :
    (∀ er, newVal onEmpty onFound (look C t k) = .error er → tryPut hash eq t k onEmpty onFound = .error er) ∧
    (∀ v, newVal onEmpty onFound (look C t k) = .ok v →
      ∃ t', tryPut hash eq t k onEmpty onFound = .ok t' ∧ Inv C t' ∧
        t'.len = (if (look C t k).isSome then t.len else t.len + 1) ∧
        ∀ k', look C t' k' = if C.e k' k then some v else look C t k') := by
  unfold tryPut
  rw [look_eq_lookB C hI]
  cases locate_cases C t k with
  | vacant hg hloc hl =>
    simp only [hloc, hl, newVal, tryPutLocated, hg]
    refine ⟨fun er he => by rw [he], fun v hv => ?_⟩
    have hI' := hI.binsert hg (bucketOK_singleton C k v) (d := 1) rfl
    rw [hv]
    exact ⟨_, rfl, hI', rfl, look_update C hI hI' hg (fun _ => bget_binsert ..) fun _ => rfl⟩
  | missing hg hn hloc hl =>
    simp only [hloc, hl, newVal, tryPutLocated, hg]
    refine ⟨fun er he => by rw [he], fun v hv => ?_⟩
    have hI' := hI.binsert hg (bucketOK_append C (hI.buckets_ok.get hg) rfl hn v) (d := 1) (List.length_append ..)
    rw [hv]
    exact ⟨_, rfl, hI', rfl, look_update C hI hI' hg (fun _ => bget_binsert ..) (findE_snoc C hn v)⟩
  | found hg hi hek hloc hl =>
    have hbo := hI.buckets_ok.get hg
    simp only [hloc, hl, newVal, tryPutLocated, hg, hi]
    refine ⟨fun er he => by rw [he], fun v hv => ?_⟩
    have hI' := hI.binsert hg (bucketOK_set C hbo hi v) (d := 0) (List.length_set ..)
    rw [hv]
    exact ⟨_, rfl, hI', rfl, look_update C hI hI' hg (fun _ => bget_binsert ..) fun k' => by
      rw [e_congr_right C hek]; exact findE_set C hbo.2.1 hi v k'⟩

theorem put_eq_tryPut (t : Table K V) (k : K) (onEmpty : Unit → V) (onFound : V → V) :
    put hash eq t k onEmpty onFound = tryPut hash eq t k (fun u => .ok (onEmpty u)) (fun v => .ok (onFound v)) := rfl

theorem lookup_eq (C : Consistent hash eq) {t : Table K V} (hI : Inv C t) (k : K) :
    lookup hash eq t k = .ok (look C t k) := by
  unfold lookup
  rw [look_eq_lookB C hI]
  cases locate_cases C t k with
  | vacant _ hloc hl | missing _ _ hloc hl => rw [hloc, hl]
  | found hg hi _ hloc hl => simp only [hloc, hl, getAt, hg, hi]

theorem buckets_nil_of_len_zero (C : Consistent hash eq) {t : Table K V} (hI : Inv C t) (h0 : t.len = 0) :
    t.buckets = [] := by
  have hb := hI.buckets_ok
  have hl := hI.len_eq
  cases hbs : t.buckets with
  | nil => rfl
  | cons x r =>
    obtain ⟨h, b⟩ := x
    rw [hbs] at hb hl
    -- the first bucket would be empty
    rw [h0] at hl
    exact absurd (List.eq_nil_of_length_eq_zero (Nat.add_eq_zero_iff.1 hl.symm).1) hb.1.2.2

theorem look_of_len_zero (C : Consistent hash eq) {t : Table K V} (hI : Inv C t) (h0 : t.len = 0) (k : K) :
    look C t k = none := by
  rw [look, toList, buckets_nil_of_len_zero C hI h0]; rfl

theorem length_eraseIdx_add_one {α : Type} {l : List α} {i : Nat} (h : i < l.length) :
    (l.eraseIdx i).length + 1 = l.length := by
  rw [List.length_eraseIdx_of_lt h]; exact Nat.sub_add_cancel (Nat.lt_of_le_of_lt (Nat.zero_le i) h)

/-- the common tail of `pop` / `discard`, at a located key -/
theorem removeAt_spec (C : Consistent hash eq) {t : Table K V} (hI : Inv C t) {k : K} {i : Nat} {b : Bucket K V}
    {k0 : K} {p : V} (hg : bget t.buckets (C.h k) = some b) (hi : b[i]? = some (k0, p)) (hek : C.e k k0 = true) :
    ∃ t', removeAt t (C.h k) i = .ok t' ∧ Inv C t' ∧ t'.len + 1 = t.len ∧
      ∀ k', look C t' k' = if C.e k' k then none else look C t k' := by
  have hbo := hI.buckets_ok.get hg
  have hil : i < b.length := (List.getElem?_eq_some_iff.1 hi).1
  have hf : ∀ k', findE C.e k' (b.eraseIdx i) = if C.e k' k then none else findE C.e k' b := fun k' => by
    rw [e_congr_right C hek]; exact findE_eraseIdx C hbo.2.1 hi k'
  have hB := hI.buckets_ok.bremove (C.h k)
  -- `len - 1` is `m`, the entries under the other hashes and the rest of the bucket
  obtain ⟨m, hm, hm'⟩ : ∃ m, t.len = m + 1 ∧ m = lenSum (bremove t.buckets (C.h k)) + (b.eraseIdx i).length := by
    have hrem := lenSum_bremove hI.buckets_ok (C.h k)
    rw [blen, hg, Option.elim_some, ← hI.len_eq, ← length_eraseIdx_add_one hil] at hrem
    exact ⟨_, hrem.symm, rfl⟩
  unfold removeAt
  simp only [hm, Nat.succ_ne_zero, if_false, hg, Nat.add_sub_cancel, ← List.eraseIdx_eq_take_drop_succ]
  by_cases hl : b.length > 1
  · have h2 : Inv C ⟨binsert (bremove t.buckets (C.h k)) (C.h k) (b.eraseIdx i), m⟩ := by
      refine ⟨hB.binsert (bucketOK_eraseIdx C hbo i hl), ?_⟩
      have := lenSum_binsert (bremove t.buckets (C.h k)) (C.h k) (b.eraseIdx i)
      rw [blen, bget_bremove, if_pos rfl, Option.elim_none] at this
      exact hm'.trans this.symm
    rw [if_pos hl]
    refine ⟨_, rfl, h2, rfl, look_update C hI h2 hg (ob' := some (b.eraseIdx i)) (fun h' => ?_) hf⟩
    rw [bget_binsert, bget_bremove]; by_cases hh : C.h k = h' <;> simp only [hh, if_true, if_false]
  · have h1 := Nat.le_of_not_gt hl
    have he : b.eraseIdx i = [] := List.eraseIdx_eq_nil_iff.2
      (.inr ⟨Nat.le_antisymm h1 (Nat.zero_lt_of_lt hil), Nat.lt_one_iff.1 (Nat.lt_of_lt_of_le hil h1)⟩)
    rw [he] at hm' hf
    rw [if_neg hl]
    exact ⟨_, rfl, ⟨hB, hm'⟩, rfl, look_update C hI ⟨hB, hm'⟩ hg (ob' := none) (fun h' => bget_bremove ..) hf⟩

theorem discard_spec (C : Consistent hash eq) {t : Table K V} (hI : Inv C t) (k : K) :
    ∃ t', discard hash eq t k = .ok t' ∧ Inv C t' ∧
      t'.len + (if (lookB C t k).isSome then 1 else 0) = t.len ∧
      ∀ k', lookB C t' k' = if C.e k' k then none else lookB C t k' := by
  have key : lookB C t k = none → ∀ k', lookB C t k' = if C.e k' k then none else lookB C t k' := fun hn k' => by
    cases hk : C.e k' k
    · rfl
    · rw [← look_eq_lookB C hI, look_congr C t hk, look_eq_lookB C hI, hn]; rfl
  unfold discard
  by_cases h0 : t.len = 0
  · have hn : lookB C t k = none := by rw [← look_eq_lookB C hI, look_of_len_zero C hI h0]
    rw [if_pos h0, hn]; exact ⟨t, rfl, hI, rfl, key hn⟩
  · rw [if_neg h0]
    cases locate_cases C t k with
    | vacant _ hloc hl | missing _ _ hloc hl => rw [hloc, hl]; exact ⟨t, rfl, hI, rfl, key hl⟩
    | found hg hi hek hloc hl =>
      obtain ⟨t', h1, h2, h3, h4⟩ := removeAt_spec C hI hg hi hek
      rw [hloc, hl]
      exact ⟨t', h1, h2, h3, fun k' => by rw [← look_eq_lookB C h2, ← look_eq_lookB C hI]; exact h4 k'⟩

/-- `clear` (a table that is empty already is returned as it is) -/
theorem clear_spec (C : Consistent hash eq) {t : Table K V} (hI : Inv C t) :
    Inv C (clear t) ∧ (clear t).len = 0 ∧ ∀ k, lookB C (clear t) k = none := by
  unfold clear
  by_cases h0 : t.len = 0
  · rw [if_pos h0]
    exact ⟨hI, h0, fun k => by rw [← look_eq_lookB C hI, look_of_len_zero C hI h0]⟩
  · rw [if_neg h0]
    exact ⟨⟨trivial, rfl⟩, rfl, fun _ => rfl⟩

/-! ### bulk updates as folds of the one-key step -/

/-- the one-key step of an abstract finite map `f : K → Option V` (a function on the classes of `C.e`) -/
def stepF (C : Consistent hash eq) (onEmpty : K → Res V) (onOcc : K → V → Res V) (f : K → Option V) (k : K) :
    Res (K → Option V) :=
  match newVal (fun _ => onEmpty k) (onOcc k) (f k) with
  | .error e => .error e
  | .ok v => .ok (fun k' => if C.e k' k then some v else f k')

def foldF (C : Consistent hash eq) (onEmpty : K → Res V) (onOcc : K → V → Res V) :
    (K → Option V) → List (Res K) → Res (K → Option V)
  | f, [] => .ok f
  | _, .error e :: _ => .error e
  | f, .ok k :: rest =>
    match stepF C onEmpty onOcc f k with
    | .error e => .error e
    | .ok f' => foldF C onEmpty onOcc f' rest

theorem updateFromKeys_spec (C : Consistent hash eq) (onEmpty : K → Res V) (onOcc : K → V → Res V)
    {t : Table K V} (hI : Inv C t) (ks : List (Res K)) :
    match foldF C onEmpty onOcc (look C t) ks with
    | .error er => updateFromKeys hash eq onEmpty onOcc t ks = .error er
    | .ok f => ∃ t', updateFromKeys hash eq onEmpty onOcc t ks = .ok t' ∧ Inv C t' ∧ ∀ k', look C t' k' = f k' := by
  induction ks generalizing t with
  | nil => exact ⟨t, rfl, hI, fun _ => rfl⟩
  | cons item rest ih =>
    cases item with
    | error er => rfl
    | ok k =>
      simp only [foldF, stepF, updateFromKeys]
      have hs := tryPut_spec C hI k (fun _ => onEmpty k) (fun v => onOcc k v)
      cases hn : newVal (fun _ => onEmpty k) (onOcc k) (look C t k) with
      | error er => simp only [hs.1 er hn]
      | ok v =>
        obtain ⟨t1, h1, h2, _, h4⟩ := hs.2 v hn
        simp only [h1, ← funext h4]
        exact ih h2

theorem withUpdate_eq_fold (t : Table K V) (items : List (K × V)) :
    withUpdate hash eq t (items.map .ok) =
      items.foldlM (fun t kv => tryPut hash eq t kv.1 (fun _ => .ok kv.2) (fun _ => .ok kv.2)) t := by
  induction items generalizing t with
  | nil => rfl
  | cons kv rest ih =>
    obtain ⟨k, v⟩ := kv
    simp only [List.map_cons, withUpdate, put_eq_tryPut, List.foldlM_cons]
    cases tryPut hash eq t k (fun _ => Except.ok v) (fun _ => Except.ok v) with
    | error e => rfl
    | ok t' => exact ih t'

def writeAll (C : Consistent hash eq) (f : K → Option V) : List (K × V) → (K → Option V)
  | [] => f
  | (k, v) :: rest => writeAll C (fun k' => if C.e k' k then some v else f k') rest

def has (C : Consistent hash eq) (t : Table K V) (k : K) : Bool := (look C t k).isSome

theorem has_congr (C : Consistent hash eq) (t : Table K V) {a b : K} (h : C.e a b = true) :
    has C t a = has C t b := by rw [has, has, look_congr C t h]

theorem has_eq_any (C : Consistent hash eq) (t : Table K V) (k : K) :
    has C t k = (keys t).any (fun x => C.e k x) := by
  rw [has, look, findE_isSome, keys, List.any_map]; rfl

theorem has_iff_keys (C : Consistent hash eq) (t : Table K V) (k : K) :
    has C t k = true ↔ ∃ x ∈ keys t, C.e k x = true := by
  rw [has_eq_any, List.any_eq_true]

theorem has_of_key (C : Consistent hash eq) {t : Table K V} {x : K} (hx : x ∈ keys t) : has C t x = true :=
  (has_iff_keys C t x).2 ⟨x, hx, C.refl x⟩

/-- hence `len` counts classes -/
theorem toList_pairwise (C : Consistent hash eq) {t : Table K V} (hI : Inv C t) :
    (toList t).Pairwise (fun x y => C.e x.1 y.1 = false) := by
  unfold toList
  have hb := hI.buckets_ok
  generalize t.buckets = bs at hb
  induction bs with
  | nil => exact .nil
  | cons hb0 rest ih =>
    obtain ⟨h0, b0⟩ := hb0
    obtain ⟨h1, h2, h3⟩ := hb
    rw [List.flatMap_cons, List.pairwise_append]
    refine ⟨h1.2.1, ih h3, fun x hx y hy => Bool.eq_false_iff.2 fun he => ?_⟩
    -- `y` would be found in `rest` through the hash `h0`, under which `rest` has no bucket
    have := findE_flat C h3 y.1
    rw [← C.congr _ _ he, h1.1 x hx, h2] at this
    have := (findE_none_iff ..).1 this y hy
    rw [C.refl] at this; cases this

theorem keys_pairwise (C : Consistent hash eq) {t : Table K V} (hI : Inv C t) :
    (keys t).Pairwise (fun x y => C.e x y = false) :=
  List.pairwise_map.2 (toList_pairwise C hI)

theorem keys_length (C : Consistent hash eq) {t : Table K V} (hI : Inv C t) : (keys t).length = t.len := by
  rw [keys, List.length_map, toList_length, hI.len_eq]

theorem look_of_stored (C : Consistent hash eq) {t : Table K V} (hI : Inv C t) {kv : K × V}
    (hm : kv ∈ toList t) : look C t kv.1 = some kv.2 :=
  findE_self_of_mem C _ (toList_pairwise C hI) kv hm

theorem sWithUpdate_cons (C : Consistent hash eq) (t : Table K Unit) (k : K) (rest : List (Res K)) :
    sWithUpdate hash eq t (.ok k :: rest) =
      match tryPut hash eq t k (fun _ => .ok ()) (fun _ => .ok ()) with
      | .error e => .error e
      | .ok t' => sWithUpdate hash eq t' rest := by
  unfold tryPut
  cases locate_cases C t k with
  | vacant hg hloc _ | missing hg _ hloc _ => simp only [sWithUpdate, hloc, tryPutLocated, hg]
  | found hg hi _ hloc _ =>
    -- rewriting a unit value changes nothing
    simp only [sWithUpdate, hloc, tryPutLocated, hg, hi, set_getElem?_self hi, binsert_self _ _ _ hg]

theorem sWithUpdate_spec (C : Consistent hash eq) {t : Table K Unit} (hI : Inv C t) (ks : List K) :
    ∃ t', sWithUpdate hash eq t (ks.map .ok) = .ok t' ∧ Inv C t' ∧
      ∀ k', has C t' k' = (has C t k' || ks.any (fun k => C.e k' k)) := by
  induction ks generalizing t with
  | nil => exact ⟨t, rfl, hI, fun _ => (Bool.or_false _).symm⟩
  | cons k rest ih =>
    obtain ⟨t1, h1, h2, _, h4⟩ := (tryPut_spec C hI k (fun _ => .ok ()) (fun _ => .ok ())).2 ()
      (by cases look C t k <;> rfl)
    obtain ⟨t', h5, h6, h7⟩ := ih h2
    refine ⟨t', by rw [List.map_cons, sWithUpdate_cons C, h1]; exact h5, h6, fun k' => ?_⟩
    rw [h7, has, h4, List.any_cons, ← Bool.or_assoc]
    cases C.e k' k <;> simp [has]

theorem sContains_eq (C : Consistent hash eq) {t : Table K Unit} (hI : Inv C t) (k : K) :
    sContains hash eq t k = .ok (has C t k) := by
  unfold sContains has
  rw [look_eq_lookB C hI]
  cases locate_cases C t k with
  | vacant _ hloc hl | missing _ _ hloc hl | found _ _ _ hloc hl => rw [hloc, hl]; rfl

theorem filterRes_ok (p : K → Bool) (l : List K) :
    filterRes (fun i => .ok (p i)) l = (l.filter p).map (Except.ok (ε := Err)) := by
  induction l with
  | nil => rfl
  | cons k r ih =>
    simp only [filterRes, List.filter_cons]
    cases p k <;> simp [ih]

theorem allRes_ok (p : K → Bool) (l : List K) : allRes (fun i => .ok (p i)) l = .ok (l.all p) := by
  induction l with
  | nil => rfl
  | cons k r ih =>
    simp only [allRes, List.all_cons]
    cases p k <;> simp [ih]

theorem sToList_eq (t : Table K Unit) : sToList t = keys t := rfl

theorem has_clear (C : Consistent hash eq) {t : Table K V} (hI : Inv C t) (k : K) : has C (clear t) k = false := by
  obtain ⟨h1, _, h3⟩ := clear_spec C hI
  rw [has, look_eq_lookB C h1, h3]; rfl

theorem bitOr_spec (C : Consistent hash eq) {a : Table K Unit} (ha : Inv C a) (b : Table K Unit) :
    ∃ r, bitOr hash eq a b = .ok r ∧ Inv C r ∧ ∀ k, has C r k = (has C a k || has C b k) := by
  obtain ⟨r, h1, h2, h3⟩ := sWithUpdate_spec C ha (keys b)
  exact ⟨r, h1, h2, fun k => by rw [h3, has_eq_any C b]⟩

theorem any_filter_class (C : Consistent hash eq) (p : K → Bool) (hp : ∀ u v, C.e u v = true → p u = p v)
    (k : K) (l : List K) :
    (l.filter p).any (fun x => C.e k x) = (l.any (fun x => C.e k x) && p k) := by
  rw [List.any_filter, Bool.eq_iff_iff]
  simp only [List.any_eq_true, Bool.and_eq_true]
  exact ⟨fun ⟨x, hx, hpx, he⟩ => ⟨⟨x, hx, he⟩, (hp k x he).trans hpx⟩,
    fun ⟨⟨x, hx, he⟩, hpk⟩ => ⟨x, hx, (hp k x he).symm.trans hpk, he⟩⟩

/-- the shared shape of `&` and `-`: rebuild from the members of `x` that pass a class-respecting test -/
theorem rebuild_spec (C : Consistent hash eq) {a x : Table K Unit} (ha : Inv C a)
    (p : K → Bool) (hp : ∀ u v, C.e u v = true → p u = p v) :
    ∃ r, sUpdate hash eq (clear a) (filterRes (fun i => .ok (p i)) (sToList x)) = .ok r ∧ Inv C r ∧
      ∀ k, has C r k = (has C x k && p k) := by
  rw [filterRes_ok]
  obtain ⟨r, h1, h2, h3⟩ := sWithUpdate_spec C (clear_spec C ha).1 ((sToList x).filter p)
  exact ⟨r, h1, h2, fun k => by rw [h3, has_clear C ha, Bool.false_or, any_filter_class C p hp, has_eq_any C x]; rfl⟩

theorem sContains_fun (C : Consistent hash eq) {t : Table K Unit} (hI : Inv C t) :
    (fun i => sContains hash eq t i) = fun i => .ok (has C t i) := funext (sContains_eq C hI)

theorem sSub_spec (C : Consistent hash eq) {a b : Table K Unit} (ha : Inv C a) (hb : Inv C b) :
    ∃ r, sSub hash eq a b = .ok r ∧ Inv C r ∧ ∀ k, has C r k = (has C a k && !has C b k) := by
  unfold sSub
  simp only [sContains_eq C hb]
  exact rebuild_spec C ha (fun i => !has C b i) (fun u v h => by rw [has_congr C b h])

/-! ### subset tests: counting classes -/

section inject
variable (C : Consistent hash eq) {la lb : List K} (hm : ∀ x ∈ la, ∃ y ∈ lb, C.e x y = true)
  (hp : la.Pairwise (fun x y => C.e x y = false))
  {α : Type} (G : K → α) (hG : ∀ u v, C.e u v = true → G u = G v)
include hG hp hm

/-- classes inject: pairwise inequivalent keys that all have an equivalent partner in `lb` use up distinct entries of
`lb`; read through any class function `G`, the image of `lb` is, up to order, the image of `la` and a remainder -/
theorem map_subperm : ∃ rest : List α, (lb.map G).Perm (la.map G ++ rest) := by
  induction la generalizing lb with
  | nil => exact ⟨_, .refl _⟩
  | cons x r ih =>
    rw [List.pairwise_cons] at hp
    obtain ⟨y, hy, hxy⟩ := hm x List.mem_cons_self
    obtain ⟨s, t, rfl⟩ := List.append_of_mem hy
    -- a partner of a key of `r` is not `y`, whose class is that of `x`: it lies in `s ++ t`
    obtain ⟨rest, h⟩ := ih (lb := s ++ t) (fun x' hx' => by
      obtain ⟨z, hz, hxz⟩ := hm x' (List.mem_cons_of_mem _ hx')
      refine ⟨z, ?_, hxz⟩
      simp only [List.mem_append, List.mem_cons] at hz ⊢
      rcases hz with h | rfl | h
      · exact .inl h
      · have := hp.1 x' hx'
        rw [e_congr_right C hxz, hxy] at this; cases this
      · exact .inr h) hp.2
    refine ⟨rest, (List.perm_middle.map G).trans ?_⟩
    rw [List.map_cons, List.map_cons, hG x y hxy]
    exact h.cons _

/-- pigeonhole: if moreover `lb` is not longer, the two images are the same up to order -/
theorem map_perm (hl : lb.length ≤ la.length) : (la.map G).Perm (lb.map G) := by
  obtain ⟨rest, h⟩ := map_subperm C hm hp G hG
  have := h.length_eq
  rw [List.length_append, List.length_map, List.length_map] at this
  rw [List.eq_nil_of_length_eq_zero (l := rest) (by omega), List.append_nil] at h
  exact h.symm

end inject

def Sub {W : Type} (C : Consistent hash eq) (a : Table K V) (b : Table K W) : Prop :=
  ∀ k, has C a k = true → has C b k = true

section sub
variable {W : Type} (C : Consistent hash eq) {a : Table K V} {b : Table K W}

theorem all_keys_iff (a : Table K V) (p : K → Bool) (hp : ∀ u v, C.e u v = true → p u = p v) :
    (keys a).all p = true ↔ ∀ k, has C a k = true → p k = true := by
  rw [List.all_eq_true]
  exact ⟨fun h k hk => by obtain ⟨x, hx, hkx⟩ := (has_iff_keys C a k).1 hk; rw [hp k x hkx]; exact h x hx,
    fun h x hx => h x (has_of_key C hx)⟩

theorem all_has_iff_sub : (keys a).all (has C b) = true ↔ Sub C a b :=
  all_keys_iff C a _ fun _ _ h => has_congr C b h

theorem sub_iff_keys : Sub C a b ↔ ∀ x ∈ keys a, ∃ y ∈ keys b, C.e x y = true := by
  rw [← all_has_iff_sub, List.all_eq_true]
  exact forall₂_congr fun x _ => has_iff_keys C b x

theorem has_eq_iff_sub : (∀ k, has C a k = has C b k) ↔ Sub C a b ∧ Sub C b a :=
  ⟨fun h => ⟨fun k hk => by rw [← h k]; exact hk, fun k hk => by rw [h k]; exact hk⟩,
   fun ⟨h1, h2⟩ k => Bool.eq_iff_iff.2 ⟨h1 k, h2 k⟩⟩

variable (ha : Inv C a) (hb : Inv C b) (h : Sub C a b)
include ha hb h

theorem sub_len_le : a.len ≤ b.len := by
  obtain ⟨rest, hr⟩ := map_subperm C ((sub_iff_keys C).1 h) (keys_pairwise C ha) (fun _ => ()) fun _ _ _ => rfl
  have := hr.length_eq
  rw [List.length_append, List.length_map, List.length_map, keys_length C ha, keys_length C hb] at this
  omega

theorem sub_antisymm_of_len (hl : b.len ≤ a.len) : Sub C b a := by
  rw [← keys_length C ha, ← keys_length C hb] at hl
  refine (sub_iff_keys C).2 fun z hz => ?_
  -- `C.e z` is a class function, true somewhere on `keys b`, hence somewhere on `keys a`
  have hp := map_perm C ((sub_iff_keys C).1 h) (keys_pairwise C ha) (C.e z) (fun u v h => e_congr_right C h z) hl
  exact List.mem_map.1 (hp.mem_iff.2 (List.mem_map.2 ⟨z, hz, C.refl z⟩))

omit h in
theorem len_eq_of_has_eq (h : ∀ k, has C a k = has C b k) : a.len = b.len :=
  have ⟨h1, h2⟩ := (has_eq_iff_sub C).1 h
  Nat.le_antisymm (sub_len_le C ha hb h1) (sub_len_le C hb ha h2)

end sub

/-- well-formed tables with the same classes store, up to order, the same keys as far as a class function can tell -/
theorem keys_perm {α W : Type} (C : Consistent hash eq) {a : Table K V} {b : Table K W} (ha : Inv C a) (hb : Inv C b)
    (h : ∀ k, has C a k = has C b k) (G : K → α) (hG : ∀ u v, C.e u v = true → G u = G v) :
    ((keys a).map G).Perm ((keys b).map G) :=
  map_perm C ((sub_iff_keys C).1 ((has_eq_iff_sub C).1 h).1) (keys_pairwise C ha) G hG
    (by rw [keys_length C ha, keys_length C hb, len_eq_of_has_eq C ha hb h]; exact Nat.le_refl _)

end
end XrayModel.HM
