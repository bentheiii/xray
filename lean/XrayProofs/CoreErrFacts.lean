/-
The outcome of an argument list that does not deliver values, seen from the constructs that evaluate the
list — for the core evaluator and for the extended one.
-/
import XrayProofs.CoreErrors
import XrayProofs.CoreXErrors

namespace XrayModel.Core

/-- Whatever ends an argument list early — an error value, a violation, a stuck state, lack of fuel —
is the outcome, with the list's state, of every construct that evaluates the list first: the tuple and
array constructors, a strict native, the call of a user function value (which does not run). -/
theorem evalList_error_outcome {n cfg fr args st r s}
    (hl : evalList n cfg fr args st = (.error r, s)) (tail : Bool) :
    eval (n + 1) cfg fr (.tup args) tail st = (r, s) ∧
    eval (n + 1) cfg fr (.arr args) tail st = (r, s) ∧
    (∀ f, isStrictPrim f = true → builtin (n + 1) cfg fr f args tail st = (r, s)) ∧
    (∀ fn dflts env, callVal (n + 1) cfg fr (.clos fn dflts env) args tail st = (r, s)) := by
  refine ⟨by simp [eval, hl], by simp [eval, hl], fun f hf => ?_, fun fn dflts env => by simp [callVal, hl]⟩
  rw [builtin_strict hf]
  simp [strictCall, hf, hl]

end XrayModel.Core

namespace XrayModel.CoreX

/-- Whatever ends an argument list early — an error value, a violation, a stuck state, lack of fuel —
is the outcome, with the list's state, of every construct that evaluates the list first: the tuple and
array constructors, a strict native, the call of a user function value (which does not run). -/
theorem evalList_error_outcome {n cfg fr args st r s}
    (hl : evalList n cfg fr args st = (.error r, s)) (tail : Bool) :
    eval (n + 1) cfg fr (.tup args) tail st = (r, s) ∧
    eval (n + 1) cfg fr (.arr args) tail st = (r, s) ∧
    (∀ f, isStrictPrim f = true → builtin (n + 1) cfg fr f args tail st = (r, s)) ∧
    (∀ fn dflts env, callVal (n + 1) cfg fr (.clos fn dflts env) args tail st = (r, s)) := by
  refine ⟨by simp [eval, hl], by simp [eval, hl], fun f hf => ?_, fun fn dflts env => by simp [callVal, hl]⟩
  rw [builtin_strict hf]
  simp [strictCall, hf, hl]

end XrayModel.CoreX
