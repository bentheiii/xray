/- C20 helper lemmas: the JSON reader reads back what the serialiser of include.rs writes -/
import XrayModel.Conv
import XrayProofs.ConvStr
namespace XrayModel.Conv

/-- nothing that may follow a number in serialised text continues the number -/
def NoNumStart (R : List Nat) : Prop := ∀ c t, R = c :: t → isNumChar c = false

theorem spanNum_append (tok R : List Nat) (h : ∀ c ∈ tok, isNumChar c = true) (hR : NoNumStart R) :
    spanNum (tok ++ R) = (tok, R) := by
  induction tok with
  | nil =>
    cases R with
    | nil => rfl
    | cons c t => simp [spanNum, hR c t rfl]
  | cons c cs ih =>
    have hc := h c (by simp)
    have := ih (fun x hx => h x (by simp [hx]))
    simp [spanNum, hc, this]

mutual
  /-- the fuel the reader spends on a value: `parseVal (n + 1)` hands the text after a bracket to `parseItems n` /
  `parseFields n`, and these spend one unit per element before they call `parseVal` on it, hence the `+ 1` per
  element; `size j ≤ fuel` is what the induction on the fuel carries, and `size_le` bounds it by the text length -/
  def size : J → Nat
    | .arr xs => 1 + sizeL xs
    | .obj fs => 1 + sizeF fs
    | _ => 1
  def sizeL : List J → Nat
    | [] => 0
    | x :: xs => size x + 1 + sizeL xs
  def sizeF : List (List Nat × J) → Nat
    | [] => 0
    | (_, v) :: rest => size v + 1 + sizeF rest
end

mutual
  /-- number tokens are non-empty runs of number characters (what float `to_str` produces) -/
  def WF : J → Prop
    | .num tok => tok ≠ [] ∧ ∀ c ∈ tok, isNumChar c = true
    | .arr xs => WFL xs
    | .obj fs => WFF fs
    | _ => True
  def WFL : List J → Prop
    | [] => True
    | x :: xs => WF x ∧ WFL xs
  def WFF : List (List Nat × J) → Prop
    | [] => True
    | (_, v) :: rest => WF v ∧ WFF rest
end

theorem size_pos (j : J) : 1 ≤ size j := by cases j <;> simp [size] <;> omega

theorem noNum_of_head (c : Nat) (t : List Nat) (h : isNumChar c = false) : NoNumStart (c :: t) := by
  intro c' t' e; cases e; exact h

/-- serialised text never starts with `]` (so `[` followed by `]` is the empty array only) -/
theorem ser_head (j : J) (h : WF j) : ∃ c t, ser j = c :: t ∧ c ≠ 93 := by
  cases j with
  | num tok =>
    cases tok with
    | nil => exact absurd rfl h.1
    | cons c t =>
      refine ⟨c, t, by simp [ser], ?_⟩
      have := h.2 c (by simp)
      intro e; subst e; simp [isNumChar] at this
  | bool b => cases b <;> simp [ser]
  | str s => simp [ser, escapeStr]
  | null => simp [ser]
  | arr xs => simp [ser]
  | obj fs => simp [ser]

theorem joinWith_head (sep x : List Nat) (xs : List (List Nat)) (c : Nat) (t R : List Nat) (h : x = c :: t) :
    ∃ t', joinWith sep (x :: xs) ++ R = c :: t' := by
  cases xs with
  | nil => exact ⟨t ++ R, by rw [h]; rfl⟩
  | cons y ys => exact ⟨t ++ sep ++ joinWith sep (y :: ys) ++ R, by rw [h]; simp [joinWith]⟩

theorem joinWith_cons2 (sep x y : List Nat) (rest : List (List Nat)) :
    joinWith sep (x :: y :: rest) = x ++ sep ++ joinWith sep (y :: rest) := rfl

theorem joinWith_cons2_append (x y : List Nat) (rest : List (List Nat)) (R : List Nat) :
    joinWith [44] (x :: y :: rest) ++ R = x ++ 44 :: (joinWith [44] (y :: rest) ++ R) := by
  rw [joinWith_cons2, List.append_assoc, List.append_assoc]; rfl

/-- the text of a field, as `parseFields` meets it -/
theorem field_append (k v X : List Nat) :
    escapeStr k ++ [58] ++ v ++ X = 34 :: (escapeBody k ++ 34 :: 58 :: (v ++ X)) := by
  simp only [escapeStr, List.cons_append, List.append_assoc, List.nil_append]

/-! The three statements are proved together by induction on the fuel; each step uses the statements for the fuel
below. -/

def ValOK (n : Nat) : Prop :=
  ∀ j R, size j ≤ n → WF j → NoNumStart R → parseVal n (ser j ++ R) = some (j, R)

def ItemsOK (n : Nat) : Prop :=
  ∀ x xs R, sizeL (x :: xs) ≤ n → WFL (x :: xs) →
    parseItems n (joinWith [44] (serList (x :: xs)) ++ 93 :: R) = some (x :: xs, R)

def FieldsOK (n : Nat) : Prop :=
  ∀ f fs R, sizeF (f :: fs) ≤ n → WFF (f :: fs) →
    parseFields n (joinWith [44] (serFields (f :: fs)) ++ 125 :: R) = some (f :: fs, R)

theorem val_step (n : Nat) (ihI : ItemsOK n) (ihF : FieldsOK n) : ValOK (n + 1) := by
  intro j R hs hw hR
  cases j with
  | num tok =>
    obtain ⟨hne, hall⟩ := hw
    cases tok with
    | nil => exact absurd rfl hne
    | cons c t =>
      have hc := hall c (by simp)
      have hsp := spanNum_append (c :: t) R hall hR
      rw [List.cons_append] at hsp
      show parseVal (n + 1) (c :: (t ++ R)) = _
      rw [parseVal.eq_def]
      -- a number character is none of the characters that open another kind of value
      have hne : ∀ k, isNumChar k = false → c ≠ k := fun k hk e => by rw [e, hk] at hc; cases hc
      simp only [hne 34 rfl, hne 91 rfl, hne 123 rfl, hne 116 rfl, hne 102 rfl, hne 110 rfl, if_false, hsp]
      exact if_neg (List.cons_ne_nil c t)
  | bool b => cases b <;> rfl  -- the reader run on the literal text, as for `null`, `[]` and `{}` below
  | str s =>
    simp only [ser, escapeStr_append]
    rw [parseVal.eq_def]
    simp only [if_true, read_body, List.reverse_nil, List.nil_append]
  | null => rfl
  | arr xs =>
    cases xs with
    | nil => rfl
    | cons x xs =>
      have hi := ihI x xs R (by simp only [size] at hs; omega) hw
      obtain ⟨c, t, hc, hne⟩ := ser_head x hw.1
      simp only [ser, List.cons_append, List.nil_append, List.append_assoc]
      rw [parseVal.eq_def]
      simp only [show ¬ (91 = 34) by decide, if_false, if_true]
      -- the text after `[` does not start with `]`: this is not the empty array
      obtain ⟨t', ht'⟩ := joinWith_head [44] (ser x) (serList xs) c t (93 :: R) hc
      rw [show serList (x :: xs) = ser x :: serList xs from rfl, ht'] at hi ⊢
      split
      · rename_i r heq; cases heq; exact absurd rfl hne
      · rw [hi]
  | obj fs =>
    cases fs with
    | nil => rfl
    | cons f fs =>
      have hi := ihF f fs R (by simp only [size] at hs; omega) hw
      obtain ⟨k, v⟩ := f
      simp only [ser, List.cons_append, List.nil_append, List.append_assoc]
      rw [parseVal.eq_def]
      simp only [show ¬ (123 = 34) by decide, show ¬ (123 = 91) by decide, if_false, if_true]
      -- the text after `{` starts with the quote of the first key: this is not the empty object
      obtain ⟨t', ht'⟩ := joinWith_head [44] (escapeStr k ++ [58] ++ ser v) (serFields fs) 34 _ (125 :: R) rfl
      rw [show serFields ((k, v) :: fs) = (escapeStr k ++ [58] ++ ser v) :: serFields fs from rfl, ht'] at hi ⊢
      split
      · rename_i r heq; cases heq
      · rw [hi]

theorem items_step (n : Nat) (ihV : ValOK n) (ihI : ItemsOK n) : ItemsOK (n + 1) := by
  intro x xs R hs hw
  rw [parseItems.eq_def]; simp only []
  have hx : size x ≤ n := by simp only [sizeL] at hs; omega
  cases xs with
  | nil =>
    rw [show joinWith [44] (serList [x]) = ser x from rfl, ihV x (93 :: R) hx hw.1 (noNum_of_head 93 R (by decide))]
    rfl
  | cons y ys =>
    have h1 := ihV x (44 :: (joinWith [44] (serList (y :: ys)) ++ 93 :: R)) hx hw.1 (noNum_of_head 44 _ (by decide))
    have h2 := ihI y ys R (by simp only [sizeL] at hs ⊢; omega) hw.2
    have e : joinWith [44] (serList (x :: y :: ys)) ++ 93 :: R =
        ser x ++ 44 :: (joinWith [44] (serList (y :: ys)) ++ 93 :: R) := joinWith_cons2_append _ _ _ _
    rw [e, h1]
    simp only
    rw [h2]

theorem fields_step (n : Nat) (ihV : ValOK n) (ihF : FieldsOK n) : FieldsOK (n + 1) := by
  intro f fs R hs hw
  obtain ⟨k, v⟩ := f
  have hx : size v ≤ n := by simp only [sizeF] at hs; omega
  cases fs with
  | nil =>
    have := ihV v (125 :: R) hx hw.1 (noNum_of_head 125 R (by decide))
    rw [show joinWith [44] (serFields [(k, v)]) = escapeStr k ++ [58] ++ ser v from rfl, field_append,
      parseFields.eq_def]; simp only []; rw [read_body]
    simp only [List.reverse_nil, List.nil_append]
    rw [this]
    rfl
  | cons y ys =>
    obtain ⟨k2, v2⟩ := y
    have h1 := ihV v (44 :: (joinWith [44] (serFields ((k2, v2) :: ys)) ++ 125 :: R)) hx hw.1 (noNum_of_head 44 _ (by decide))
    have h2 := ihF (k2, v2) ys R (by simp only [sizeF] at hs ⊢; omega) hw.2
    have e : joinWith [44] (serFields ((k, v) :: (k2, v2) :: ys)) ++ 125 :: R =
        escapeStr k ++ [58] ++ ser v ++ 44 :: (joinWith [44] (serFields ((k2, v2) :: ys)) ++ 125 :: R) :=
      joinWith_cons2_append _ _ _ _
    rw [e, field_append, parseFields.eq_def]; simp only []; rw [read_body]
    simp only [List.reverse_nil, List.nil_append]
    rw [h1]
    simp only
    rw [h2]

theorem all_ok : ∀ n, ValOK n ∧ ItemsOK n ∧ FieldsOK n := by
  intro n
  induction n with
  | zero =>
    refine ⟨?_, ?_, ?_⟩
    · intro j R hs; have := size_pos j; omega
    · intro x xs R hs; simp only [sizeL] at hs; omega
    · intro f fs R hs; obtain ⟨k, v⟩ := f; simp only [sizeF] at hs; omega
  | succ n ih => exact ⟨val_step n ih.2.1 ih.2.2, items_step n ih.1 ih.2.1, fields_step n ih.1 ih.2.2⟩

mutual
  theorem size_le : ∀ (j : J), WF j → size j ≤ (ser j).length
    | .num tok, h => by
      cases tok with
      | nil => exact absurd rfl h.1
      | cons c t => simp [size, ser]
    | .bool b, _ => by cases b <;> simp [size, ser]
    | .str s, _ => by simp [size, ser, escapeStr]
    | .null, _ => by simp [size, ser]
    | .arr xs, h => by
      have := sizeL_le xs h
      simp only [size, ser, List.length_append, List.length_cons, List.length_nil]
      omega
    | .obj fs, h => by
      have := sizeF_le fs h
      simp only [size, ser, List.length_append, List.length_cons, List.length_nil]
      omega
  theorem sizeL_le : ∀ (xs : List J), WFL xs → sizeL xs ≤ (joinWith [44] (serList xs)).length + 1
    | [], _ => by simp [sizeL]
    | [x], h => by
      have := size_le x h.1
      simp only [sizeL, serList, joinWith]
      omega
    | x :: y :: ys, h => by
      have h1 := size_le x h.1
      have h2 := sizeL_le (y :: ys) h.2
      simp only [sizeL, serList, joinWith_cons2, List.length_append, List.length_cons, List.length_nil] at *
      omega
  theorem sizeF_le : ∀ (fs : List (List Nat × J)), WFF fs → sizeF fs ≤ (joinWith [44] (serFields fs)).length + 1
    | [], _ => by simp [sizeF]
    | [(k, v)], h => by
      have := size_le v h.1
      simp only [sizeF, serFields, joinWith, List.length_append, List.length_cons, List.length_nil]
      omega
    | (k, v) :: (k2, v2) :: ys, h => by
      have h1 := size_le v h.1
      have h2 := sizeF_le ((k2, v2) :: ys) h.2
      simp only [sizeF, serFields, joinWith_cons2, List.length_append, List.length_cons, List.length_nil] at *
      omega
end

end XrayModel.Conv
