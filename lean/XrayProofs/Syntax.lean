/-
The precedence climber of XrayModel/Syntax.lean (`climb`, with its outer loop `climbRec` and inner loop
`climbInner`) against the table `info`: what it returns obeys the table (`Shaped`) and lists back to the input
(`climb_sound_aux`), on a well-formed pair list it answers (`climb_total_aux`), and every tree that obeys the table
is what it returns on the tree's in-order listing (`climb_complete_aux`).  The one property of the table that is
used is `Uniform`, shown for the generated table at the end.
-/
import XrayModel.Syntax
namespace XrayModel.Syntax
open Generated.Ops

-- for the `decide +kernel` examples on concrete trees in Props/C02.lean
deriving instance DecidableEq for Item
deriving instance DecidableEq for Tree

section
variable {α : Type}

def inorder : Tree α → List (Item α)
  | .leaf a => [.prim a]
  | .node r l rt => inorder l ++ .op r :: inorder rt

def leftmost : Tree α → α
  | .leaf a => a
  | .node _ l _ => leftmost l

def tailOf : Tree α → List (Item α)
  | .leaf _ => []
  | .node r l rt => tailOf l ++ .op r :: inorder rt

theorem inorder_eq (t : Tree α) : inorder t = .prim (leftmost t) :: tailOf t := by
  induction t with
  | leaf a => rfl
  | node r l rt ihl _ => simp [inorder, leftmost, tailOf, ihl]

def rootRule : Tree α → Option String
  | .leaf _ => none
  | .node r _ _ => some r

def headOp : List (Item α) → Option String
  | .op r :: _ => some r
  | _ => none

variable (info : String → Option (Nat × Assoc))

/-- the tree obeys the table: at every node, the left operand's root does not take the node's operator into its own
    right operand, and the right operand's root is an operator the node's inner loop takes -/
def Shaped : Tree α → Prop
  | .leaf _ => True
  | .node r l rt => ∃ p a, info r = some (p, a) ∧ Shaped l ∧ Shaped rt ∧
      (∀ s q b, rootRule l = some s → info s = some (q, b) → absorbs q p a = false) ∧
      (∀ s, rootRule rt = some s → ∃ q b, info s = some (q, b) ∧ absorbs p q b = true)

/-- well-formed pair list after the first primary: (known operator, primary)* -/
inductive Alt : List (Item α) → Prop
  | nil : Alt []
  | cons (r : String) (a : α) (ts : List (Item α)) : (info r).isSome → Alt ts → Alt (.op r :: .prim a :: ts)

def Uniform : Prop := ∀ r1 r2 p a1 a2, info r1 = some (p, a1) → info r2 = some (p, a2) → a1 = a2

/-- the root of `t` does not take the operator at the head of `ts` -/
def LeftOK (t : Tree α) (ts : List (Item α)) : Prop :=
  ∀ s q b r p a, rootRule t = some s → info s = some (q, b) → headOp ts = some r → info r = some (p, a) →
    absorbs q p a = false

/-- `t` can be the right operand of an operator of precedence `p` -/
def RootAbs (p : Nat) (t : Tree α) : Prop :=
  ∀ s, rootRule t = some s → ∃ q b, info s = some (q, b) ∧ absorbs p q b = true

def StopOuter (m : Nat) (ts : List (Item α)) : Prop :=
  ∀ r p a, headOp ts = some r → info r = some (p, a) → p < m

def StopInner (p : Nat) (ts : List (Item α)) : Prop :=
  ∀ r q b, headOp ts = some r → info r = some (q, b) → absorbs p q b = false

theorem absorbs_false_iff (q p : Nat) (a : Assoc) : absorbs q p a = false ↔ p ≤ q ∧ (p = q → a = Assoc.left) := by
  cases a <;> simp [absorbs] <;> omega

theorem absorbs_false_iff_gt (q p : Nat) (a : Assoc) : absorbs q p a = false ↔ q > p ∨ (q = p ∧ a = Assoc.left) := by
  rw [absorbs_false_iff]
  constructor
  · rintro ⟨hle, ha⟩
    exact (Nat.lt_or_eq_of_le hle).imp_right fun e => ⟨e.symm, ha e⟩
  · rintro (hgt | ⟨rfl, ha⟩)
    · exact ⟨Nat.le_of_lt hgt, fun e => absurd e (Nat.ne_of_lt hgt)⟩
    · exact ⟨Nat.le_refl _, fun _ => ha⟩

theorem absorbs_true_iff (p q : Nat) (b : Assoc) : absorbs p q b = true ↔ q > p ∨ (q = p ∧ b = Assoc.right) := by
  cases b <;> simp [absorbs] <;> omega

/-- an operator taken at level `p` stays taken when its precedence rises; while the precedence stays the same
a right-associative one has to stay so -/
theorem absorbs_mono {p q q' : Nat} {b b' : Assoc} (h : absorbs p q b = true) (hge : q' ≥ q)
    (hb : q' = q → b = Assoc.right → b' = Assoc.right) : absorbs p q' b' = true := by
  rw [absorbs_true_iff] at h ⊢
  rcases h with h | ⟨rfl, hr⟩
  · exact Or.inl (by omega)
  · rcases Nat.lt_or_eq_of_le hge with hlt | he
    · exact Or.inl hlt
    · exact Or.inr ⟨he.symm, hb he.symm hr⟩

/-- no operator of the table that `P` takes stands at the head of `ts`, or one does -/
theorem head_or (P : Nat → Assoc → Prop) [∀ p a, Decidable (P p a)] (ts : List (Item α)) :
    (∀ r p a, headOp ts = some r → info r = some (p, a) → ¬ P p a) ∨
      ∃ r rest p a, ts = .op r :: rest ∧ info r = some (p, a) ∧ P p a := by
  match ts with
  | [] => exact Or.inl fun _ _ _ h => nomatch h
  | .prim _ :: _ => exact Or.inl fun _ _ _ h => nomatch h
  | .op r :: rest =>
    match hi : info r with
    | none => exact Or.inl fun _ _ _ h h2 => by cases h; rw [hi] at h2; cases h2
    | some (p, a) =>
      by_cases hP : P p a
      · exact Or.inr ⟨r, rest, p, a, rfl, hi, hP⟩
      · exact Or.inl fun _ _ _ h h2 => by cases h; rw [hi] at h2; cases h2; exact hP

theorem stopOuter_or (m : Nat) (ts : List (Item α)) :
    StopOuter info m ts ∨ ∃ r rest p a, ts = .op r :: rest ∧ info r = some (p, a) ∧ p ≥ m := by
  simpa only [StopOuter, Nat.not_le] using head_or info (fun p _ => p ≥ m) ts

theorem stopInner_or (p : Nat) (ts : List (Item α)) :
    StopInner info p ts ∨ ∃ r rest q b, ts = .op r :: rest ∧ info r = some (q, b) ∧ absorbs p q b = true := by
  simpa only [StopInner, Bool.not_eq_true] using head_or info (fun q b => absorbs p q b = true) ts

theorem climbRec_zero (lhs : Tree α) (m : Nat) (ts) : climbRec info 0 lhs m ts = none := by
  simp [climbRec]

theorem climbInner_zero (rhs : Tree α) (p : Nat) (ts) : climbInner info 0 rhs p ts = none := by
  simp [climbInner]

theorem climbRec_stop {f : Nat} {lhs : Tree α} {m : Nat} {ts} (h : StopOuter info m ts) :
    climbRec info (f + 1) lhs m ts = some (lhs, ts) := by
  match ts with
  | [] => simp [climbRec]
  | .prim _ :: _ => simp [climbRec]
  | .op r :: _ =>
    match hi : info r with
    | none => simp [climbRec, hi]
    | some (p, a) => have := h r p a rfl hi; simp [climbRec, hi]; omega

theorem climbRec_ge {f : Nat} {lhs : Tree α} {m : Nat} {r : String} {c : α} {ts} {p a} (h : info r = some (p, a)) (hge : p ≥ m) :
    climbRec info (f + 1) lhs m (.op r :: .prim c :: ts) =
      (climbInner info f (.leaf c) p ts).bind (fun x => climbRec info f (.node r lhs x.1) m x.2) := by
  simp only [climbRec, h, hge, ↓reduceIte]
  cases climbInner info f (.leaf c) p ts <;> rfl

theorem climbRec_ge_nil {f : Nat} {lhs : Tree α} {m : Nat} {r : String} {p a} (h : info r = some (p, a)) (hge : p ≥ m) :
    climbRec info (f + 1) lhs m [.op r] = none := by
  simp [climbRec, h, hge]

theorem climbRec_ge_op {f : Nat} {lhs : Tree α} {m : Nat} {r r' : String} {ts} {p a} (h : info r = some (p, a)) (hge : p ≥ m) :
    climbRec info (f + 1) lhs m (.op r :: .op r' :: ts) = none := by
  simp [climbRec, h, hge]

theorem climbInner_stop {f : Nat} {rhs : Tree α} {p : Nat} {ts} (h : StopInner info p ts) :
    climbInner info (f + 1) rhs p ts = some (rhs, ts) := by
  match ts with
  | [] => simp [climbInner]
  | .prim _ :: _ => simp [climbInner]
  | .op r :: _ =>
    match hi : info r with
    | none => simp [climbInner, hi]
    | some (q, b) => simp [climbInner, hi, h r q b rfl hi]

theorem climbInner_go {f : Nat} {rhs : Tree α} {p : Nat} {r : String} {ts} {q b} (h : info r = some (q, b))
    (ha : absorbs p q b = true) :
    climbInner info (f + 1) rhs p (.op r :: ts) =
      (climbRec info f rhs q (.op r :: ts)).bind (fun x => climbInner info f x.1 p x.2) := by
  simp only [climbInner, h, ha, ↓reduceIte]
  cases climbRec info f rhs q (.op r :: ts) <;> rfl

theorem climb_mono_step : ∀ f : Nat,
    (∀ (lhs : Tree α) m ts x, climbRec info f lhs m ts = some x → climbRec info (f + 1) lhs m ts = some x) ∧
    (∀ (rhs : Tree α) p ts x, climbInner info f rhs p ts = some x → climbInner info (f + 1) rhs p ts = some x) := by
  intro f
  induction f with
  | zero => exact ⟨fun _ _ _ _ h => by simp [climbRec_zero] at h, fun _ _ _ _ h => by simp [climbInner_zero] at h⟩
  | succ f ih =>
    refine ⟨fun lhs m ts x h => ?_, fun rhs p ts x h => ?_⟩
    · rcases stopOuter_or info m ts with hst | ⟨r, rest, p, a, rfl, hi, hge⟩
      · rwa [climbRec_stop info hst] at h ⊢
      · match rest with
        | [] => rw [climbRec_ge_nil info hi hge] at h; cases h
        | .op r' :: ts => rw [climbRec_ge_op info hi hge] at h; cases h
        | .prim c :: ts =>
          rw [climbRec_ge info hi hge] at h ⊢
          obtain ⟨y, hy, hy2⟩ := Option.bind_eq_some_iff.mp h
          rw [ih.2 _ _ _ _ hy]
          exact ih.1 _ _ _ _ hy2
    · rcases stopInner_or info p ts with hst | ⟨r, rest, q, b, rfl, hi, ha⟩
      · rwa [climbInner_stop info hst] at h ⊢
      · rw [climbInner_go info hi ha] at h ⊢
        obtain ⟨y, hy, hy2⟩ := Option.bind_eq_some_iff.mp h
        rw [ih.1 _ _ _ _ hy]
        exact ih.2 _ _ _ _ hy2

theorem climbRec_mono {f f' : Nat} (hle : f ≤ f') {lhs : Tree α} {m ts x} (h : climbRec info f lhs m ts = some x) :
    climbRec info f' lhs m ts = some x := by
  induction hle with
  | refl => exact h
  | step _ ih => exact (climb_mono_step info _).1 _ _ _ _ ih

theorem climbInner_mono {f f' : Nat} (hle : f ≤ f') {rhs : Tree α} {p ts x} (h : climbInner info f rhs p ts = some x) :
    climbInner info f' rhs p ts = some x := by
  induction hle with
  | refl => exact h
  | step _ ih => exact (climb_mono_step info _).2 _ _ _ _ ih

/-- Soundness, for both loops by induction on the fuel.  The last conjunct for the outer loop (it returns `lhs`
itself or a tree whose root has precedence `≥ m`) is what gives the inner loop `LeftOK` and `RootAbs` back after its
level-`q` call.  `Uniform` is needed where that call returns a root of precedence exactly `p`: it is then
right-associative because the operator that started the call is. -/
theorem climb_sound_aux (hu : Uniform info) : ∀ f : Nat,
    (∀ (lhs : Tree α) m ts t rest, climbRec info f lhs m ts = some (t, rest) → Shaped info lhs → LeftOK info lhs ts →
        Shaped info t ∧ inorder lhs ++ ts = inorder t ++ rest ∧ StopOuter info m rest ∧
        ((t = lhs ∧ rest = ts) ∨ ∃ r p a, rootRule t = some r ∧ info r = some (p, a) ∧ p ≥ m)) ∧
    (∀ (rhs : Tree α) p ts t rest, climbInner info f rhs p ts = some (t, rest) → Shaped info rhs → LeftOK info rhs ts →
        RootAbs info p rhs →
        Shaped info t ∧ inorder rhs ++ ts = inorder t ++ rest ∧ StopInner info p rest ∧ RootAbs info p t) := by
  intro f
  induction f with
  | zero => exact ⟨fun _ _ _ _ _ h => by simp [climbRec_zero] at h, fun _ _ _ _ _ h => by simp [climbInner_zero] at h⟩
  | succ f ih =>
    refine ⟨fun lhs m ts t rest h hs hl => ?_, fun rhs p ts t rest h hs hl hra => ?_⟩
    · rcases stopOuter_or info m ts with hst | ⟨r, rest0, p, a, rfl, hi, hge⟩
      · rw [climbRec_stop info hst] at h; cases h
        exact ⟨hs, rfl, hst, Or.inl ⟨rfl, rfl⟩⟩
      · match rest0 with
        | [] => rw [climbRec_ge_nil info hi hge] at h; cases h
        | .op r' :: ts => rw [climbRec_ge_op info hi hge] at h; cases h
        | .prim c :: ts =>
          rw [climbRec_ge info hi hge] at h
          obtain ⟨⟨rhs, rest1⟩, hy, hy2⟩ := Option.bind_eq_some_iff.mp h
          obtain ⟨hsr, hior, hstop, hra⟩ := ih.2 (.leaf c) p ts rhs rest1 hy trivial
            (fun _ _ _ _ _ _ h => nomatch h) (fun _ h => nomatch h)
          have hsn : Shaped info (.node r lhs rhs) :=
            ⟨p, a, hi, hs, hsr, fun s q b hroot hinfo => hl s q b r p a hroot hinfo rfl hi, hra⟩
          have hln : LeftOK info (.node r lhs rhs) rest1 := by
            intro s q b r2 p2 a2 hroot hinfo hhead hinfo2
            cases hroot
            rw [hi] at hinfo; cases hinfo
            exact hstop r2 p2 a2 hhead hinfo2
          obtain ⟨h1, h2, h3, h4⟩ := ih.1 _ m rest1 t rest hy2 hsn hln
          refine ⟨h1, ?_, h3, Or.inr ?_⟩
          · rw [← h2]; simp [inorder] at hior ⊢; rw [← hior]
          · rcases h4 with ⟨ht, _⟩ | h4
            · subst ht; exact ⟨r, p, a, rfl, hi, hge⟩
            · exact h4
    · rcases stopInner_or info p ts with hst | ⟨r, rest0, q, b, rfl, hi, ha⟩
      · rw [climbInner_stop info hst] at h; cases h
        exact ⟨hs, rfl, hst, hra⟩
      · rw [climbInner_go info hi ha] at h
        obtain ⟨⟨rhs', ts'⟩, hy, hy2⟩ := Option.bind_eq_some_iff.mp h
        obtain ⟨g1, g2, g3, g4⟩ := ih.1 rhs q _ rhs' ts' hy hs hl
        -- the level-`q` call returned `rhs` unchanged, or a tree whose root has precedence `≥ q`
        obtain ⟨hl', hra'⟩ : LeftOK info rhs' ts' ∧ RootAbs info p rhs' := by
          rcases g4 with ⟨rfl, rfl⟩ | ⟨s, ps, as, hroot, hinfo, hps⟩
          · exact ⟨hl, hra⟩
          · refine ⟨fun s2 q2 b2 r2 p2 a2 hroot2 hinfo2 hhead hinfo3 => ?_, fun s2 hroot2 => ?_⟩ <;>
              (rw [hroot] at hroot2; cases hroot2)
            · rw [hinfo] at hinfo2; cases hinfo2
              have := g3 r2 p2 a2 hhead hinfo3
              rw [absorbs_false_iff]; omega
            · refine ⟨ps, as, hinfo, absorbs_mono ha hps fun e hb => ?_⟩
              subst e
              exact (hu s r ps as b hinfo hi).trans hb
        obtain ⟨k1, k2, k3, k4⟩ := ih.2 rhs' p ts' t rest hy2 g1 hl' hra'
        exact ⟨k1, by rw [g2, k2], k3, k4⟩

/-- Totality: fuel `length + 1` suffices for the outer loop and `length + 2` for the inner loop on a well-formed
pair list.  An outer loop that takes an operator consumes at least that operator and its operand (the last
conjunct): this is what leaves the inner loop, which calls it, enough fuel to go on. -/
theorem climb_total_aux : ∀ f : Nat,
    (∀ (lhs : Tree α) m ts, Alt info ts → ts.length + 1 ≤ f →
        ∃ t rest, climbRec info f lhs m ts = some (t, rest) ∧ Alt info rest ∧ rest.length ≤ ts.length ∧
          (∀ r rest0 p a, ts = .op r :: rest0 → info r = some (p, a) → p ≥ m → rest.length + 2 ≤ ts.length)) ∧
    (∀ (rhs : Tree α) p ts, Alt info ts → ts.length + 2 ≤ f →
        ∃ t rest, climbInner info f rhs p ts = some (t, rest) ∧ Alt info rest ∧ rest.length ≤ ts.length) := by
  intro f
  induction f with
  | zero => exact ⟨fun _ _ _ _ h => by omega, fun _ _ _ _ h => by omega⟩
  | succ f ih =>
    refine ⟨fun lhs m ts halt hf => ?_, fun rhs p ts halt hf => ?_⟩
    · rcases stopOuter_or info m ts with hst | ⟨r, _, p, a, rfl, hi, hge⟩
      · exact ⟨lhs, ts, climbRec_stop info hst, halt, Nat.le_refl _,
          fun r _ p a he hi hge => absurd (hst r p a (he ▸ rfl) hi) (Nat.not_lt.mpr hge)⟩
      · cases halt with
        | cons _ c ts hk ht =>
          rw [climbRec_ge info hi hge]
          simp only [List.length_cons] at hf ⊢
          obtain ⟨rhs, rest1, e1, a1, l1⟩ := ih.2 (.leaf c) p ts ht (by omega)
          obtain ⟨t, rest, e2, a2, l2, _⟩ := ih.1 (.node r lhs rhs) m rest1 a1 (by omega)
          exact ⟨t, rest, by simp [e1, e2], a2, by omega, fun _ _ _ _ _ _ _ => by omega⟩
    · rcases stopInner_or info p ts with hst | ⟨r, _, q, b, rfl, hi, ha⟩
      · exact ⟨rhs, ts, climbInner_stop info hst, halt, Nat.le_refl _⟩
      · cases halt with
        | cons _ c ts hk ht =>
          rw [climbInner_go info hi ha]
          obtain ⟨rhs', ts', e1, a1, _, l1⟩ := ih.1 rhs q _ (Alt.cons r c ts hk ht) (by omega)
          have l1 := l1 r _ q b rfl hi (Nat.le_refl _)
          simp only [List.length_cons] at hf l1 ⊢
          obtain ⟨t, rest, e2, a2, l2⟩ := ih.2 rhs' p ts' a1 (by omega)
          exact ⟨t, rest, by simp [e1, e2], a2, by omega⟩

theorem alt_stop_nil {ts : List (Item α)} (ha : Alt info ts) (hs : StopOuter info 0 ts) : ts = [] := by
  cases ha with
  | nil => rfl
  | cons r c ts hk _ =>
    obtain ⟨⟨p, a⟩, hi⟩ := Option.isSome_iff_exists.mp hk
    have := hs r p a rfl hi
    omega

theorem climb_ok (hu : Uniform info) (a : α) (ts : List (Item α)) (halt : Alt info ts) :
    ∃ t, climb info (.prim a :: ts) = some t ∧ inorder t = .prim a :: ts ∧ Shaped info t := by
  obtain ⟨t, rest, e, ar, _, _⟩ := (climb_total_aux info (ts.length + 2)).1 (.leaf a) 0 ts halt (by omega)
  obtain ⟨h1, h2, h3, _⟩ := (climb_sound_aux info hu _).1 _ _ _ _ _ e trivial
    (fun _ _ _ _ _ _ h => nomatch h)
  obtain rfl := alt_stop_nil info ar h3
  refine ⟨t, by simp [climb, e], ?_, h1⟩
  simpa [inorder] using h2.symm

def RecR (lhs : Tree α) (m : Nat) (ts : List (Item α)) (res : Tree α × List (Item α)) : Prop :=
  ∃ f, climbRec info f lhs m ts = some res

def InnerR (rhs : Tree α) (p : Nat) (ts : List (Item α)) (res : Tree α × List (Item α)) : Prop :=
  ∃ f, climbInner info f rhs p ts = some res

theorem recR_step {lhs rhs : Tree α} {m p : Nat} {a : Assoc} {r : String} {c : α} {ts ts' res}
    (hi : info r = some (p, a)) (hge : p ≥ m) (h1 : InnerR info (.leaf c) p ts (rhs, ts'))
    (h2 : RecR info (.node r lhs rhs) m ts' res) : RecR info lhs m (.op r :: .prim c :: ts) res := by
  obtain ⟨f1, h1⟩ := h1
  obtain ⟨f2, h2⟩ := h2
  refine ⟨max f1 f2 + 1, ?_⟩
  rw [climbRec_ge info hi hge, climbInner_mono info (Nat.le_max_left f1 f2) h1]
  exact climbRec_mono info (Nat.le_max_right f1 f2) h2

theorem innerR_step {rhs rhs' : Tree α} {p q : Nat} {b : Assoc} {r : String} {ts ts' res}
    (hi : info r = some (q, b)) (ha : absorbs p q b = true) (h1 : RecR info rhs q (.op r :: ts) (rhs', ts'))
    (h2 : InnerR info rhs' p ts' res) : InnerR info rhs p (.op r :: ts) res := by
  obtain ⟨f1, h1⟩ := h1
  obtain ⟨f2, h2⟩ := h2
  refine ⟨max f1 f2 + 1, ?_⟩
  rw [climbInner_go info hi ha, climbRec_mono info (Nat.le_max_left f1 f2) h1]
  exact climbInner_mono info (Nat.le_max_right f1 f2) h2

theorem innerR_stop {t : Tree α} {p : Nat} {X : List (Item α)} (h : StopInner info p X) : InnerR info t p X (t, X) :=
  ⟨1, climbInner_stop info h⟩

theorem recR_stop {t : Tree α} {m : Nat} {X : List (Item α)} (h : StopOuter info m X) : RecR info t m X (t, X) :=
  ⟨1, climbRec_stop info h⟩

theorem innerR_inv {t : Tree α} {p q : Nat} {b : Assoc} {r : String} {ts res}
    (h : InnerR info t p (.op r :: ts) res) (hi : info r = some (q, b)) (ha : absorbs p q b = true) :
    ∃ res2, RecR info t q (.op r :: ts) res2 ∧ InnerR info res2.1 p res2.2 res := by
  obtain ⟨f, h⟩ := h
  cases f with
  | zero => simp [climbInner_zero] at h
  | succ f =>
    rw [climbInner_go info hi ha] at h
    obtain ⟨y, hy, hy2⟩ := Option.bind_eq_some_iff.mp h
    exact ⟨y, ⟨f, hy⟩, ⟨f, hy2⟩⟩

/-- the head of `X` is not taken by any operator on the right spine of the tree -/
def RS : Tree α → List (Item α) → Prop
  | .leaf _, _ => True
  | .node s _ rt, X => (∀ q b, info s = some (q, b) → StopInner info q X) ∧ RS rt X

def LeftAbs (p : Nat) : Tree α → Prop
  | .leaf _ => True
  | .node s l _ => (∃ q b, info s = some (q, b) ∧ absorbs p q b = true) ∧ LeftAbs p l

def LeftGe (m : Nat) : Tree α → Prop
  | .leaf _ => True
  | .node s l _ => (∃ q b, info s = some (q, b) ∧ q ≥ m) ∧ LeftGe m l

theorem shaped_rs {t : Tree α} {r : String} {p : Nat} {a : Assoc} (X : List (Item α)) (hi : info r = some (p, a))
    (hs : Shaped info t) (h : ∀ s q b, rootRule t = some s → info s = some (q, b) → absorbs q p a = false) :
    RS info t (.op r :: X) := by
  induction t with
  | leaf c => trivial
  | node s l rt _ ihr =>
    obtain ⟨q, b, his, _, hsr, _, hright⟩ := hs
    refine ⟨?_, ihr hsr ?_⟩
    · intro q' b' his' r' p' a' hh hi'
      cases hh
      rw [hi] at hi'; cases hi'
      exact h s q' b' rfl his'
    · intro s2 q2 b2 hroot hi2
      obtain ⟨q2', b2', hi2', hab⟩ := hright s2 hroot
      rw [hi2] at hi2'; cases hi2'
      have h0 := h s q b rfl his
      rw [absorbs_false_iff] at h0 ⊢
      rw [absorbs_true_iff] at hab
      refine ⟨by omega, fun e => ?_⟩
      rcases hab with hgt | ⟨e1, _⟩
      · exfalso; omega
      · exact h0.2 (by omega)

theorem leftAbs_of_root {t : Tree α} {p : Nat} (hs : Shaped info t) (h : RootAbs info p t) : LeftAbs info p t := by
  induction t with
  | leaf c => trivial
  | node s l rt ihl _ =>
    obtain ⟨q, b, his, hsl, _, hleft, _⟩ := hs
    obtain ⟨q', b', his', hab⟩ := h s rfl
    rw [his] at his'; cases his'
    refine ⟨⟨q, b, his, hab⟩, ihl hsl ?_⟩
    intro s2 hroot
    cases l with
    | leaf c => cases hroot
    | node s2' l2 r2 =>
      cases hroot
      obtain ⟨q2, b2, hi2, _⟩ := hsl
      refine ⟨q2, b2, hi2, ?_⟩
      have h0 := (absorbs_false_iff ..).mp (hleft _ q2 b2 rfl hi2)
      exact absorbs_mono hab h0.1 fun e hr => by have := h0.2 e.symm; rw [hr] at this; cases this

theorem rs_nil (t : Tree α) : RS info t [] := by
  induction t with
  | leaf c => trivial
  | node s l rt _ ihr => exact ⟨fun _ _ _ _ _ _ h => (nomatch h), ihr⟩

theorem leftGe_zero {t : Tree α} (hs : Shaped info t) : LeftGe info 0 t := by
  induction t with
  | leaf c => trivial
  | node s l rt ihl _ =>
    obtain ⟨q, b, his, hsl, _, _, _⟩ := hs
    exact ⟨⟨q, b, his, Nat.zero_le _⟩, ihl hsl⟩

/-- Completeness by prefix absorption, by induction on a tree `t` that obeys the table: whatever either loop
answers when started from `t` over `X`, it answers when started from the leftmost primary of `t` over
`tailOf t ++ X` — it first rebuilds `t`.  For the inner loop at `p` this needs every operator on the left spine of
`t` to be one that loop takes (`LeftAbs`), for the outer loop at `m` that they have precedence `≥ m` (`LeftGe`), and
in both cases that no operator on the right spine of `t` takes the head of `X` (`RS`). -/
theorem climb_complete_aux (hu : Uniform info) (t : Tree α) (hs : Shaped info t) :
    (∀ p X res, LeftAbs info p t → RS info t X → InnerR info t p X res →
        InnerR info (.leaf (leftmost t)) p (tailOf t ++ X) res) ∧
    (∀ m X res, LeftGe info m t → RS info t X → RecR info t m X res →
        RecR info (.leaf (leftmost t)) m (tailOf t ++ X) res) := by
  induction t with
  | leaf c => exact ⟨fun p X res _ _ h => by simpa [tailOf, leftmost] using h, fun m X res _ _ h => by simpa [tailOf, leftmost] using h⟩
  | node s l rt ihl ihr =>
    have hs' := hs
    obtain ⟨q, b, hi, hsl, hsr, hleft, hright⟩ := hs'
    -- the right operand, once its first primary is read, is completed by the inner loop at level q
    have hI : ∀ X, RS info (.node s l rt) X → InnerR info (.leaf (leftmost rt)) q (tailOf rt ++ X) (rt, X) :=
      fun X hRS => (ihr hsr).1 q X (rt, X) (leftAbs_of_root info hsr hright) hRS.2 (innerR_stop info (hRS.1 q b hi))
    have hlist : ∀ X, tailOf (.node s l rt) ++ X = tailOf l ++ (.op s :: .prim (leftmost rt) :: (tailOf rt ++ X)) := by
      intro X; simp [tailOf, inorder_eq rt]
    refine ⟨?_, ?_⟩
    · intro p X res hLA hRS hInner
      obtain ⟨⟨q', b', hi', ha⟩, hLAl⟩ := hLA
      rw [hi] at hi'; cases hi'
      have hstq := hRS.1 q b hi
      rw [hlist, leftmost]
      apply (ihl hsl).1 p _ res hLAl (shaped_rs info _ hi hsl hleft)
      -- what the level-q call makes of `node s l rt` and X, and how the inner loop at level p goes on
      have claim : ∃ res1, RecR info (.node s l rt) q X res1 ∧ InnerR info res1.1 p res1.2 res := by
        rcases stopOuter_or info q X with hst | ⟨r', X', p', a', rfl, hi', hge⟩
        · exact ⟨_, recR_stop info hst, hInner⟩
        · -- an operator of the same level follows: it is left-associative, so the level-`p` loop has taken it
          have h0 := (absorbs_false_iff ..).mp (hstq r' p' a' rfl hi')
          obtain rfl : p' = q := by omega
          have ha' := h0.2 rfl
          rcases (absorbs_true_iff ..).mp ha with hgt | ⟨_, hb⟩
          · exact innerR_inv info hInner hi' ((absorbs_true_iff ..).mpr (Or.inl hgt))
          · have := hu s r' p' b a' hi hi'
            rw [hb, ha'] at this; cases this
      obtain ⟨res1, hrec, hinn⟩ := claim
      exact innerR_step info hi ha (recR_step info hi (Nat.le_refl _) (hI X hRS) hrec) hinn
    · intro m X res hGe hRS hRec
      obtain ⟨⟨q', b', hi', hge⟩, hGel⟩ := hGe
      rw [hi] at hi'; cases hi'
      rw [hlist, leftmost]
      apply (ihl hsl).2 m _ res hGel (shaped_rs info _ hi hsl hleft)
      exact recR_step info hi hge (hI X hRS) hRec

theorem alt_append {xs ys : List (Item α)} (hx : Alt info xs) (hy : Alt info ys) : Alt info (xs ++ ys) := by
  induction hx with
  | nil => simpa using hy
  | cons r a ts hk _ ih => exact Alt.cons r a _ hk ih

theorem alt_tail {t : Tree α} (hs : Shaped info t) : Alt info (tailOf t) := by
  induction t with
  | leaf c => exact Alt.nil
  | node s l rt ihl ihr =>
    obtain ⟨q, b, hi, hsl, hsr, _, _⟩ := hs
    simp only [tailOf, inorder_eq rt]
    exact alt_append info (ihl hsl) (Alt.cons s _ _ (by simp [hi]) (ihr hsr))

theorem climb_complete (hu : Uniform info) (t : Tree α) (hs : Shaped info t) : climb info (inorder t) = some t := by
  rw [inorder_eq]
  -- `climb` runs with fuel `length + 2`, where `climb_total_aux` gives some answer; `climb_complete_aux` gives
  -- the answer `t` at some fuel `f`: at the larger of the two fuels the answers coincide
  obtain ⟨t', rest, e, _, _, _⟩ := (climb_total_aux info ((tailOf t).length + 2)).1 (.leaf (leftmost t)) 0 (tailOf t)
    (alt_tail info hs) (by omega)
  have hL := (climb_complete_aux info hu t hs).2 0 [] (t, []) (leftGe_zero info hs) (rs_nil info t)
    (recR_stop info fun _ _ _ h => nomatch h)
  obtain ⟨f, hf⟩ := hL
  simp only [List.append_nil] at hf
  have e1 := climbRec_mono info (Nat.le_max_left f ((tailOf t).length + 2)) hf
  have e2 := climbRec_mono info (Nat.le_max_right f ((tailOf t).length + 2)) e
  rw [e1] at e2
  cases e2
  simp [climb, e]

end

theorem findInLevel_mem {r : String} {lvl : List (String × Assoc)} {a : Assoc} (h : findInLevel r lvl = some a) :
    (r, a) ∈ lvl := by
  induction lvl with
  | nil => simp [findInLevel] at h
  | cons x rest ih =>
    obtain ⟨r', a'⟩ := x
    simp only [findInLevel] at h
    by_cases e : r = r'
    · simp [e] at h; subst h; subst e; simp
    · simp [e] at h; exact List.mem_cons_of_mem _ (ih h)

theorem infoIn_cons {r : String} {p q : Nat} {a : Assoc} {lvl : List (String × Assoc)} {rest}
    (h : infoIn r p (lvl :: rest) = some (q, a)) :
    (q = p ∧ (r, a) ∈ lvl) ∨ infoIn r (p + 1) rest = some (q, a) := by
  simp only [infoIn] at h
  cases hf : findInLevel r lvl with
  | some a' => rw [hf] at h; cases h; exact Or.inl ⟨rfl, findInLevel_mem hf⟩
  | none => rw [hf] at h; exact Or.inr h

theorem infoIn_ge {r : String} {L : List (List (String × Assoc))} : ∀ {p q : Nat} {a : Assoc},
    infoIn r p L = some (q, a) → q ≥ p := by
  induction L with
  | nil => intro p q a h; cases h
  | cons lvl rest ih =>
    intro p q a h
    rcases infoIn_cons h with ⟨rfl, _⟩ | h
    · exact Nat.le_refl _
    · exact Nat.le_of_succ_le (ih h)

theorem infoIn_uniform {L : List (List (String × Assoc))}
    (hL : ∀ lvl ∈ L, ∀ x ∈ lvl, ∀ y ∈ lvl, x.2 = y.2) :
    ∀ {r1 r2 : String} {p q : Nat} {a1 a2 : Assoc},
      infoIn r1 p L = some (q, a1) → infoIn r2 p L = some (q, a2) → a1 = a2 := by
  induction L with
  | nil => intro r1 r2 p q a1 a2 h; cases h
  | cons lvl rest ih =>
    intro r1 r2 p q a1 a2 h1 h2
    -- an entry of this level has precedence `p`, one of a later level more
    rcases infoIn_cons h1 with ⟨e1, m1⟩ | h1
    · rcases infoIn_cons h2 with ⟨_, m2⟩ | h2
      · exact hL lvl (by simp) _ m1 _ m2
      · have := infoIn_ge h2; omega
    · rcases infoIn_cons h2 with ⟨e2, _⟩ | h2
      · have := infoIn_ge h1; omega
      · exact ih (fun lvl hl => hL lvl (List.mem_cons_of_mem _ hl)) h1 h2

theorem climberLevels_uniform : ∀ lvl ∈ climberLevels, ∀ x ∈ lvl, ∀ y ∈ lvl, x.2 = y.2 := by decide +kernel

/-- for the table of parser.rs (a closed fact about the generated table) -/
theorem climberInfo_uniform : Uniform climberInfo :=
  fun _ _ _ _ _ h1 h2 => infoIn_uniform climberLevels_uniform h1 h2

end XrayModel.Syntax
