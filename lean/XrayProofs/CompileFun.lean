/-
compile_correct with top-level function declarations whose bodies use only their own parameters and natives (no
captures, no recursion, no optional parameters, no local declarations), called by name: the run-time simulation.

`WF C e`: at every name `e` mentions the named frame and the activation agree (`RelAt`): a function-free value in the
variable's cell, or a closure `clos f [] envc` with `FunOK` and the template `tmplOf k f` in the function's cell.  `SimF`:
the simulation of CompileSim.lean under this hypothesis, with calls of such functions (`callUser`, the trampoline,
`initFrame`/`runParams`/`runDecls`).
-/
import XrayProofs.CompileSim
import XrayProofs.Closure
namespace XrayModel.CellRun
open XrayModel.Scope

/-- the variables of a fresh function scope (`add_parameter` in order: the latest first) -/
def paramVarsFrom : List String → Nat → List (String × Nat) → List (String × Nat)
  | [], _, acc => acc
  | p :: rest, i, acc => paramVarsFrom rest (i + 1) ((p, i) :: acc)

def paramVars (ps : List String) : List (String × Nat) := paramVarsFrom ps 0 []

def paramDecls : Nat → Nat → List CDecl
  | _, 0 => []
  | i, m + 1 => .param i i :: paramDecls (i + 1) m

/-- the template of a top-level function without captures, defaults and local declarations, declared in cell `k` -/
def tmplOf (k : Nat) (f : Core.Func) : Tmpl :=
  .mk [k] (some []) (List.replicate f.params.length .uninit ++ [.localRec]) (paramDecls 0 f.params.length)
    f.params.length [] (some (cxf (paramVars (f.params.map Core.Param.name)) [] f.body))

/-! the body of such a function: only its parameters as variables, only unbound names (natives) as callees -/
mutual
  def BodyOK (ps : List String) (x : String) (envc : List (String × Core.Val)) : Core.Expr → Prop
    | .int _ => True
    | .bool _ => True
    | .str _ => True
    | .var y => y ∈ ps
    | .call g args => g ∉ ps ∧ g ≠ x ∧ Core.lookup g envc = none ∧ BodyOKs ps x envc args
    | .tup es => BodyOKs ps x envc es
    | .arr es => BodyOKs ps x envc es
    | .item e _ => BodyOK ps x envc e
    | .callE _ _ => False
    | .lam _ => False
  def BodyOKs (ps : List String) (x : String) (envc : List (String × Core.Val)) : List Core.Expr → Prop
    | [] => True
    | e :: rest => BodyOK ps x envc e ∧ BodyOKs ps x envc rest
end

def FunOK (x : String) (f : Core.Func) (envc : List (String × Core.Val)) : Prop :=
  f.name = some x ∧ f.decls = [] ∧ (∀ p ∈ f.params, p.dflt = none) ∧ x ∉ f.params.map Core.Param.name ∧
  BodyOK (f.params.map Core.Param.name) x envc f.body

structure Ctx where
  fr : Core.Frame
  vars : List (String × Nat)
  funs : List (String × Nat)
  rfr : RFrame

def RelAt (C : Ctx) (x : String) : Prop :=
  (∀ n c, C.fr.self = some (n, c) → n ≠ x) ∧
  match Core.lookup x C.fr.env with
  | some v =>
    (closFree v = true ∧ ∃ k, Scope.lookup x C.vars = some k ∧ C.rfr.cells[k]? = some (.owned (.value (ofCore v)))) ∨
    (∃ f envc k, v = .clos f [] envc ∧ FunOK x f envc ∧ Scope.lookup x C.vars = none ∧
      Scope.lookup x C.funs = some k ∧ C.rfr.cells[k]? = some (.owned (.value (.fn (tmplOf k f)))))
  | none => Scope.lookup x C.vars = none ∧ Scope.lookup x C.funs = none

def VarAt (C : Ctx) (x : String) : Prop := ∀ v, Core.lookup x C.fr.env = some v → closFree v = true

def ArityAt (C : Ctx) (f : String) (n : Nat) : Prop :=
  ∀ fc ds envc, Core.lookup f C.fr.env = some (.clos fc ds envc) → fc.params.length = n

mutual
  def WF (C : Ctx) : Core.Expr → Prop
    | .int _ => True
    | .bool _ => True
    | .str _ => True
    | .var x => VarAt C x ∧ RelAt C x
    | .call f args => RelAt C f ∧ ArityAt C f args.length ∧ C.rfr.height = C.fr.height ∧ WFs C args
    | .tup es => WFs C es
    | .arr es => WFs C es
    | .item e _ => WF C e
    | .callE _ _ => False
    | .lam _ => False
  def WFs (C : Ctx) : List Core.Expr → Prop
    | [] => True
    | e :: rest => WF C e ∧ WFs C rest
end

def SimF (cfg : Core.Cfg) (n : Nat) : Prop :=
  (∀ e (C : Ctx) tail st, WF C e →
    eval n cfg C.rfr (cxf C.vars C.funs e) tail st = (cr (Core.eval n cfg C.fr e tail st).1, (Core.eval n cfg C.fr e tail st).2) ∧
    Good (Core.eval n cfg C.fr e tail st).1) ∧
  (∀ es (C : Ctx) st, WFs C es →
    evalList n cfg C.rfr (cxfs C.vars C.funs es) st = (crl (Core.evalList n cfg C.fr es st).1, (Core.evalList n cfg C.fr es st).2) ∧
    GoodL (Core.evalList n cfg C.fr es st).1) ∧
  (∀ f args (C : Ctx) tail st, WFs C args →
    builtin n cfg C.rfr f (cxfs C.vars C.funs args) tail st = (cr (Core.builtin n cfg C.fr f args tail st).1, (Core.builtin n cfg C.fr f args tail st).2) ∧
    Good (Core.builtin n cfg C.fr f args tail st).1) ∧
  (∀ x f envc k (args : List Core.Val) (caller : RFrame) (h : Nat) st, FunOK x f envc → (∀ a ∈ args, closFree a = true) →
    args.length = f.params.length → caller.height = h →
    callUser n cfg caller (tmplOf k f) (args.map ofCore) st
      = (cr (Core.callUser n cfg h (.clos f [] envc) args st).1, (Core.callUser n cfg h (.clos f [] envc) args st).2) ∧
    Good (Core.callUser n cfg h (.clos f [] envc) args st).1)

theorem simF_zero (cfg : Core.Cfg) : SimF cfg 0 := by
  refine ⟨?_, ?_, ?_, ?_⟩
  · intro e C tail st _; simp [eval, Core.eval, cr, Good]
  · intro es C st _; simp [evalList, Core.evalList, crl, cr, GoodL, Good]
  · intro f args C tail st _; simp [builtin, Core.builtin, cr, Good]
  · intro x f envc k args caller h st _ _ _ _; simp [callUser, Core.callUser, cr, Good]

theorem cxfs_eq_map (vars funs : List (String × Nat)) (es : List Core.Expr) :
    cxfs vars funs es = es.map (cxf vars funs) := by
  induction es with
  | nil => rfl
  | cons e rest ih => simp [cxfs, ih]

theorem WFs_mem {C : Ctx} {es : List Core.Expr} (h : WFs C es) : ∀ e ∈ es, WF C e := by
  induction es with
  | nil => simp
  | cons e rest ih =>
    simp only [WFs] at h
    simpa [h.1] using ih h.2

theorem simF_list (cfg : Core.Cfg) (n : Nat) (h1 : SimF cfg n) :
    ∀ es (C : Ctx) st, WFs C es →
    evalList (n + 1) cfg C.rfr (cxfs C.vars C.funs es) st = (crl (Core.evalList (n + 1) cfg C.fr es st).1, (Core.evalList (n + 1) cfg C.fr es st).2) ∧
    GoodL (Core.evalList (n + 1) cfg C.fr es st).1 := by
  intro es C st hw
  refine (?_ : SimulatesL cfg (n + 1) C.fr C.rfr es (cxfs C.vars C.funs es)) st
  cases es with
  | nil => exact simulatesL_nil
  | cons e rest =>
    simp only [WFs] at hw
    exact simulatesL_cons (fun tail st => h1.1 e C tail st hw.1) (fun st => h1.2.1 rest C st hw.2)

theorem simulates_call_fun (cfg : Core.Cfg) (n : Nat) (hprev : ∀ m, m < n → SimF cfg m) (C : Ctx) (f : String)
    (args : List Core.Expr) (fc : Core.Func) (envc : List (String × Core.Val)) (k : Nat)
    (hs : ∀ s c, C.fr.self = some (s, c) → s ≠ f) (hl : Core.lookup f C.fr.env = some (.clos fc [] envc))
    (hfun : FunOK f fc envc) (hc : C.rfr.cells[k]? = some (.owned (.value (.fn (tmplOf k fc)))))
    (har : fc.params.length = args.length) (hh : C.rfr.height = C.fr.height) (hargs : WFs C args) :
    Simulates cfg (n + 1) C.fr C.rfr (.call f args) (.call (.val k) (cxfs C.vars C.funs args)) := by
  intro tail st
  have hg := getCell_owned C.rfr k _ hc
  rw [Core.eval_call_named n cfg C.fr f args tail st hs]
  simp only [Agree, eval, hg, Bool.false_and, Bool.false_eq_true, if_false]
  cases n with
  | zero => simp [callCell, Core.callNamed, cr, Good]
  | succ m =>
    simp only [callCell, hg, readValue, Core.callNamed, Core.frame_get_avoid C.fr f hs, hl]
    cases m with
    | zero => simp [callVal, Core.callVal, cr, Good]
    | succ g =>
      have hsg := hprev g (by omega)
      obtain ⟨hel, hgl⟩ := hsg.2.1 args C st hargs
      simp only [callVal, Core.callVal, hel]
      cases hrl : Core.evalList g cfg C.fr args st with
      | mk rl st2 =>
        rw [hrl] at hgl
        cases rl with
        | ok vs =>
          simp only [GoodL] at hgl
          have hlen : vs.length = fc.params.length := by
            rw [Core.evalList_length cfg C.fr g args st st2 vs hrl, har]
          exact hsg.2.2.2 f fc envc k vs C.rfr C.fr.height st2 hfun hgl hlen hh
        | error r => simpa [crl, GoodL] using hgl

/-- `hprev` is used one unit of fuel down for a native (as in `sim_succ`) and two units down for the arguments and the
`callUser` of a call of a function -/
theorem simF_eval (cfg : Core.Cfg) (n : Nat) (hn : SimF cfg n) (hprev : ∀ m, m < n → SimF cfg m) :
    ∀ e (C : Ctx) tail st, WF C e →
    eval (n + 1) cfg C.rfr (cxf C.vars C.funs e) tail st = (cr (Core.eval (n + 1) cfg C.fr e tail st).1, (Core.eval (n + 1) cfg C.fr e tail st).2) ∧
    Good (Core.eval (n + 1) cfg C.fr e tail st).1 := by
  intro e C tail st hw
  refine (?_ : Simulates cfg (n + 1) C.fr C.rfr e (cxf C.vars C.funs e)) tail st
  cases e with
  | int v | bool v | str v => intro tail st; simp [Agree, cxf, eval, Core.eval, cr, litVal, ofCore, Good, closFree]
  | callE f args | lam f => simp [WF] at hw
  | var x =>
    simp only [WF] at hw
    obtain ⟨hva, hav, hx⟩ := hw
    cases hl : Core.lookup x C.fr.env with
    | none =>
      rw [hl] at hx
      simp only [cxf, hx.1, hx.2]
      exact simulates_var_unbound (by rw [Core.frame_get_avoid C.fr x hav, hl])
    | some v =>
      rw [hl] at hx
      have hcf := hva v hl
      rcases hx with ⟨-, k, hk, hc⟩ | ⟨f, envc, k, rfl, -⟩
      · simp only [cxf, hk]
        exact simulates_var_cell (by rw [Core.frame_get_avoid C.fr x hav, hl]) hcf hc
      · simp [closFree] at hcf
  | tup es => exact simulates_tup fun st => hn.2.1 es C st hw
  | arr es => exact simulates_arr fun st => hn.2.1 es C st hw
  | item e i => exact simulates_item (fun tail st => hn.1 e C tail st hw) i
  | call f args =>
    simp only [WF] at hw
    obtain ⟨⟨hav, hf⟩, har, hh, hargs⟩ := hw
    cases hl : Core.lookup f C.fr.env with
    | none =>
      rw [hl] at hf
      simp only [cxf, hf.1, hf.2]
      exact simulates_call_unbound hav hl fun m hm tail st => (hprev m (by omega)).2.2.1 f args C tail st hargs
    | some v =>
      rw [hl] at hf
      rcases hf with ⟨hcf, k, hk, hc⟩ | ⟨fc, envc, k, rfl, hfun, hvn, hfk, hc⟩
      · simp only [cxf, hk]
        exact simulates_call_value hav hl hcf hc args _
      · simp only [cxf, hvn, hfk]
        exact simulates_call_fun cfg n hprev C f args fc envc k hav hl hfun hc (har fc [] envc hl) hh hargs

theorem simF_builtin (cfg : Core.Cfg) (n : Nat) (hn : SimF cfg n) :
    ∀ f args (C : Ctx) tail st, WFs C args →
    builtin (n + 1) cfg C.rfr f (cxfs C.vars C.funs args) tail st = (cr (Core.builtin (n + 1) cfg C.fr f args tail st).1, (Core.builtin (n + 1) cfg C.fr f args tail st).2) ∧
    Good (Core.builtin (n + 1) cfg C.fr f args tail st).1 := by
  intro f args C tail st hargs
  rw [cxfs_eq_map]
  exact agree_builtin (cxf C.vars C.funs) f args (fun e he tail st => hn.1 e C tail st (WFs_mem hargs e he))
    (fun st => cxfs_eq_map C.vars C.funs args ▸ hn.2.1 args C st hargs) tail st

/-- the bindings `Core.bindParams` makes of parameters without defaults (`bindFrom_eq`), with an accumulator so that it
runs in step with `paramVarsFrom` -/
def bindFrom : List String → List Core.Val → List (String × Core.Val) → List (String × Core.Val)
  | p :: rest, a :: as, acc => bindFrom rest as ((p, a) :: acc)
  | _, _, acc => acc

theorem bindFrom_eq (names : List String) (args : List Core.Val) (acc : List (String × Core.Val)) :
    bindFrom names args acc = (List.zip names args).reverse ++ acc := by
  induction names generalizing args acc with
  | nil => simp [bindFrom]
  | cons p rest ih =>
    cases args with
    | nil => simp [bindFrom]
    | cons a as => simp [bindFrom, ih]

/-- `bindFrom` and `paramVarsFrom` in step: a name bound in the environment is a variable whose position in `allArgs`
holds its value -/
theorem bind_inv (allArgs : List Core.Val) : ∀ (names : List String) (args : List Core.Val) (i : Nat)
    (accE : List (String × Core.Val)) (accV : List (String × Nat)),
    names.length = args.length → args = allArgs.drop i →
    (∀ y, match Core.lookup y accE with
          | some a => ∃ j, Scope.lookup y accV = some j ∧ allArgs[j]? = some a
          | none => Scope.lookup y accV = none) →
    ∀ y, match Core.lookup y (bindFrom names args accE) with
          | some a => ∃ j, Scope.lookup y (paramVarsFrom names i accV) = some j ∧ allArgs[j]? = some a
          | none => Scope.lookup y (paramVarsFrom names i accV) = none := by
  intro names
  induction names with
  | nil => intro args i accE accV _ _ inv y; simpa [bindFrom, paramVarsFrom] using inv y
  | cons p rest ih =>
    intro args i accE accV hlen hargs inv
    cases args with
    | nil => simp at hlen
    | cons a as =>
      simp only [bindFrom, paramVarsFrom]
      have hi : allArgs[i]? = some a := by
        have : (allArgs.drop i)[0]? = some a := by rw [← hargs]; rfl
        simpa using this
      have has : as = allArgs.drop (i + 1) := by
        have : (allArgs.drop i).drop 1 = as := by rw [← hargs]; rfl
        rw [← this, List.drop_drop]
      apply ih as (i + 1) ((p, a) :: accE) ((p, i) :: accV) (by simpa using hlen) has
      intro y
      simp only [Core.lookup, Scope.lookup]
      by_cases hy : y = p
      · simp only [hy, if_true]; exact ⟨i, rfl, hi⟩
      · simp only [hy, if_false]; exact inv y

theorem lookup_bindFrom_notin (g : String) : ∀ (names : List String) (args : List Core.Val) (acc : List (String × Core.Val)),
    g ∉ names → Core.lookup g (bindFrom names args acc) = Core.lookup g acc := by
  intro names
  induction names with
  | nil => intro args acc _; simp [bindFrom]
  | cons p rest ih =>
    intro args acc hg
    simp only [List.mem_cons, not_or] at hg
    cases args with
    | nil => simp [bindFrom]
    | cons a as =>
      simp only [bindFrom]
      rw [ih as _ hg.2]
      simp [Core.lookup, hg.1]

theorem lookup_paramVarsFrom_notin (g : String) : ∀ (names : List String) (i : Nat) (acc : List (String × Nat)),
    g ∉ names → Scope.lookup g (paramVarsFrom names i acc) = Scope.lookup g acc := by
  intro names
  induction names with
  | nil => intro i acc _; simp [paramVarsFrom]
  | cons p rest ih =>
    intro i acc hg
    simp only [List.mem_cons, not_or] at hg
    simp only [paramVarsFrom]
    rw [ih _ _ hg.2]
    simp [Scope.lookup, hg.1]

theorem bindParams_nodflt : ∀ (ps : List Core.Param) (args : List Core.Val), (∀ p ∈ ps, p.dflt = none) →
    args.length = ps.length → Core.bindParams ps args [] = some (List.zip (ps.map Core.Param.name) args) := by
  intro ps
  induction ps with
  | nil => intro args _ hl; cases args <;> simp_all [Core.bindParams]
  | cons p rest ih =>
    intro args hd hl
    cases args with
    | nil => simp at hl
    | cons a as =>
      have hp : p.dflt = none := hd p (by simp)
      simp only [Core.bindParams, hp, List.map_cons, List.zip_cons_cons]
      rw [ih as (fun q hq => hd q (by simp [hq])) (by simpa using hl)]
      rfl

theorem firstErr_map (vs : List Core.Val) (h : ∀ v ∈ vs, closFree v = true) :
    firstErr (vs.map ofCore) = (Core.firstErr vs).map ofCore := by
  induction vs with
  | nil => rfl
  | cons v rest ih =>
    have hv := h v (by simp)
    simp only [List.map_cons, firstErr, Core.firstErr, ofCore_isErr v hv]
    split
    · rfl
    · exact ih (fun w hw => h w (by simp [hw]))

theorem runParams_fill : ∀ (m i : Nat) (fr : RFrame) (args : List CVal), i + m ≤ args.length →
    (∀ j, i ≤ j → j < i + m → fr.cells[j]? = some (.owned .uninit)) →
    ∃ fr1, runParams fr (paramDecls i m) args = .ok (fr1, []) ∧ fr1.height = fr.height ∧ fr1.tmpl = fr.tmpl ∧
      (∀ j, i ≤ j → j < i + m → ∃ a, args[j]? = some a ∧ fr1.cells[j]? = some (.owned (.value a))) ∧
      (∀ j, (j < i ∨ i + m ≤ j) → fr1.cells[j]? = fr.cells[j]?) := by
  intro m
  induction m with
  | zero =>
    intro i fr args _ _
    refine ⟨fr, by simp [paramDecls, runParams], rfl, rfl, ?_, ?_⟩
    · intro j h1 h2; omega
    · intro j _; rfl
  | succ k ih =>
    intro i fr args hlen hun
    obtain ⟨cells0, h0, sp0, t0⟩ := fr
    simp only [RFrame.cells] at hun
    have hi : i < args.length := by omega
    have hai : args[i]? = some args[i] := by simp [hi]
    have hci := hun i (Nat.le_refl _) (by omega)
    have hilt : i < cells0.length := (List.getElem?_eq_some_iff.mp hci).1
    obtain ⟨fr1, hrun, hh, ht, hfill, hkeep⟩ := ih (i + 1)
      (.mk (cells0.set i (.owned (.value args[i]))) h0 sp0 t0) args (by omega)
      (by intro j h1 h2
          simp only [RFrame.cells]
          rw [List.getElem?_set_ne (by omega)]
          exact hun j (by omega) (by omega))
    refine ⟨fr1, ?_, hh, ht, ?_, ?_⟩
    · simp only [paramDecls, runParams, hai, RFrame.put, putCell, RFrame.cells, hci]
      exact hrun
    · intro j h1 h2
      rcases Nat.lt_or_ge i j with hlt | hge
      · exact hfill j (by omega) (by omega)
      · have : j = i := by omega
        subst this
        refine ⟨args[j], hai, ?_⟩
        rw [hkeep j (Or.inl (Nat.lt_succ_self j))]
        simp [RFrame.cells, hilt]
    · intro j hj
      rw [hkeep j (by omega)]
      simp only [RFrame.cells]
      rw [List.getElem?_set_ne (by omega)]

theorem initCells_replicate_append : ∀ (n i : Nat) (tl : List ECell),
    initCells (List.replicate n ECell.uninit ++ tl) i = List.replicate n (TCell.owned .uninit) ++ initCells tl (i + n) := by
  intro n
  induction n with
  | zero => intro i tl; simp
  | succ m ih =>
    intro i tl
    simp only [List.replicate_succ, List.cons_append, initCells, ih (i + 1) tl]
    have : i + 1 + m = i + (m + 1) := by omega
    rw [this]

theorem lookup_bindFrom_mem (y : String) : ∀ (names : List String) (args : List Core.Val) (acc : List (String × Core.Val)),
    y ∈ names → names.length = args.length → ∃ a, Core.lookup y (bindFrom names args acc) = some a := by
  intro names
  induction names with
  | nil => intro args acc h; simp at h
  | cons p rest ih =>
    intro args acc hy hl
    cases args with
    | nil => simp at hl
    | cons a as =>
      simp only [bindFrom]
      by_cases hr : y ∈ rest
      · exact ih as _ hr (by simpa using hl)
      · have : y = p := by simpa [hr] using hy
        subst this
        rw [lookup_bindFrom_notin y rest as _ hr]
        exact ⟨a, by simp [Core.lookup]⟩

theorem bodyOK_wf (C : Ctx) (ps : List String) (x : String) (envc : List (String × Core.Val))
    (hP : ∀ y, y ∈ ps → VarAt C y ∧ RelAt C y)
    (hU : ∀ g, g ∉ ps → g ≠ x → Core.lookup g envc = none → RelAt C g ∧ ∀ n, ArityAt C g n)
    (hH : C.rfr.height = C.fr.height) :
    (∀ e, BodyOK ps x envc e → WF C e) ∧ (∀ es, BodyOKs ps x envc es → WFs C es) := by
  apply expr_induct
  case var => exact hP
  case call =>
    intro g args ih h
    simp only [BodyOK] at h
    have hg := hU g h.1 h.2.1 h.2.2.1
    exact ⟨hg.1, hg.2 _, hH, ih h.2.2.2⟩
  all_goals intros; simp_all only [BodyOK, BodyOKs, WF, WFs, and_self]

theorem body_wf (C : Ctx) (ps : List String) (x : String) (envc : List (String × Core.Val))
    (hP : ∀ y, y ∈ ps → VarAt C y ∧ RelAt C y)
    (hU : ∀ g, g ∉ ps → g ≠ x → Core.lookup g envc = none → RelAt C g ∧ ∀ n, ArityAt C g n)
    (hH : C.rfr.height = C.fr.height) : (e : Core.Expr) → BodyOK ps x envc e → WF C e :=
  (bodyOK_wf C ps x envc hP hU hH).1

theorem body_wfs (C : Ctx) (ps : List String) (x : String) (envc : List (String × Core.Val))
    (hP : ∀ y, y ∈ ps → VarAt C y ∧ RelAt C y)
    (hU : ∀ g, g ∉ ps → g ≠ x → Core.lookup g envc = none → RelAt C g ∧ ∀ n, ArityAt C g n)
    (hH : C.rfr.height = C.fr.height) : (es : List Core.Expr) → BodyOKs ps x envc es → WFs C es :=
  (bodyOK_wf C ps x envc hP hU hH).2

def frame0 (caller : RFrame) (t : Tmpl) : RFrame :=
  .mk (initCells t.cells 0) (caller.height + 1)
    (match t.parentId with
     | none => none
     | some pid => findScopeParent (caller.height + 2) (some caller) pid) t

theorem initFrame_ok (cfg : Core.Cfg) (t : Tmpl) (caller : RFrame)
    (hd : ∀ l, cfg.depthLimit = some l → caller.height + 1 < l) :
    initFrame cfg t (some caller) = .ok (frame0 caller t) := by
  simp only [initFrame, frame0]
  cases hdl : cfg.depthLimit with
  | none => simp; rfl
  | some l => simp [Nat.not_le.mpr (hd l hdl)]; rfl

theorem wf_body (x : String) (f : Core.Func) (envc : List (String × Core.Val)) (args : List Core.Val) (c : Core.Val)
    (h : Nat) (fr1 : RFrame) (hfun : FunOK x f envc) (hcf : ∀ a ∈ args, closFree a = true)
    (hlen : args.length = f.params.length) (hh : fr1.height = h)
    (hcells : ∀ j, j < f.params.length → ∃ a, (args.map ofCore)[j]? = some a ∧ fr1.cells[j]? = some (.owned (.value a))) :
    WF ⟨{ env := ((f.params.map Core.Param.name).zip args).reverse ++ envc, self := some (x, c), height := h },
        paramVars (f.params.map Core.Param.name), [], fr1⟩ f.body := by
  obtain ⟨-, -, -, hxn, hbody⟩ := hfun
  have hnl : (f.params.map Core.Param.name).length = args.length := by simp [hlen]
  have henv : ∀ y, Core.lookup y (((f.params.map Core.Param.name).zip args).reverse ++ envc) =
      (Core.lookup y (bindFrom (f.params.map Core.Param.name) args [])).or (Core.lookup y envc) := by
    intro y
    rw [Core.lookup_append_or, bindFrom_eq, List.append_nil]
  refine body_wf _ _ x envc ?_ ?_ hh f.body hbody
  · intro y hy
    obtain ⟨a, ha⟩ := lookup_bindFrom_mem y _ args [] hy hnl
    have hinv := bind_inv args (f.params.map Core.Param.name) args 0 [] [] hnl (by simp)
      (by intro z; simp [Core.lookup, Scope.lookup]) y
    rw [ha] at hinv
    obtain ⟨j, hj1, hj2⟩ := hinv
    have hl := (henv y).trans (by rw [ha])
    have hamem : a ∈ args := List.mem_of_getElem? hj2
    obtain ⟨a', ha1, ha2⟩ := hcells j (hlen ▸ (List.getElem?_eq_some_iff.mp hj2).1)
    obtain rfl : a' = ofCore a := by
      rw [List.getElem?_map, hj2] at ha1
      simpa using ha1.symm
    refine ⟨?_, ?_, ?_⟩
    · intro v hv; cases hl.symm.trans hv; exact hcf a hamem
    · intro n c hs e
      cases hs
      exact hxn (e ▸ hy)
    · simp only [hl]
      exact Or.inl ⟨hcf a hamem, j, hj1, ha2⟩
  · intro g hg hgx hge
    have hl := (henv g).trans (by rw [lookup_bindFrom_notin g _ args [] hg, Core.lookup, hge])
    refine ⟨⟨?_, ?_⟩, ?_⟩
    · intro n c hs e
      cases hs
      exact hgx e.symm
    · simp only [hl]
      exact ⟨by simp [paramVars, lookup_paramVarsFrom_notin g _ 0 [] hg, Scope.lookup], by simp [Scope.lookup]⟩
    · intro n fc ds' envc' hc; cases hl.symm.trans hc

theorem simF_tramp (cfg : Core.Cfg) (n : Nat) (hprev : ∀ m, m < n → SimF cfg m)
    (x : String) (f : Core.Func) (envc : List (String × Core.Val)) (k : Nat) (args : List Core.Val) (caller : RFrame)
    (h : Nat) (r : Nat) (st : St) (hfun : FunOK x f envc) (hcf : ∀ a ∈ args, closFree a = true)
    (hlen : args.length = f.params.length) (hh : caller.height = h) :
    tramp n cfg caller (tmplOf k f) (args.map ofCore) r st
      = (cr (Core.tramp n cfg h (.clos f [] envc) args r st).1, (Core.tramp n cfg h (.clos f [] envc) args r st).2) ∧
    Good (Core.tramp n cfg h (.clos f [] envc) args r st).1 := by
  subst hh
  cases n with
  | zero => simp [tramp, Core.tramp, cr, Good]
  | succ j =>
    by_cases hv : ∃ l, cfg.depthLimit = some l ∧ caller.height + 1 ≥ l
    · obtain ⟨l, hdl, hge⟩ := hv
      simp [tramp, Core.tramp, initFrame, hdl, hge, cr, Good]
    · have hd : ∀ l, cfg.depthLimit = some l → caller.height + 1 < l :=
        fun l hl => Nat.lt_of_not_le fun h1 => hv ⟨l, hl, h1⟩
      rw [Core.tramp_frame j cfg caller.height f [] envc args r st _ (bindParams_nodflt f.params args hfun.2.2.1 hlen) hd]
      simp only [tramp, initFrame_ok cfg _ caller hd]
      obtain ⟨fr1, hrun, hh1, -, hcells, -⟩ :=
        runParams_fill f.params.length 0 (frame0 caller (tmplOf k f)) (args.map ofCore) (by simp [hlen])
          (by intro jj _ h2
              simp only [frame0, tmplOf, Tmpl.cells, RFrame.cells, initCells_replicate_append]
              rw [List.getElem?_append_left (by simpa using h2)]
              simp [List.getElem?_replicate]; omega)
      have hdecls' : (tmplOf k f).decls = paramDecls 0 f.params.length := rfl
      have hout : (tmplOf k f).out = some (cxf (paramVars (f.params.map Core.Param.name)) [] f.body) := rfl
      simp only [hdecls', hrun, hout, hfun.1, hfun.2.1]
      cases j with
      | zero => simp [runDecls, Core.evalDecls, cr, Good]
      | succ i =>
        simp only [runDecls, Core.evalDecls]
        have hwf := wf_body x f envc args (.clos f [] envc) (caller.height + 1) fr1 hfun hcf hlen hh1
          (fun j hj => hcells j (Nat.zero_le _) (by omega))
        obtain ⟨hev, hg⟩ := (hprev (i + 1) (by omega)).1 f.body _ true st hwf
        rw [hev]
        cases hr : Core.eval (i + 1) cfg _ f.body true st with
        | mk r0 s0 =>
          rw [hr] at hg
          cases r0 with
          | val v => simpa [cr, Good] using hg
          | tail a => simp [Good] at hg
          | _ => simp [cr, Good]

theorem simF_callUser (cfg : Core.Cfg) (n : Nat) (hprev : ∀ m, m ≤ n → SimF cfg m) :
    ∀ x f envc k (args : List Core.Val) (caller : RFrame) (h : Nat) st, FunOK x f envc → (∀ a ∈ args, closFree a = true) →
    args.length = f.params.length → caller.height = h →
    callUser (n + 1) cfg caller (tmplOf k f) (args.map ofCore) st
      = (cr (Core.callUser (n + 1) cfg h (.clos f [] envc) args st).1, (Core.callUser (n + 1) cfg h (.clos f [] envc) args st).2) ∧
    Good (Core.callUser (n + 1) cfg h (.clos f [] envc) args st).1 := by
  intro x f envc k args caller h st hfun hcf hlen hh
  simp only [callUser, Core.callUser, firstErr_map args hcf]
  cases hfe : Core.firstErr args with
  | some e => simp [cr, Good, hcf e (Core.firstErr_mem args e hfe)]
  | none =>
    simp only [Option.map_none]
    have ht := fun st' => simF_tramp cfg n (fun m hm => hprev m (Nat.le_of_lt hm)) x f envc k args caller h 0 st' hfun hcf hlen hh
    cases hcl : cfg.callLimit with
    | none => exact ht st
    | some l =>
      simp only []
      by_cases hge : st.calls + 1 ≥ l
      · simp [hge, cr, Good]
      · simp only [hge, if_false]
        exact ht _

theorem simF_all (cfg : Core.Cfg) (n : Nat) : SimF cfg n := by
  induction n using Nat.strongRecOn with
  | _ n ih =>
    cases n with
    | zero => exact simF_zero cfg
    | succ k =>
      have hk := ih k (Nat.lt_succ_self k)
      exact ⟨simF_eval cfg k hk (fun j hj => ih j (by omega)), simF_list cfg k hk, simF_builtin cfg k hk,
             simF_callUser cfg k (fun m hm => ih m (by omega))⟩

end XrayModel.CellRun
