/-
C20 helper lemmas for fractions: the generated `gcd` (Euclid with fuel) is total and equals `Int.gcd`;
`fraction n d` is the canonical representative of n/d.  These are the definitions the translator prints from
include.rs (`XrayGen`, Generated/StdInt.lean); C14's hand model of the same library functions (`Lib`,
XrayModel/IntLib.lean) has its own proofs in `XrayProofs/IntLib.lean`.
-/
import Generated.StdInt
namespace XrayModel.Conv
open XrayGen

theorem abs_eq (a : Int) : XrayGen.abs a = (a.natAbs : Int) := by
  unfold XrayGen.abs
  split <;> rename_i h <;> simp only [decide_eq_true_eq] at h <;> omega

theorem sign_eq (a : Int) : XrayGen.sign a = if 0 < a then 1 else if a < 0 then -1 else 0 := by
  unfold XrayGen.sign
  simp only [gt_iff_lt, decide_eq_true_eq]

theorem gcd_helper_spec : ∀ (fuel x y : Nat), x < fuel →
    gcd_helper fuel (x : Int) (y : Int) = (Nat.gcd x y : Int) ∧ gcd_helper_dom fuel (x : Int) (y : Int) = true := by
  intro fuel
  induction fuel with
  | zero => intro x y h; omega
  | succ f ih =>
    intro x y h
    unfold gcd_helper gcd_helper_dom
    by_cases hx : x = 0
    · subst hx
      simp
    · have hx' : ¬ ((x : Int) = 0) := by omega
      have hm : Int.fmod (y : Int) (x : Int) = ((y % x : Nat) : Int) := by
        rw [Int.fmod_eq_emod_of_nonneg _ (by omega), Int.natCast_emod]
      have hlt : y % x < f := by
        have := Nat.mod_lt y (Nat.pos_of_ne_zero hx); omega
      have := ih (y % x) x hlt
      simp only [hx', decide_false, Bool.false_eq_true, if_false, hm, this.1, this.2, ne_eq, not_false_eq_true,
        decide_true, Bool.and_self]
      exact ⟨by rw [Nat.gcd_rec x y], trivial⟩

theorem gcd_spec (a b : Int) : XrayGen.gcd a b = (Int.gcd a b : Int) := by
  unfold XrayGen.gcd
  simp only [abs_eq, Int.natAbs_natCast, decide_eq_true_eq]
  split
  · rw [(gcd_helper_spec _ _ _ (Nat.lt_succ_self _)).1]; rfl
  · rw [(gcd_helper_spec _ _ _ (Nat.lt_succ_self _)).1, Nat.gcd_comm]; rfl

theorem gcd_total (a b : Int) : gcd_dom a b = true := by
  unfold gcd_dom
  simp only [abs_eq, Int.natAbs_natCast, decide_eq_true_eq]
  split
  · exact (gcd_helper_spec _ _ _ (Nat.lt_succ_self _)).2
  · exact (gcd_helper_spec _ _ _ (Nat.lt_succ_self _)).2

def Canonical (f : Fraction) : Prop := 0 < f.d ∧ Int.gcd f.n f.d = 1

theorem fraction_pos_den (n d : Int) (hd : 0 < d) :
    fraction_dom n d = true ∧ Canonical (fraction n d) ∧ (fraction n d).n * d = n * (fraction n d).d := by
  have hg : 0 < Int.gcd n d := Int.gcd_pos_of_ne_zero_right n (by omega)
  have hs : XrayGen.sign d = 1 := by rw [sign_eq, if_pos hd]
  have ha : XrayGen.abs d = d := by rw [abs_eq]; omega
  have hdl := Int.gcd_dvd_left n d
  have hdr := Int.gcd_dvd_right n d
  have e : fraction n d = ⟨n / Int.gcd n d, d / Int.gcd n d⟩ := by
    simp only [fraction, gcd_spec, hs, ha, Int.mul_one, Int.fdiv_eq_ediv_of_nonneg _ (Int.natCast_nonneg _)]
  refine ⟨?_, ?_⟩
  · simp only [fraction_dom, gcd_total, gcd_spec, hs, Int.mul_one, Bool.true_and, Bool.and_self, decide_eq_true_eq]
    omega
  rw [e]
  refine ⟨⟨Int.ediv_pos_of_pos_of_dvd hd (by omega) hdr, ?_⟩, ?_⟩
  · rw [Int.gcd_ediv hdl hdr, Int.natAbs_natCast, Nat.div_self hg]
  · show n / Int.gcd n d * d = n * (d / Int.gcd n d)
    generalize (Int.gcd n d : Int) = g at hdl hdr ⊢
    conv => lhs; rw [← Int.mul_ediv_cancel' hdr]
    rw [← Int.mul_assoc, Int.ediv_mul_cancel hdl]

theorem fraction_neg_den (n d : Int) (hd : d < 0) :
    fraction n d = fraction (-n) (-d) ∧ fraction_dom n d = fraction_dom (-n) (-d) := by
  have hs : XrayGen.sign d = -1 := by rw [sign_eq, if_neg (by omega), if_pos hd]
  have hs' : XrayGen.sign (-d) = 1 := by rw [sign_eq, if_pos (by omega)]
  have ha : XrayGen.abs (-d) = XrayGen.abs d := by rw [abs_eq, abs_eq, Int.natAbs_neg]
  have hq : ∀ g : Int, n.fdiv (-g) = (-n).fdiv g := fun g => by rw [← Int.neg_fdiv_neg, Int.neg_neg]
  simp only [fraction, fraction_dom, gcd_spec, gcd_total, Int.neg_gcd, Int.gcd_neg, hs, hs', ha, hq, Int.mul_neg_one,
    Int.mul_one, Int.neg_ne_zero, and_self]

theorem fraction_spec (n d : Int) (hd : d ≠ 0) :
    fraction_dom n d = true ∧ Canonical (fraction n d) ∧ (fraction n d).n * d = n * (fraction n d).d := by
  rcases Int.lt_or_gt_of_ne hd with h | h
  · obtain ⟨e1, e2⟩ := fraction_neg_den n d h
    obtain ⟨h1, h2, h3⟩ := fraction_pos_den (-n) (-d) (by omega)
    rw [e1, e2]
    refine ⟨h1, h2, ?_⟩
    rw [Int.mul_neg, Int.neg_mul] at h3
    exact Int.neg_inj.mp h3
  · exact fraction_pos_den n d h

theorem fraction_zero_den (n : Int) : fraction_dom n 0 = false := by
  unfold fraction_dom
  have : XrayGen.sign 0 = 0 := by decide
  simp [this]

theorem canonical_unique (a b : Fraction) (ha : Canonical a) (hb : Canonical b) (h : a.n * b.d = b.n * a.d) : a = b := by
  obtain ⟨an, ad⟩ := a
  obtain ⟨bn, bd⟩ := b
  unfold Canonical at ha hb
  simp only at ha hb h
  have hN : an.natAbs * bd.natAbs = bn.natAbs * ad.natAbs := by
    have := congrArg Int.natAbs h
    rwa [Int.natAbs_mul, Int.natAbs_mul] at this
  have ca : Nat.Coprime ad.natAbs an.natAbs := by
    have := ha.2; unfold Int.gcd at this; unfold Nat.Coprime; rwa [Nat.gcd_comm]
  have cb : Nat.Coprime bd.natAbs bn.natAbs := by
    have := hb.2; unfold Int.gcd at this; unfold Nat.Coprime; rwa [Nat.gcd_comm]
  have d1 : ad.natAbs ∣ bd.natAbs := ca.dvd_of_dvd_mul_left ⟨bn.natAbs, by rw [hN, Nat.mul_comm]⟩
  have d2 : bd.natAbs ∣ ad.natAbs := cb.dvd_of_dvd_mul_left ⟨an.natAbs, by rw [← hN, Nat.mul_comm]⟩
  have hd : ad = bd := by
    have := Nat.dvd_antisymm d1 d2; omega
  subst hd
  have hn : an = bn := Int.eq_of_mul_eq_mul_right (by omega) h
  subst hn; rfl

end XrayModel.Conv
