/-
compile_correct: the simulation of the named evaluator (XrayModel/Core.lean) by the cell machine
(XrayModel/CellRun.lean), construct by construct, and its instance for the function-free fragment
(see XrayProofs/CompileCorrect.lean).

`Simulates cfg n fr rfr e x`: at fuel `n` the compiled expression `x`, run in the activation `rfr`, does what the source
expression `e` does in the named frame `fr` (`Agree`: the image under `cr` of the same outcome, which holds no function
value, in the same state).  One lemma per construct says how this is inherited from the parts; `Sim` (this file) and
`SimF` (XrayProofs/CompileFun.lean) put them together for the compiled forms `cx` and `cxf`.
-/
import XrayProofs.CompileCorrect
import XrayProofs.Closure
namespace XrayModel.CellRun
open XrayModel.Scope

def cr : Core.Res → CRes
  | .val v => .val (ofCore v)
  | .viol k => .viol k
  | .tail a => .tail (a.map ofCore)
  | .stuck w => .stuck w
  | .oof => .oof

def crl : Except Core.Res (List Core.Val) → Except CRes (List CVal)
  | .ok vs => .ok (vs.map ofCore)
  | .error r => .error (cr r)

/-- the outcomes the simulation relates: a value without function values, or an error outcome.  A tail request is
excluded: `Simulates` speaks of every `tail` flag, so it holds only where the named evaluator never answers `.tail` —
in a frame without `self`, or in a body that does not call its own name (`FunOK`).  Hence the trampoline of
`simF_tramp` never goes round. -/
def Good : Core.Res → Prop
  | .val v => closFree v = true
  | .tail _ => False
  | _ => True

def GoodL : Except Core.Res (List Core.Val) → Prop
  | .ok vs => ∀ v ∈ vs, closFree v = true
  | .error r => Good r

theorem readValue_value (n : Nat) (a b : RFrame) (v : CVal) : readValue (n + 1) a b (.value v) = .val v := by
  simp [readValue]

def Agree (a : CRes × St) (b : Core.Res × St) : Prop := a = (cr b.1, b.2) ∧ Good b.1

def AgreeL (a : Except CRes (List CVal) × St) (b : Except Core.Res (List Core.Val) × St) : Prop :=
  a = (crl b.1, b.2) ∧ GoodL b.1

def Simulates (cfg : Core.Cfg) (n : Nat) (fr : Core.Frame) (rfr : RFrame) (e : Core.Expr) (x : XE) : Prop :=
  ∀ tail st, Agree (eval n cfg rfr x tail st) (Core.eval n cfg fr e tail st)

def SimulatesL (cfg : Core.Cfg) (n : Nat) (fr : Core.Frame) (rfr : RFrame) (es : List Core.Expr) (xs : List XE) : Prop :=
  ∀ st, AgreeL (evalList n cfg rfr xs st) (Core.evalList n cfg fr es st)

section
variable {cfg : Core.Cfg} {n : Nat} {fr : Core.Frame} {rfr : RFrame}

theorem getCell_owned (rfr : RFrame) (k : Nat) (e : ECell) (h : rfr.cells[k]? = some (.owned e)) :
    getCell rfr k = some e := by
  simp [getCell, h, TCell.asRef]

theorem simulatesL_nil : SimulatesL cfg (n + 1) fr rfr [] [] := by
  intro st; simp [AgreeL, evalList, Core.evalList, crl, GoodL]

theorem simulatesL_cons {e : Core.Expr} {x : XE} {es : List Core.Expr} {xs : List XE}
    (he : Simulates cfg n fr rfr e x) (hl : SimulatesL cfg n fr rfr es xs) :
    SimulatesL cfg (n + 1) fr rfr (e :: es) (x :: xs) := by
  intro st
  obtain ⟨he, hg⟩ := he false st
  simp only [AgreeL, evalList, Core.evalList, he]
  cases hr : Core.eval n cfg fr e false st with
  | mk r st1 =>
    rw [hr] at hg
    cases r with
    | val v =>
      simp only [Good] at hg
      obtain ⟨hl, hgl⟩ := hl st1
      cases hrl : Core.evalList n cfg fr es st1 with
      | mk rl st2 =>
        rw [hrl] at hgl hl
        cases v with
        | clos f d e => simp [closFree] at hg
        | err m => simp [cr, ofCore, crl, GoodL, Good, closFree]
        | _ => simp only [cr, ofCore, hl, hrl]; cases rl <;> simp [crl, GoodL, ofCore, hg] <;> exact hgl
    | viol k => simp [cr, crl, GoodL, Good]
    | tail a => simp [Good] at hg
    | stuck w => simp [cr, crl, GoodL, Good]
    | oof => simp [cr, crl, GoodL, Good]

theorem simulates_tup {es : List Core.Expr} {xs : List XE} (hl : SimulatesL cfg n fr rfr es xs) :
    Simulates cfg (n + 1) fr rfr (.tup es) (.tup xs) := by
  intro tail st
  obtain ⟨hl, hgl⟩ := hl st
  simp only [Agree, eval, Core.eval, hl]
  cases hrl : Core.evalList n cfg fr es st with
  | mk rl st2 =>
    rw [hrl] at hgl
    cases rl with
    | ok vs => simp only [GoodL] at hgl; simp [crl, cr, ofCore, Good, closFree_tup]; exact hgl
    | error r => simpa [crl, GoodL] using hgl

theorem simulates_arr {es : List Core.Expr} {xs : List XE} (hl : SimulatesL cfg n fr rfr es xs) :
    Simulates cfg (n + 1) fr rfr (.arr es) (.arr xs) := by
  intro tail st
  obtain ⟨hl, hgl⟩ := hl st
  simp only [Agree, eval, Core.eval, hl]
  cases hrl : Core.evalList n cfg fr es st with
  | mk rl st2 =>
    rw [hrl] at hgl
    cases rl with
    | ok vs => simp only [GoodL] at hgl; simp [crl, cr, ofCore, Good, closFree_arr]; exact hgl
    | error r => simpa [crl, GoodL] using hgl

theorem simulates_item {e : Core.Expr} {x : XE} (he : Simulates cfg n fr rfr e x) (i : Nat) :
    Simulates cfg (n + 1) fr rfr (.item e i) (.member x i) := by
  intro tail st
  obtain ⟨he, hg⟩ := he false st
  simp only [Agree, eval, Core.eval, he]
  cases hr : Core.eval n cfg fr e false st with
  | mk r st1 =>
    rw [hr] at hg
    cases r with
    | val v =>
      simp only [Good] at hg
      cases v with
      | clos f d e => simp [closFree] at hg
      | tup vs =>
        have hvs := (closFree_tup vs).mp hg
        simp only [cr, ofCore, List.getElem?_map]
        cases hi : vs[i]? with
        | none => simp [Good]
        | some w => simp [Good, hvs w (List.mem_of_getElem? hi)]
      | _ => simp [cr, ofCore, Good, closFree]
    | viol k => simp [cr, Good]
    | tail a => simp [Good] at hg
    | stuck w => simp [cr, Good]
    | oof => simp [cr, Good]

theorem simulates_var_cell {x : String} {v : Core.Val} {k : Nat} (hx : fr.get x = some v) (hv : closFree v = true)
    (hc : rfr.cells[k]? = some (.owned (.value (ofCore v)))) : Simulates cfg (n + 1) fr rfr (.var x) (.val k) := by
  intro tail st
  simp [Agree, eval, Core.eval, hx, getCell_owned rfr k _ hc, readValue, cr, Good, hv]

theorem simulates_var_unbound {x : String} (hx : fr.get x = none) :
    Simulates cfg (n + 1) fr rfr (.var x) (.ident x) := by
  intro tail st
  simp [Agree, eval, Core.eval, hx, cr, Good]

/-- a call by name of something that is not a function never looks at the arguments -/
theorem simulates_call_value {f : String} {v : Core.Val} {k : Nat} (hs : ∀ s c, fr.self = some (s, c) → s ≠ f)
    (hf : Core.lookup f fr.env = some v) (hv : closFree v = true)
    (hc : rfr.cells[k]? = some (.owned (.value (ofCore v)))) (args : List Core.Expr) (xs : List XE) :
    Simulates cfg (n + 1) fr rfr (.call f args) (.call (.val k) xs) := by
  intro tail st
  have hg := getCell_owned rfr k _ hc
  rw [Core.eval_call_named n cfg fr f args tail st hs]
  simp only [Agree, eval, hg, Bool.false_and, Bool.false_eq_true, if_false]
  cases n with
  | zero => simp [callCell, Core.callNamed, cr, Good]
  | succ m =>
    simp only [callCell, hg, readValue, Core.callNamed, Core.frame_get_avoid fr f hs, hf]
    cases m with
    | zero => simp [callVal, Core.callVal, cr, Good]
    | succ g =>
      cases v with
      | clos f' d e => simp [closFree] at hv
      | _ => simp [callVal, Core.callVal, ofCore, cr, Good, closFree]

/-- the natives run one unit of fuel further on, on both sides; `hb` asks for their agreement at the predecessor of `n`
only if there is one: at `n = 0` both sides are out of fuel -/
theorem simulates_call_unbound {f : String} {args : List Core.Expr} {xs : List XE}
    (hs : ∀ s c, fr.self = some (s, c) → s ≠ f) (hf : Core.lookup f fr.env = none)
    (hb : ∀ m, n = m + 1 → ∀ tail st, Agree (builtin m cfg rfr f xs tail st) (Core.builtin m cfg fr f args tail st)) :
    Simulates cfg (n + 1) fr rfr (.call f args) (.bcall f xs) := by
  intro tail st
  rw [Core.eval_call_named n cfg fr f args tail st hs]
  cases n with
  | zero => simp [Agree, eval, builtinStage, Core.callNamed, cr, Good]
  | succ m =>
    simp only [eval, builtinStage, Core.callNamed, Core.frame_get_avoid fr f hs, hf]
    exact hb m rfl tail st

/-- the shapes `builtin` treats itself: name and number of arguments -/
def Special (f : String) (k : Nat) : Prop :=
  (f = "if" ∧ k = 3) ∨ ((f = "and" ∨ f = "or" ∨ f = "if_error") ∧ k = 2) ∨ ((f = "is_error" ∨ f = "display") ∧ k = 1)

theorem core_builtin_default (n : Nat) (cfg : Core.Cfg) (fr : Core.Frame) (f : String) (args : List Core.Expr)
    (tail : Bool) (st : St) (h : ¬ Special f args.length) :
    Core.builtin (n + 1) cfg fr f args tail st =
      (if Core.isStrictPrim f then
        match Core.evalList n cfg fr args st with
        | (.ok vs, st') => (Core.prim f vs, st')
        | (.error r, st') => (r, st')
      else (.stuck ("unknown function " ++ f), st)) := by
  -- the last equation of `builtin`; its side conditions say that none of the earlier patterns matches
  rw [Core.builtin]
  · rfl
  all_goals intros; apply h; simp_all [Special]

theorem cell_builtin_default (n : Nat) (cfg : Core.Cfg) (fr : RFrame) (f : String) (args : List XE)
    (tail : Bool) (st : St) (h : ¬ Special f args.length) :
    builtin (n + 1) cfg fr f args tail st =
      (if Core.isStrictPrim f then
        match evalList n cfg fr args st with
        | (.ok vs, st') => (cprim f vs, st')
        | (.error r, st') => (r, st')
      else (.stuck ("unknown function " ++ f), st)) := by
  rw [builtin]
  · rfl
  all_goals intros; apply h; simp_all [Special]

theorem cprim_ofCore (f : String) (vs : List Core.Val) (h : ∀ v ∈ vs, closFree v = true) :
    cprim f (vs.map ofCore) = cr (Core.prim f vs) ∧ Good (Core.prim f vs) := by
  simp only [cprim, toCore_ofCore_list vs h]
  rcases prim_result f vs with ⟨v, hv, hc⟩ | ⟨w, hw⟩
  · rw [hv]; exact ⟨rfl, hc⟩
  · rw [hw]; exact ⟨rfl, trivial⟩

theorem cr_bool (t : Bool) : cr (.val (.bool t)) = .val (.bool t) := by simp [cr, ofCore]
theorem cr_err (m : String) : cr (.val (.err m)) = .val (.err m) := by simp [cr, ofCore]

theorem agree_builtin (c : Core.Expr → XE) (f : String) (args : List Core.Expr)
    (h1 : ∀ e ∈ args, Simulates cfg n fr rfr e (c e)) (hl : SimulatesL cfg n fr rfr args (args.map c))
    (tail : Bool) (st : St) :
    Agree (builtin (n + 1) cfg rfr f (args.map c) tail st) (Core.builtin (n + 1) cfg fr f args tail st) := by
  by_cases hsp : Special f args.length
  · -- the natives that evaluate their first argument and then decide
    obtain ⟨a, rest, rfl⟩ : ∃ a rest, args = a :: rest := by
      cases args with
      | nil => simp [Special] at hsp
      | cons a rest => exact ⟨a, rest, rfl⟩
    obtain ⟨he, hg⟩ := h1 a (by simp) false st
    have hrest : ∀ e ∈ rest, ∀ tail st, Agree (eval n cfg rfr (c e) tail st) (Core.eval n cfg fr e tail st) :=
      fun e he => h1 e (by simp [he])
    cases hr : Core.eval n cfg fr a false st with
    | mk r st1 =>
    rw [hr] at hg he
    rcases hsp with ⟨rfl, hk⟩ | ⟨rfl | rfl | rfl, hk⟩ | ⟨rfl | rfl, hk⟩
    · obtain ⟨x, y, rfl⟩ : ∃ x y, rest = [x, y] := by
        match rest, hk with
        | [x, y], _ => exact ⟨x, y, rfl⟩
      simp only [List.map]
      rw [builtin, Core.builtin]
      rw [he, hr]
      rcases r with v | k | ta | w | _
      · cases v with
        | bool t =>
          rw [cr_bool]
          cases t
          · exact hrest y (by simp) tail st1
          · exact hrest x (by simp) tail st1
        | clos f d e => simp [Good, closFree] at hg
        | _ => simp [Agree, cr, ofCore, Good, closFree]
      all_goals simp [Agree, cr, Good] at hg ⊢
    · obtain ⟨y, rfl⟩ := List.length_eq_one_iff.mp (Nat.succ.inj hk)
      simp only [List.map]
      rw [builtin, Core.builtin]
      rw [he, hr]
      rcases r with v | k | ta | w | _
      · cases v with
        | bool t =>
          rw [cr_bool]
          cases t
          · simp [Agree, cr, ofCore, Good, closFree]
          · exact hrest y (by simp) tail st1
        | clos f d e => simp [Good, closFree] at hg
        | _ => simp [Agree, cr, ofCore, Good, closFree]
      all_goals simp [Agree, cr, Good] at hg ⊢
    · obtain ⟨y, rfl⟩ := List.length_eq_one_iff.mp (Nat.succ.inj hk)
      simp only [List.map]
      rw [builtin, Core.builtin]
      rw [he, hr]
      rcases r with v | k | ta | w | _
      · cases v with
        | bool t =>
          rw [cr_bool]
          cases t
          · exact hrest y (by simp) tail st1
          · simp [Agree, cr, ofCore, Good, closFree]
        | clos f d e => simp [Good, closFree] at hg
        | _ => simp [Agree, cr, ofCore, Good, closFree]
      all_goals simp [Agree, cr, Good] at hg ⊢
    · obtain ⟨y, rfl⟩ := List.length_eq_one_iff.mp (Nat.succ.inj hk)
      simp only [List.map]
      rw [builtin, Core.builtin]
      rw [he, hr]
      rcases r with v | k | ta | w | _
      · cases v with
        | err m => rw [cr_err]; exact hrest y (by simp) tail st1
        | clos f d e => simp [Good, closFree] at hg
        | _ => simp only [Good] at hg; simp [Agree, cr, ofCore, Good, hg]
      all_goals simp [Agree, cr, Good] at hg ⊢
    · obtain rfl := List.eq_nil_of_length_eq_zero (Nat.succ.inj hk)
      simp only [List.map]
      rw [builtin, Core.builtin]
      rw [he, hr]
      rcases r with v | k | ta | w | _
      · simp only [Good] at hg
        simp [Agree, cr, ofCore, Good, closFree, ofCore_isErr v hg]
      all_goals simp [Agree, cr, Good] at hg ⊢
    · obtain rfl := List.eq_nil_of_length_eq_zero (Nat.succ.inj hk)
      simp only [List.map]
      rw [builtin, Core.builtin]
      rw [he, hr]
      rcases r with v | k | ta | w | _
      · simp only [Good] at hg
        have hts : toStr (ofCore v) = Core.toStr v := by simp [toStr, toCore_ofCore v hg]
        cases v with
        | clos f d e => simp [closFree] at hg
        | err m => simp [Agree, cr, ofCore, Good, closFree]
        | _ => simp only [ofCore] at hts; simp only [cr, ofCore, hts]; simp [Agree, Core.toStr, Good, hg, ofCore, cr]
      all_goals simp [Agree, cr, Good] at hg ⊢
  · rw [core_builtin_default n cfg fr f args tail st hsp,
      cell_builtin_default n cfg rfr f _ tail st (by rwa [List.length_map])]
    by_cases hp : Core.isStrictPrim f = true
    · simp only [hp, if_true]
      obtain ⟨hel, hgl⟩ := hl st
      rw [hel]
      cases hrl : Core.evalList n cfg fr args st with
      | mk rl st2 =>
        rw [hrl] at hgl
        cases rl with
        | ok vs =>
          simp only [GoodL] at hgl
          exact ⟨by simp only [crl, (cprim_ofCore f vs hgl).1], (cprim_ofCore f vs hgl).2⟩
        | error r => simpa [Agree, crl, GoodL] using hgl
    · simp [Agree, hp, cr, Good]

end

def FrRel (env : List (String × Core.Val)) (vars : List (String × Nat)) (rfr : RFrame) : Prop :=
  ∀ x, match Core.lookup x env with
       | some v => closFree v = true ∧ ∃ k, Scope.lookup x vars = some k ∧ rfr.cells[k]? = some (.owned (.value (ofCore v)))
       | none => Scope.lookup x vars = none

def Sim (cfg : Core.Cfg) (n : Nat) : Prop :=
  (∀ e, exprOK e = true → ∀ (fr : Core.Frame) rfr vars tail st, fr.self = none → FrRel fr.env vars rfr →
    eval n cfg rfr (cx vars e) tail st = (cr (Core.eval n cfg fr e tail st).1, (Core.eval n cfg fr e tail st).2) ∧
    Good (Core.eval n cfg fr e tail st).1) ∧
  (∀ es, exprsOK es = true → ∀ (fr : Core.Frame) rfr vars st, fr.self = none → FrRel fr.env vars rfr →
    evalList n cfg rfr (cxs vars es) st = (crl (Core.evalList n cfg fr es st).1, (Core.evalList n cfg fr es st).2) ∧
    GoodL (Core.evalList n cfg fr es st).1) ∧
  (∀ f args, exprsOK args = true → ∀ (fr : Core.Frame) rfr vars tail st, fr.self = none → FrRel fr.env vars rfr →
    builtin n cfg rfr f (cxs vars args) tail st = (cr (Core.builtin n cfg fr f args tail st).1, (Core.builtin n cfg fr f args tail st).2) ∧
    Good (Core.builtin n cfg fr f args tail st).1)

theorem cxs_length (vars : List (String × Nat)) (es : List Core.Expr) : (cxs vars es).length = es.length := by
  induction es with
  | nil => simp [cxs]
  | cons e rest ih => simp [cxs, ih]

theorem cxs_eq_map (vars : List (String × Nat)) (es : List Core.Expr) : cxs vars es = es.map (cx vars) := by
  induction es with
  | nil => rfl
  | cons e rest ih => simp [cxs, ih]

theorem exprsOK_mem {es : List Core.Expr} (h : exprsOK es = true) : ∀ e ∈ es, exprOK e = true := by
  induction es with
  | nil => simp
  | cons e rest ih =>
    simp only [exprsOK, Bool.and_eq_true] at h
    simpa [h.1] using ih h.2

theorem sim_zero (cfg : Core.Cfg) : Sim cfg 0 := by
  refine ⟨?_, ?_, ?_⟩
  · intro e _ fr rfr vars tail st _ _; simp [eval, Core.eval, cr, Good]
  · intro es _ fr rfr vars st _ _; simp [evalList, Core.evalList, crl, cr, GoodL, Good]
  · intro f args _ fr rfr vars tail st _ _; simp [builtin, Core.builtin, cr, Good]

/-- Besides `Sim cfg n` the step uses `Sim cfg (n - 1)`: a call of a native goes `bcall → builtinStage → builtin`, one
unit of fuel further than the parts of the other constructs; hence the strong induction in `sim_all` (and `simF_all`) -/
theorem sim_succ (cfg : Core.Cfg) (n : Nat) (hn : Sim cfg n) (hprev : ∀ m, m < n → Sim cfg m) : Sim cfg (n + 1) := by
  refine ⟨?_, ?_, ?_⟩
  · intro e hok fr rfr vars tail st hs hrel
    have hself : ∀ f s c, fr.self = some (s, c) → s ≠ f := fun f s c h => by rw [hs] at h; cases h
    refine (?_ : Simulates cfg (n + 1) fr rfr e (cx vars e)) tail st
    cases e with
    | int v | bool v | str v => intro tail st; simp [Agree, cx, eval, Core.eval, cr, litVal, ofCore, Good, closFree]
    | callE f args | lam f => simp [exprOK] at hok
    | var x =>
      have hx := hrel x
      cases hl : Core.lookup x fr.env with
      | none =>
        rw [hl] at hx
        simp only [cx, hx]
        exact simulates_var_unbound (by rw [Core.frame_get_avoid fr x (hself x), hl])
      | some v =>
        rw [hl] at hx
        obtain ⟨hcf, k, hk, hc⟩ := hx
        simp only [cx, hk]
        exact simulates_var_cell (by rw [Core.frame_get_avoid fr x (hself x), hl]) hcf hc
    | tup es => exact simulates_tup fun st => hn.2.1 es hok fr rfr vars st hs hrel
    | arr es => exact simulates_arr fun st => hn.2.1 es hok fr rfr vars st hs hrel
    | item e i => exact simulates_item (fun tail st => hn.1 e hok fr rfr vars tail st hs hrel) i
    | call f args =>
      simp only [exprOK] at hok
      have hf := hrel f
      cases hl : Core.lookup f fr.env with
      | none =>
        rw [hl] at hf
        simp only [cx, hf]
        exact simulates_call_unbound (hself f) hl fun m hm tail st =>
          (hprev m (by omega)).2.2 f args hok fr rfr vars tail st hs hrel
      | some v =>
        rw [hl] at hf
        obtain ⟨hcf, k, hk, hc⟩ := hf
        simp only [cx, hk]
        exact simulates_call_value (hself f) hl hcf hc args _
  · intro es hok fr rfr vars st hs hrel
    refine (?_ : SimulatesL cfg (n + 1) fr rfr es (cxs vars es)) st
    cases es with
    | nil => exact simulatesL_nil
    | cons e rest =>
      simp only [exprsOK, Bool.and_eq_true] at hok
      exact simulatesL_cons (fun tail st => hn.1 e hok.1 fr rfr vars tail st hs hrel)
        (fun st => hn.2.1 rest hok.2 fr rfr vars st hs hrel)
  · intro f args hok fr rfr vars tail st hs hrel
    rw [cxs_eq_map]
    exact agree_builtin (cx vars) f args (fun e he tail st => hn.1 e (exprsOK_mem hok e he) fr rfr vars tail st hs hrel)
      (fun st => cxs_eq_map vars args ▸ hn.2.1 args hok fr rfr vars st hs hrel) tail st

theorem sim_all (cfg : Core.Cfg) (n : Nat) : Sim cfg n := by
  induction n using Nat.strongRecOn with
  | _ n ih =>
    cases n with
    | zero => exact sim_zero cfg
    | succ k => exact sim_succ cfg k (ih k (Nat.lt_succ_self k)) (fun m hm => ih m (by omega))

end XrayModel.CellRun
