/- the first round of the product odometer over array parts: `next` of an array, the heads, an empty part (C16) -/
import XrayModel.GenProduct
import XrayProofs.Gen
namespace XrayModel.Gen

theorem startAll_arrs (L : Option Nat) : ∀ (xss : List (List V)),
    G.startAll L (xss.map G.fromArr) = xss.map It.arr :=
  fun xss => by rw [startAll_map, List.map_map]; rfl

theorem next_arr_nil (L : Option Nat) (fuel : Nat) : next L (fuel + 1) (.arr []) = .done := by
  simp [next, step]

theorem next_arr_cons (L : Option Nat) (fuel : Nat) (x : V) (xs : List V) :
    next L (fuel + 1) (.arr (x :: xs)) = .item (.val x) (.arr xs) := by
  simp [next, step]

theorem pfirsts_empty (L : Option Nat) (fuel : Nat) : ∀ (xss : List (List V)) (doneIts : List It) (acc : List V),
    [] ∈ xss → ∃ its, pfirsts L (fuel + 1) (xss.map It.arr) doneIts acc = .inl (.done, its) := by
  intro xss
  induction xss with
  | nil => intro _ _ h; simp at h
  | cons xs xss ih =>
    intro doneIts acc h
    cases xs with
    | nil => exact ⟨doneIts.reverse ++ It.arr [] :: xss.map It.arr, by simp [pfirsts, next_arr_nil]⟩
    | cons x xs =>
      have h' : [] ∈ xss := by simpa using h
      obtain ⟨its, hi⟩ := ih (It.arr xs :: doneIts) (x :: acc) h'
      exact ⟨its, by simp [pfirsts, next_arr_cons, hi]⟩

theorem pfirsts_heads (L : Option Nat) (fuel : Nat) : ∀ (xss : List (List V)) (doneIts : List It) (acc : List V),
    [] ∉ xss →
      pfirsts L (fuel + 1) (xss.map It.arr) doneIts acc =
        .inr (doneIts.reverse ++ xss.map (fun xs => It.arr xs.tail), acc.reverse ++ xss.filterMap List.head?) := by
  intro xss
  induction xss with
  | nil => intro _ _ _; simp [pfirsts]
  | cons xs xss ih =>
    intro doneIts acc h
    cases xs with
    | nil => simp at h
    | cons x xs =>
      have h' : [] ∉ xss := by simpa using h
      simp [pfirsts, next_arr_cons, ih _ _ h']

end XrayModel.Gen
