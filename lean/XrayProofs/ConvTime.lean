/- C20 helper lemmas: datetime ↔ Unix seconds over an abstract float carrier with exact-arithmetic laws -/
import Generated.StdInt
namespace XrayModel.Conv
open XrayGen

/-- law of exact arithmetic on the float carrier: with `u = ⌊t/60⌋`, `60u + (t - 60u) = t`
(`O.lit 600 1` is the literal `60.0`: mantissa 600, one digit after the point) -/
def DivModLaw {F : Type} (O : FloatOps F) : Prop :=
  ∀ t : F, O.add (O.ofInt (O.floorDiv t (O.lit 600 1) * 60)) (O.sub t (O.ofInt (O.floorDiv t (O.lit 600 1) * 60))) = t

def SecondsInRange {F : Type} (O : FloatOps F) (s : F) : Prop :=
  O.floorDiv s (O.lit 600 1) = 0

def AddLaw {F : Type} (O : FloatOps F) : Prop :=
  ∀ (k : Int) (s : F), SecondsInRange O s →
    O.floorDiv (O.add (O.ofInt (k * 60)) s) (O.lit 600 1) = k ∧ O.sub (O.add (O.ofInt (k * 60)) s) (O.ofInt (k * 60)) = s

/-- `60.0` in binary fixed point with scale 2^20 = 1048576, the scale of the driver (`Driver/Conv.lean`) -/
theorem fix_lit : (fixOps 1048576).lit 600 1 = 62914560 := by decide +kernel

theorem fix_divmod : DivModLaw (fixOps 1048576) := by
  intro t
  rw [fix_lit]
  show Int.fdiv t 62914560 * 60 * 1048576 + (t - Int.fdiv t 62914560 * 60 * 1048576) = t
  omega

theorem fix_add : AddLaw (fixOps 1048576) := by
  intro k s hs
  unfold SecondsInRange at hs
  rw [fix_lit] at *
  have h1 : Int.fdiv s 62914560 = 0 := hs
  show Int.fdiv (k * 60 * 1048576 + s) 62914560 = k ∧ (k * 60 * 1048576 + s) - k * 60 * 1048576 = s
  rw [Int.fdiv_eq_ediv_of_nonneg _ (by decide)] at *
  omega

theorem minutes_split (m : Int) :
    (m.fdiv 60).fdiv 24 * 86400 + (m.fdiv 60).fmod 24 * 60 * 60 + m.fmod 60 * 60 = 60 * m := by
  simp (disch := decide) only [Int.fdiv_eq_ediv_of_nonneg, Int.fmod_eq_emod_of_nonneg]
  omega

end XrayModel.Conv
