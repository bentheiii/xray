/-
C01: the step lemmas of the soundness invariant, one per evaluator function: from `Inv n` the clause
of `Inv (n+1)` for that function.  Every proof follows its function: invert the checker on the syntax, unfold
the function once, split on the outcome of each sub-evaluation.  Outside a tail position that outcome
satisfies `ValOk`, which excludes `tail` and `stuck`; `viol` and `oof` are passed on unchanged, and those
every outcome predicate accepts (`ValOk.cases`).  The lazy natives are checked once against the selector
`lazySel` of CoreShape.lean (`lazySel_sound`) and run through `builtin_succ`; for any other name the selector
answers `none` (`lazySel_none`) and `builtin_succ` is the strict arm.
-/
import XrayProofs.CoreTypingInv
import XrayProofs.Core
namespace XrayModel.CoreTyping
open XrayModel.Core

theorem step_evalList {n : Nat} (ih : Inv n) : ∀ cfg fr es st Γ ts, FrameTy fr Γ → checkList Γ es = some ts →
    ListOk ts (evalList (n+1) cfg fr (eraseEs es) st).1 := by
  intro cfg fr es st Γ ts hfr hc
  cases es with
  | nil => cases hc; exact ⟨.nil, rfl⟩
  | cons e es =>
    obtain ⟨t, ts, rfl, he, hl⟩ := checkList_cons hc
    simp only [eraseEs, evalList]
    refine (ih.evalV hfr he cfg st).cases (fun v st' hv => ?_) (fun _ _ => trivial) fun _ => trivial
    have ihl := ih.evalList cfg fr es st' Γ ts hfr hl
    have hcons (vs : List Val) (h : ListOk ts (.ok vs)) (hne : v.isErr = false) : ListOk (t :: ts) (.ok (v :: vs)) :=
      ⟨.cons hv h.1, firstErr_cons.mpr ⟨hne, h.2⟩⟩
    cases v with
    | err m => exact rfl
    | _ =>
      dsimp only
      generalize evalList n cfg fr (eraseEs es) st' = q at ihl ⊢
      obtain ⟨_ | vs, st''⟩ := q
      · exact ihl
      · exact hcons vs ihl rfl

theorem step_evalDflts {n : Nat} (ih : Inv n) : ∀ cfg fr ps st Γ req opt, FrameTy fr Γ → checkParams Γ ps = some (req, opt) →
    DfltsOk opt (evalDflts (n+1) cfg fr (erasePs ps) st).1 := by
  intro cfg fr ps st Γ req opt hfr hc
  cases ps with
  | nil => cases hc; exact .nil
  | cons p ps =>
    obtain ⟨nm, t, d⟩ := p
    cases d with
    | none =>
      obtain ⟨req', rfl, hps⟩ := checkParams_req hc
      exact ih.evalDflts cfg fr ps st Γ req' opt hfr hps
    | some d =>
      obtain ⟨dt, opt', rfl, rfl, hd, hsub, hps⟩ := checkParams_opt hc
      simp only [erasePs, eraseP, evalDflts, Param.dflt_mk]
      refine ((ih.evalV hfr hd cfg st).mono hsub).cases (fun v st' hv => ?_) (fun _ _ => trivial) fun _ => trivial
      have ihl := ih.evalDflts cfg fr ps st' Γ [] opt' hfr hps
      dsimp only
      generalize evalDflts n cfg fr (erasePs ps) st' = q at ihl ⊢
      obtain ⟨_ | vs, st''⟩ := q
      · exact ihl
      · exact HasTys.cons hv ihl

theorem step_mkClos {n : Nat} (ih : Inv n) : ∀ cfg fr f st Γ σ, FrameTy fr Γ → checkFunc Γ f = some σ →
    ValOk σ (mkClos (n+1) cfg fr (eraseF f) st).1 := by
  intro cfg fr f st Γ σ hfr hc
  obtain ⟨name, ps, ret, ds, body⟩ := f
  obtain ⟨req, opt, ρ, rfl, hps, _⟩ := checkFunc_inv hc
  have ihd := ih.evalDflts cfg fr ps st Γ req opt hfr hps
  simp only [eraseF, mkClos, Func.params]
  generalize evalDflts n cfg fr (erasePs ps) st = p at ihd ⊢
  obtain ⟨_ | vs, st'⟩ := p
  · exact ErrOk.valOk ihd
  · exact .clos hfr.captured hc rfl ihd

theorem step_evalDecls {n : Nat} (ih : Inv n) : ∀ cfg fr ds st Γ Γ', FrameTy fr Γ → checkDecls Γ ds = some Γ' →
    DeclsOk fr Γ' (evalDecls (n+1) cfg fr (eraseDs ds) st).1 := by
  intro cfg fr ds st Γ Γ' hfr hc
  have rest (x : String) {v : Val} {α : Ty} (hv : HasTy v α) (ds : List TDecl) (st' : St)
      (hc : checkDecls ((x, α) :: Γ) ds = some Γ') :
      DeclsOk fr Γ' (evalDecls n cfg { fr with env := (x, v) :: fr.env } (eraseDs ds) st').1 :=
    DeclsOk.of_ext rfl rfl (ih.evalDecls cfg _ ds st' _ Γ' (.cons hv hfr) hc)
  cases ds with
  | nil => cases hc; exact ⟨hfr, rfl, rfl⟩
  | cons d ds =>
    cases d with
    | letD x ann e =>
      obtain ⟨τ, α, he, hsub, hc⟩ := checkDecls_let hc
      simp only [eraseDs, eraseD, evalDecls]
      exact ((ih.evalV hfr he cfg st).mono hsub).cases (fun v st' hv => rest x hv ds st' hc) (fun _ _ => trivial)
        fun _ => trivial
    | fnD f =>
      obtain ⟨name, ps, ret, dd, body⟩ := f
      obtain ⟨nm, σ, rfl, hf, hc⟩ := checkDecls_fn hc
      simp only [eraseDs, eraseD, evalDecls]
      exact (ih.mkClos cfg fr _ st Γ σ hfr hf).cases (fun c st' hv => rest nm hv ds st' hc) (fun _ _ => trivial)
        fun _ => trivial

theorem step_callVal {n : Nat} (ih : Inv n) : ∀ cfg fr c args tail st Γ req opt ret ats, FrameTy fr Γ → HasTy c (.fn req opt ret) →
    checkList Γ args = some ats → checkArgs req opt ats = true →
    ValOk ret (callVal (n+1) cfg fr c (eraseEs args) tail st).1 := by
  intro cfg fr c args tail st Γ req opt ret ats hfr hc hl hca
  cases hc with
  | err m => exact .err _ _
  | @clos env Γc tf f dflts _ _ _ henv hchk her hd =>
    have ihl := ih.evalList cfg fr args st Γ ats hfr hl
    simp only [callVal]
    generalize evalList n cfg fr (eraseEs args) st = p at ihl ⊢
    obtain ⟨_ | vs, st'⟩ := p
    · exact ErrOk.valOk ihl
    · exact ih.callUser cfg fr.height f dflts env vs st' req opt ret (.clos henv hchk her hd) ⟨ats, ihl.1, hca⟩

theorem step_callUser {n : Nat} (ih : Inv n) : ∀ cfg h f dflts env args st req opt ret,
    HasTy (.clos f dflts env) (.fn req opt ret) → ArgsTy args req opt →
    ValOk ret (callUser (n+1) cfg h (.clos f dflts env) args st).1 := by
  intro cfg h f dflts env args st req opt ret hc ha
  simp only [callUser]
  split
  · rename_i e he
    exact ErrOk.valOk (r := .val e) (firstErr_isErr he)
  · split
    · split
      · trivial
      · exact ih.tramp cfg h f dflts env args 0 _ req opt ret hc ha
    · exact ih.tramp cfg h f dflts env args 0 _ req opt ret hc ha

theorem step_callNamed {n : Nat} (ih : Inv n) : ∀ cfg fr f args tail st Γ τ, FrameTy fr Γ → check Γ (.call f args) = some τ →
    ResOk Γ fr tail τ (callNamed (n+1) cfg fr f (eraseEs args) tail st).1 := by
  intro cfg fr f args tail st Γ τ hfr hc
  simp only [check] at hc
  split at hc
  · cases hc
  · rename_i ats hl
    simp only [callNamed, Frame.get_eq]
    rcases lookup_envTy f hfr with ⟨h1, h2⟩ | ⟨v, t, h1, h2, hv⟩
    · rw [h1]
      rw [h2] at hc
      exact ih.builtin cfg fr f args tail st Γ ats τ hfr hl hc
    · rw [h1]
      rw [h2] at hc
      split at hc
      · rename_i req opt ret heq
        cases heq
        obtain ⟨hca, rfl⟩ := Option.ite_some_none_eq_some.mp hc
        exact (ih.callVal cfg fr v args tail st Γ req opt _ ats hfr hv hl hca).resOk
      · cases hc
      · rename_i hno; cases hno  -- the checker's arm for an unbound name, but the lookup gave `some`

/-- the frame `eval_func_with_values` creates; for a named function the closure itself is the recursion cell -/
theorem frameTy_callee {bs env : List (String × Val)} {ps : List TParam} {Γc : TyEnv} {c : Val} {σ : Ty}
    (name : Option String) (h : Nat) (hbe : EnvTy bs.reverse (paramEnv ps)) (henv : EnvTy env Γc) (hc : HasTy c σ) :
    FrameTy { env := bs.reverse ++ env, self := match name with | some n => some (n, c) | none => none, height := h }
      (paramEnv ps ++ Γc ++ match name with | some n => [(n, σ)] | none => []) := by
  cases name with
  | none => exact (hbe.append henv).append .nil
  | some n => exact (hbe.append henv).append (.cons hc .nil)

theorem step_tramp {n : Nat} (ih : Inv n) : ∀ cfg h f dflts env args rec st req opt ret,
    HasTy (.clos f dflts env) (.fn req opt ret) → ArgsTy args req opt →
    ValOk ret (tramp (n+1) cfg h (.clos f dflts env) args rec st).1 := by
  intro cfg h f dflts env args rec st req opt ret hc ha
  -- the closure is also its own recursion cell: keep its typing, which `cases` takes apart; the
  -- `simp only` below gives the copy the goal's spelling of the closure
  have hc0 := hc
  cases hc with
  | @clos _ Γc tf _ _ _ _ _ henv hchk her hd =>
    obtain ⟨name, ps, retAnn, ds, body⟩ := tf
    obtain ⟨_, _, _, hσ, hps, Γ', τ, hds, hb, hsub⟩ := checkFunc_inv hchk
    cases hσ
    cases her
    obtain ⟨ats, hvs, hca⟩ := ha
    obtain ⟨bs, hbs, hbe⟩ := bindParams_ok ps Γc req opt args ats dflts hps hvs hca hd
    simp only [tramp, eraseF, Func.params, Func.name, Func.decls, Func.body, hbs] at hc0 ⊢
    refine ValOk.ite (fun _ => trivial) fun _ => ?_
    · have ihd := ih.evalDecls cfg _ ds st _ Γ' (frameTy_callee name (h + 1) hbe henv hc0) hds
      generalize evalDecls n cfg _ (eraseDs ds) st = p at ihd ⊢
      obtain ⟨_ | fr', st'⟩ := p
      · exact ErrOk.valOk ihd
      · obtain ⟨hfr', hself, _⟩ := ihd
        have ihe := ih.eval cfg fr' body true st' Γ' τ hfr' hb
        dsimp only
        generalize eval n cfg fr' (eraseE body) true st' = q at ihe ⊢
        obtain ⟨r, st''⟩ := q
        cases r with
        | val v => exact HasTy.mono _ _ hsub ihe
        | stuck _ => cases ihe
        | viol _ | oof => trivial
        | tail newArgs =>
          -- the body's frame keeps the recursion cell, so the function has a name, and the body's
          -- context ends with the entry of that name
          have hargs : ArgsTy newArgs req opt := by
            obtain ⟨Δ, rfl⟩ := checkDecls_suffix _ _ _ hds
            cases name with
            | none => exact absurd hself ihe.2.self_ne_none
            | some nm => exact ihe.2.argsTy (by rw [← List.append_assoc]; exact lastTy_snoc ..)
          exact ValOk.ite (fun _ => trivial) fun _ =>
            ih.tramp cfg h _ dflts env newArgs (rec + 1) st'' _ _ _ hc0 hargs

theorem step_eval {n : Nat} (ih : Inv n) : ∀ cfg fr e tail st Γ τ, FrameTy fr Γ → check Γ e = some τ →
    ResOk Γ fr tail τ (eval (n+1) cfg fr (eraseE e) tail st).1 := by
  intro cfg fr e tail st Γ τ hfr hc
  cases e with
  | int k => cases hc; exact .int _
  | bool k => cases hc; exact .bool _
  | str k => cases hc; exact .str _
  | var x =>
    simp only [eraseE, eval, Frame.get_eq]
    rcases lookup_envTy x hfr with ⟨_, h2⟩ | ⟨v, t, h1, h2, hv⟩
    · cases h2.symm.trans hc
    · cases h2.symm.trans hc
      rw [h1]; exact hv
  | tup es =>
    simp only [check] at hc
    obtain ⟨ts, hl, rfl⟩ := Option.map_eq_some_iff.mp hc
    have ihl := ih.evalList cfg fr es st Γ ts hfr hl
    simp only [eraseE, eval]
    generalize evalList n cfg fr (eraseEs es) st = p at ihl ⊢
    obtain ⟨_ | vs, st'⟩ := p
    · exact ErrOk.resOk ihl
    · exact .tup ihl.1
  | arr es =>
    simp only [check] at hc
    split at hc
    · rename_i ts hl
      obtain ⟨t, hj, rfl⟩ := Option.map_eq_some_iff.mp hc
      have ihl := ih.evalList cfg fr es st Γ ts hfr hl
      simp only [eraseE, eval]
      generalize evalList n cfg fr (eraseEs es) st = p at ihl ⊢
      obtain ⟨_ | vs, st'⟩ := p
      · exact ErrOk.resOk ihl
      · exact .arr (joinAll_sound ts _ t vs hj ihl.1).2
    · cases hc
  | item e i =>
    simp only [check] at hc
    split at hc
    · rename_i ts he
      simp only [eraseE, eval]
      refine (ih.evalV hfr he cfg st).cases (fun v st' hv => ?_) (fun _ _ => trivial) fun _ => trivial
      cases hv with
      | err m => exact .err _ _
      | tup hvs =>
        obtain ⟨v', h1, h2⟩ := HasTys.get i hvs hc
        simp only [h1]; exact h2
    · cases hc
  | lam f => exact (ih.mkClos cfg fr f st Γ τ hfr hc).resOk
  | callE fe args =>
    simp only [check] at hc
    split at hc
    · rename_i req opt ret ats hf hl
      obtain ⟨hca, rfl⟩ := Option.ite_some_none_eq_some.mp hc
      simp only [eraseE, eval]
      refine (ih.evalV hfr hf cfg st).cases (fun v st' hv => ?_) (fun _ _ => trivial) fun _ => trivial
      have key := (ih.callVal cfg fr v args tail st' Γ req opt _ ats hfr hv hl hca).resOk (Γ := Γ) (fr := fr) (tail := tail)
      -- `eval` tests for an error value before it calls
      cases v with
      | err m => exact .err _ _
      | _ => exact key
    · cases hc
  | call f args =>
    rw [eraseE, eval_call]
    cases hsc : fr.selfCall f with
    | none => exact ih.callNamed cfg fr f args tail st Γ τ hfr hc
    | some selfClos =>
      -- a call of the function being defined, not shadowed: its type is the context's outermost entry
      obtain ⟨hself, hnone⟩ := Frame.selfCall_eq_some hsc
      obtain ⟨Γe, σ, rfl, henv, hcl⟩ := ((FrameTy.self_some hself).mp hfr).split_last
      have hlk : lookupTy f (Γe ++ [(f, σ)]) = some σ := lookupTy_last (henv.lookup_none hnone)
      simp only [check] at hc
      split at hc
      · cases hc
      · rename_i ats hl
        rw [hlk] at hc
        split at hc
        · rename_i req opt ret heq
          cases heq
          obtain ⟨hca, rfl⟩ := Option.ite_some_none_eq_some.mp hc
          dsimp only
          split
          · -- tail self-call
            rename_i htail
            have ihl := ih.evalList cfg fr args st _ ats hfr hl
            generalize evalList n cfg fr (eraseEs args) st = p at ihl ⊢
            obtain ⟨_ | vs, st'⟩ := p
            · exact ErrOk.resOk ihl
            · exact ⟨(Bool.and_eq_true_iff.mp htail).1, f, selfClos, req, opt, _, hself, lastTy_snoc _ _, ats, ihl.1, hca⟩
          · exact (ih.callVal cfg fr selfClos args tail st _ req opt _ ats hfr hcl hl hca).resOk
        · cases hc
        · rename_i hno; cases hno  -- the checker's arm for an unbound name, but the lookup gave `some`

/-- The checker's row of a lazy native against its selector (`lazySel`): the first argument checks, and on a
value of its type the selector finishes with a result of the call's type or hands over an argument that checks at it. -/
theorem lazySel_sound {Γ : TyEnv} {f : String} {args : List TExpr} {ats : List Ty} {τ : Ty}
    (hl : checkList Γ args = some ats) (hb : lazyTy f ats = some τ) :
    ∃ a α sel, lazySel f (eraseEs args) = some (eraseE a, sel) ∧ check Γ a = some α ∧
      ∀ v s, HasTy v α → match sel v s with
        | .inl r => ValOk τ r.1
        | .inr b => ∃ b' β, b = eraseE b' ∧ check Γ b' = some β ∧ sub β τ = true := by
  unfold lazyTy at hb
  split at hb
  · -- if
    obtain ⟨c, _, rfl, hc, hl⟩ := checkList_cons_inv hl
    obtain ⟨a, _, rfl, ha, hl⟩ := checkList_cons_inv hl
    obtain ⟨b, _, rfl, hb', hl⟩ := checkList_cons_inv hl
    cases checkList_nil_inv hl
    obtain ⟨hcb, hj⟩ := Option.ite_none_right_eq_some.mp hb
    obtain ⟨hja, hjb⟩ := join_sound hj
    refine ⟨c, _, _, lazySel.eq_1 .., hc, fun v s hv => ?_⟩
    cases HasTy.mono _ _ hcb hv with
    | err m => exact .err _ _
    | bool t => cases t with
      | false => exact ⟨b, _, rfl, hb', hjb⟩
      | true => exact ⟨a, _, rfl, ha, hja⟩
  · -- and
    obtain ⟨a, _, rfl, ha, hl⟩ := checkList_cons_inv hl
    obtain ⟨b, _, rfl, hb', hl⟩ := checkList_cons_inv hl
    cases checkList_nil_inv hl
    obtain ⟨hab, rfl⟩ := Option.ite_some_none_eq_some.mp hb
    obtain ⟨hsa, hsb⟩ := Bool.and_eq_true_iff.mp hab
    refine ⟨a, _, _, lazySel.eq_2 .., ha, fun v s hv => ?_⟩
    cases HasTy.mono _ _ hsa hv with
    | err m => exact .err _ _
    | bool t => cases t with
      | false => exact .bool _
      | true => exact ⟨b, _, rfl, hb', hsb⟩
  · -- or
    obtain ⟨a, _, rfl, ha, hl⟩ := checkList_cons_inv hl
    obtain ⟨b, _, rfl, hb', hl⟩ := checkList_cons_inv hl
    cases checkList_nil_inv hl
    obtain ⟨hab, rfl⟩ := Option.ite_some_none_eq_some.mp hb
    obtain ⟨hsa, hsb⟩ := Bool.and_eq_true_iff.mp hab
    refine ⟨a, _, _, lazySel.eq_3 .., ha, fun v s hv => ?_⟩
    cases HasTy.mono _ _ hsa hv with
    | err m => exact .err _ _
    | bool t => cases t with
      | false => exact ⟨b, _, rfl, hb', hsb⟩
      | true => exact .bool _
  · -- if_error
    obtain ⟨a, _, rfl, ha, hl⟩ := checkList_cons_inv hl
    obtain ⟨b, _, rfl, hb', hl⟩ := checkList_cons_inv hl
    cases checkList_nil_inv hl
    obtain ⟨hja, hjb⟩ := join_sound hb
    refine ⟨a, _, _, lazySel.eq_4 .., ha, fun v s hv => ?_⟩
    cases v with
    | err m => exact ⟨b, _, rfl, hb', hjb⟩
    | _ => exact HasTy.mono _ _ hja hv
  · -- is_error
    obtain ⟨a, _, rfl, ha, hl⟩ := checkList_cons_inv hl
    cases checkList_nil_inv hl
    cases hb
    exact ⟨a, _, _, lazySel.eq_5 .., ha, fun v s _ => .bool _⟩
  · -- display
    obtain ⟨a, _, rfl, ha, hl⟩ := checkList_cons_inv hl
    cases checkList_nil_inv hl
    obtain ⟨hp, rfl⟩ := Option.ite_some_none_eq_some.mp hb
    refine ⟨a, _, _, lazySel.eq_6 .., ha, fun v s hv => ?_⟩
    cases hv with
    | err m => exact .err _ _
    | int _ => exact .int _
    | bool _ => exact .bool _
    | str _ => exact .str _
    | tup _ | arr _ | clos _ _ _ _ => cases hp
  · cases hb

theorem step_builtin {n : Nat} (ih : Inv n) : ∀ cfg fr f args tail st Γ ats τ, FrameTy fr Γ → checkList Γ args = some ats →
    builtinTy f ats = some τ → ResOk Γ fr tail τ (builtin (n+1) cfg fr f (eraseEs args) tail st).1 := by
  intro cfg fr f args tail st Γ ats τ hfr hl hb
  unfold builtinTy at hb
  split at hb
  · obtain ⟨a, α, sel, hsel, ha, hk⟩ := lazySel_sound hl hb
    rw [builtin_succ, hsel]
    dsimp only
    refine (ih.evalV hfr ha cfg st).cases (fun v st' hv => ?_) (fun _ _ => trivial) fun _ => trivial
    have hk := hk v st' hv
    dsimp only [onVal]
    generalize sel v st' = y at hk ⊢
    rcases y with r | b
    · exact ValOk.resOk hk
    · obtain ⟨b, β, rfl, hb, hsub⟩ := hk
      exact (ih.eval cfg fr b tail st' Γ β hfr hb).mono hsub
  · -- the strict natives: arguments left to right, then the table
    rename_i hlazy
    obtain ⟨hstrict, hb⟩ := Option.ite_none_right_eq_some.mp hb
    have ihl := ih.evalList cfg fr args st Γ ats hfr hl
    rw [builtin_succ, lazySel_none fun hm => hlazy (decide_eq_true hm), if_pos hstrict]
    generalize evalList n cfg fr (eraseEs args) st = p at ihl ⊢
    obtain ⟨_ | vs, st'⟩ := p
    · exact ErrOk.resOk ihl
    · obtain ⟨v, hv, hty⟩ := prim_sound hb ihl.1 ihl.2
      simp only [onOk, hv]; exact hty
end XrayModel.CoreTyping
