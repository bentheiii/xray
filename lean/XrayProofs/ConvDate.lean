/-
C20 helper lemmas for the calendar conversions.  `julian_day` is a sum of days before the year, days before the
month and the day, in years that begin on 1 March; from that, `julian_day` steps by one along `DateNext` and is
injective on valid dates.  `date` inverts it: shown on one 400-year period century by century, and for all Julian
days by periodicity (146 097 days).
-/
import Generated.StdInt
import XrayModel.Conv
import XrayProofs.ConvNat
namespace XrayModel.Conv
open XrayGen XrayModel.ConvNat

def ofT (t : Int × Int × Int) : Date := ⟨t.1, t.2.1, t.2.2⟩

def DateValid (d : Date) : Prop := validYMD d.year d.month d.day

instance (d : Date) : Decidable (DateValid d) := by unfold DateValid; infer_instance

def DateNext (d : Date) : Date := ofT (nextYMD d.year d.month d.day)

/-! `julian_day` counts in years that run from March (month 0) to February (month 11), so that the leap day is the
last day of the year. -/

def marchYear (Y M : Int) : Int := Y + 4800 - (14 - M) / 12
def marchMonth (M : Int) : Int := M + 12 * ((14 - M) / 12) - 3
/-- Julian day of the last day before 1 March of March-year `y` -/
def yearStart (y : Int) : Int := 365 * y + y / 4 - y / 100 + y / 400 - 32045
/-- days from 1 March to the first of month `m` -/
def monthStart (m : Int) : Int := (153 * m + 2) / 5

theorem jd_eq (Y M D : Int) :
    julian_day ⟨Y, M, D⟩ = yearStart (marchYear Y M) + monthStart (marchMonth M) + D := by
  simp (disch := decide) only [julian_day, yearStart, monthStart, marchYear, marchMonth, Int.fdiv_eq_ediv_of_nonneg]
  omega

theorem march_cases (Y M : Int) (h1 : 1 ≤ M) (h2 : M ≤ 12) :
    M ≤ 2 ∧ marchYear Y M = Y + 4799 ∧ marchMonth M = M + 9 ∨
      3 ≤ M ∧ marchYear Y M = Y + 4800 ∧ marchMonth M = M - 3 := by
  unfold marchYear marchMonth; omega

theorem yearStart_mono (a b : Int) (h : a ≤ b) : yearStart a ≤ yearStart b := by
  unfold yearStart; omega

theorem monthStart_mono (a b : Int) (h : a ≤ b) : monthStart a ≤ monthStart b := by
  unfold monthStart; omega

theorem dim_ge (Y M : Int) : 28 ≤ daysInMonth Y M := by
  unfold daysInMonth
  split
  · split <;> omega
  · split <;> omega

theorem feb_le (Y : Int) : daysInMonth Y 2 ≤ 29 := by
  unfold daysInMonth
  rw [if_pos rfl]
  split <;> omega

theorem isLeap_add (y k : Int) : isLeap (y + 400 * k) ↔ isLeap y := by
  unfold isLeap; omega

/-- `isLeap` may be asked of the March-year number, 4800 being a multiple of 400; each of the three quotients in
`yearStart` steps up exactly at the multiples of its divisor -/
theorem yearStart_step (y : Int) : yearStart (y + 1) = yearStart y + if isLeap (y + 1) then 366 else 365 := by
  unfold yearStart
  rw [show (y + 1) / 4 = y / 4 + if (y + 1) % 4 = 0 then 1 else 0 by split <;> omega,
    show (y + 1) / 100 = y / 100 + if (y + 1) % 100 = 0 then 1 else 0 by split <;> omega,
    show (y + 1) / 400 = y / 400 + if (y + 1) % 400 = 0 then 1 else 0 by split <;> omega]
  generalize y / 4 = a, y / 100 = b, y / 400 = c
  by_cases h4 : (y + 1) % 4 = 0
  · by_cases h100 : (y + 1) % 100 = 0
    · by_cases h400 : (y + 1) % 400 = 0
      · rw [if_pos (show isLeap (y + 1) from ⟨h4, .inr h400⟩), if_pos h4, if_pos h100, if_pos h400]; omega
      · rw [if_neg (show ¬ isLeap (y + 1) from fun h => h.2.elim (· h100) h400), if_pos h4, if_pos h100, if_neg h400]
        omega
    · rw [if_pos (show isLeap (y + 1) from ⟨h4, .inl h100⟩), if_pos h4, if_neg h100, if_neg (by omega)]; omega
  · rw [if_neg (show ¬ isLeap (y + 1) from fun h => h4 h.1), if_neg h4, if_neg (by omega), if_neg (by omega)]; omega

theorem yearStart_succ_ge (y : Int) : yearStart y + 365 ≤ yearStart (y + 1) := by
  rw [yearStart_step]; split <;> omega

/-- the March-year that ends with February of year `Y` is as long as the eleven months before that February and
the February itself -/
theorem yearStart_succ (Y : Int) : yearStart (Y + 4799 + 1) = yearStart (Y + 4799) + 337 + daysInMonth Y 2 := by
  have hl : isLeap (Y + 4799 + 1) ↔ isLeap Y := by unfold isLeap; omega
  rw [yearStart_step]
  unfold daysInMonth
  rw [if_pos rfl]
  by_cases h : isLeap Y
  · rw [if_pos (hl.mpr h), if_pos h]; omega
  · rw [if_neg (mt hl.mp h), if_neg h]; omega

/-- the month starts (153 m + 2) / 5 reproduce the lengths of March … January -/
theorem monthStart_succ (Y M : Int) (h1 : 1 ≤ M) (h2 : M ≤ 12) (h : M ≠ 2) :
    monthStart (marchMonth M + 1) = monthStart (marchMonth M) + daysInMonth Y M := by
  have : M = 1 ∨ M = 3 ∨ M = 4 ∨ M = 5 ∨ M = 6 ∨ M = 7 ∨ M = 8 ∨ M = 9 ∨ M = 10 ∨ M = 11 ∨ M = 12 := by omega
  rcases this with rfl | rfl | rfl | rfl | rfl | rfl | rfl | rfl | rfl | rfl | rfl <;> rfl

/-- with `0 < D` these are the windows `(s a, s (a + 1)]` of `stair_unique` for `s = monthStart` and `s = yearStart` -/
theorem valid_window (Y M D : Int) (hv : validYMD Y M D) :
    monthStart (marchMonth M) + D ≤ monthStart (marchMonth M + 1) ∧ 0 ≤ monthStart (marchMonth M) ∧
      yearStart (marchYear Y M) + monthStart (marchMonth M) + D ≤ yearStart (marchYear Y M + 1) := by
  obtain ⟨h1, h2, h3, h4⟩ := hv
  have c := march_cases Y M h1 h2
  have h0 := monthStart_mono 0 (marchMonth M) (by omega)
  have : monthStart 0 = 0 ∧ monthStart 11 = 337 ∧ monthStart (11 + 1) = 367 := ⟨rfl, rfl, rfl⟩
  by_cases hF : M = 2
  · subst hF
    have hs := yearStart_succ Y
    have hb := feb_le Y
    rw [show marchYear Y 2 = Y + 4799 by omega, show marchMonth 2 = 11 from rfl]
    omega
  · -- the month ends by the end of January (day 337 of the March-year), and the year has at least 365 days
    have hms := monthStart_succ Y M h1 h2 hF
    have h11 := monthStart_mono (marchMonth M + 1) 11 (by omega)
    have hs := yearStart_succ_ge (marchYear Y M)
    omega

/-- a monotone `s` cuts the integers into the intervals `(s a, s (a + 1)]`, which are disjoint -/
theorem stair_unique (s : Int → Int) (mono : ∀ a b, a ≤ b → s a ≤ s b) {a b x : Int}
    (ha : s a < x ∧ x ≤ s (a + 1)) (hb : s b < x ∧ x ≤ s (b + 1)) : a = b := by
  rcases Int.lt_trichotomy a b with h | h | h
  · have := mono (a + 1) b (by omega); omega
  · exact h
  · have := mono (b + 1) a (by omega); omega

theorem jd_inj (d₁ d₂ : Date) (h₁ : DateValid d₁) (h₂ : DateValid d₂) (h : julian_day d₁ = julian_day d₂) :
    d₁ = d₂ := by
  obtain ⟨Y₁, M₁, D₁⟩ := d₁
  obtain ⟨Y₂, M₂, D₂⟩ := d₂
  have b₁ : 1 ≤ M₁ ∧ M₁ ≤ 12 ∧ 1 ≤ D₁ := ⟨h₁.1, h₁.2.1, h₁.2.2.1⟩
  have b₂ : 1 ≤ M₂ ∧ M₂ ≤ 12 ∧ 1 ≤ D₂ := ⟨h₂.1, h₂.2.1, h₂.2.2.1⟩
  have c₁ := march_cases Y₁ M₁ b₁.1 b₁.2.1
  have c₂ := march_cases Y₂ M₂ b₂.1 b₂.2.1
  have w₁ := valid_window Y₁ M₁ D₁ h₁
  have w₂ := valid_window Y₂ M₂ D₂ h₂
  rw [jd_eq, jd_eq] at h
  generalize marchYear Y₁ M₁ = y₁ at *
  generalize marchYear Y₂ M₂ = y₂ at *
  generalize marchMonth M₁ = m₁ at *
  generalize marchMonth M₂ = m₂ at *
  obtain rfl : y₁ = y₂ := stair_unique yearStart yearStart_mono (a := y₁) (b := y₂)
    (x := yearStart y₁ + monthStart m₁ + D₁) ⟨by omega, by omega⟩ ⟨by omega, by omega⟩
  obtain rfl : m₁ = m₂ := stair_unique monthStart monthStart_mono (a := m₁) (b := m₂)
    (x := monthStart m₁ + D₁) ⟨by omega, by omega⟩ ⟨by omega, by omega⟩
  obtain rfl : M₁ = M₂ := by omega
  obtain rfl : Y₁ = Y₂ := by omega
  obtain rfl : D₁ = D₂ := by omega
  rfl

theorem jd_next (d : Date) (hv : DateValid d) : julian_day (DateNext d) = julian_day d + 1 := by
  obtain ⟨Y, M, D⟩ := d
  obtain ⟨h1, h2, h3, h4⟩ := hv
  simp only [DateNext, nextYMD] at *
  rw [jd_eq Y M D]
  have c := march_cases Y M h1 h2
  split
  · show julian_day ⟨Y, M, D + 1⟩ = _
    rw [jd_eq]; omega
  · obtain rfl : D = daysInMonth Y M := by omega
    by_cases hF : M = 2
    · subst hF
      have := yearStart_succ Y
      have : monthStart 0 = 0 ∧ monthStart 11 = 337 := ⟨rfl, rfl⟩
      show julian_day ⟨Y, 3, 1⟩ = _
      rw [jd_eq, show marchYear Y 2 = Y + 4799 by omega, show marchMonth 2 = 11 from rfl,
        show marchYear Y 3 = Y + 4799 + 1 by unfold marchYear; omega, show marchMonth 3 = 0 from rfl]
      omega
    · have hms := monthStart_succ Y M h1 h2 hF
      split
      · have c' := march_cases Y (M + 1) (by omega) (by omega)
        show julian_day ⟨Y, M + 1, 1⟩ = _
        rw [jd_eq, show marchYear Y (M + 1) = marchYear Y M by omega,
          show marchMonth (M + 1) = marchMonth M + 1 by omega]
        omega
      · obtain rfl : M = 12 := by omega
        have c' := march_cases (Y + 1) 1 (by decide) (by decide)
        show julian_day ⟨Y + 1, 1, 1⟩ = _
        rw [jd_eq, show marchYear (Y + 1) 1 = marchYear Y 12 by omega,
          show marchMonth 1 = marchMonth 12 + 1 from rfl]
        omega

theorem next_valid (d : Date) (hv : DateValid d) : DateValid (DateNext d) := by
  obtain ⟨Y, M, D⟩ := d
  obtain ⟨h1, h2, h3, h4⟩ := hv
  simp only [DateNext, nextYMD] at *
  split
  · exact ⟨h1, h2, Int.le_add_one h3, by assumption⟩
  · split
    · show validYMD Y (M + 1) 1
      exact ⟨by omega, by omega, Int.le_refl 1, Int.le_trans (by decide) (dim_ge Y (M + 1))⟩
    · show validYMD (Y + 1) 1 1
      exact ⟨by decide, by decide, by decide, Int.le_trans (by decide) (dim_ge (Y + 1) 1)⟩

/-! ### `date`

`date jd` is `civil f` for `f = jd + 1401 + c - 38`: the date of day `f` in the calendar with a leap day every
fourth year without exception, corrected by the number `c` of century leap days that the Gregorian calendar drops. -/

def civil (f : Int) : Date :=
  let e := 4 * f + 3
  let h := 5 * (e % 1461 / 4) + 2
  let month := (h / 153 + 2) % 12 + 1
  ⟨e / 1461 - 4716 + (14 - month) / 12, month, h % 153 / 5 + 1⟩

theorem date_civil (jd : Int) : date jd = civil (jd + 1401 + (4 * jd + 274277) / 146097 * 3 / 4 - 38) := by
  simp (disch := decide) only [date, civil, Int.fdiv_eq_ediv_of_nonneg, Int.fmod_eq_emod_of_nonneg]

theorem civil_add (f : Int) : civil (f + 146100) = ⟨(civil f).year + 400, (civil f).month, (civil f).day⟩ := by
  have e : 4 * (f + 146100) + 3 = (4 * f + 3) + 1461 * 400 := by omega
  simp only [civil, e, Int.add_mul_emod_self_left, Int.add_mul_ediv_left _ _ (by decide : (1461 : Int) ≠ 0)]
  congr 1; omega

/-- day `f` is day `g` of year `Y` of the four-year cycle; only the last year of a cycle has a day 365 -/
theorem cycle_split (f Y g : Int) (hY : Y = (4 * f + 3) / 1461) (hg : g = (4 * f + 3) % 1461 / 4) :
    f = 365 * Y + Y / 4 + g ∧ 0 ≤ g ∧ g ≤ 365 ∧ (g = 365 → Y % 4 = 3) := by
  have hf : f = 365 * Y + Y / 4 + g ∧ 0 ≤ g ∧ g ≤ 365 := by omega
  refine ⟨hf.1, hf.2.1, hf.2.2, fun h => ?_⟩
  have he : 4 * (f + 1) = 1461 * (Y + 1) := by omega
  -- with `he` the quotients by 1461 that define `Y` and `g` are not needed any more
  clear hY hg
  omega

/-- day `g` of a March-year is day `D + 1` of month `m` -/
theorem month_split (g m D : Int) (h0 : 0 ≤ g) (h1 : g ≤ 365) (hm : m = (5 * g + 2) / 153)
    (hD : D = (5 * g + 2) % 153 / 5) :
    0 ≤ m ∧ m ≤ 11 ∧ monthStart m + D = g ∧ 0 ≤ D ∧ monthStart m + D + 1 ≤ monthStart (m + 1) := by
  unfold monthStart
  omega

theorem unmarch (Y m : Int) (h0 : 0 ≤ m) (h1 : m ≤ 11) :
    1 ≤ (m + 2) % 12 + 1 ∧ (m + 2) % 12 + 1 ≤ 12 ∧ marchMonth ((m + 2) % 12 + 1) = m ∧
      marchYear (Y - 4716 + (14 - ((m + 2) % 12 + 1)) / 12) ((m + 2) % 12 + 1) = Y + 84 := by
  unfold marchMonth marchYear
  omega

theorem civil_eq (f Y g m D : Int) (hY : Y = (4 * f + 3) / 1461) (hg : g = (4 * f + 3) % 1461 / 4)
    (hm : m = (5 * g + 2) / 153) (hD : D = (5 * g + 2) % 153 / 5) :
    civil f = ⟨Y - 4716 + (14 - ((m + 2) % 12 + 1)) / 12, (m + 2) % 12 + 1, D + 1⟩ := by
  subst hY hg hm hD; rfl

theorem jd_civil (f Y g : Int) (hY : Y = (4 * f + 3) / 1461) (hg : g = (4 * f + 3) % 1461 / 4) :
    julian_day (civil f) = yearStart (Y + 84) + g + 1 := by
  obtain ⟨-, h0, h1, -⟩ := cycle_split f Y g hY hg
  obtain ⟨m0, m1, hs, -, -⟩ := month_split g _ _ h0 h1 rfl rfl
  obtain ⟨-, -, hm, hy⟩ := unmarch Y _ m0 m1
  rw [civil_eq f Y g _ _ hY hg rfl rfl, jd_eq, hm, hy]
  omega

/-- `civil f` can only fail to be a Gregorian date by being 29 February of a year that is not a leap year -/
theorem civil_valid (f Y g : Int) (hY : Y = (4 * f + 3) / 1461) (hg : g = (4 * f + 3) % 1461 / 4)
    (hl : g = 365 → isLeap (Y - 4715)) : DateValid (civil f) := by
  obtain ⟨-, h0, h1, -⟩ := cycle_split f Y g hY hg
  obtain ⟨m0, m1, hs, hD, hn⟩ := month_split g _ _ h0 h1 rfl rfl
  obtain ⟨M1, M2, hM, -⟩ := unmarch Y _ m0 m1
  rw [civil_eq f Y g _ _ hY hg rfl rfl]
  generalize (5 * g + 2) / 153 = m at *
  generalize (5 * g + 2) % 153 / 5 = D at *
  generalize (m + 2) % 12 + 1 = M at *
  refine ⟨M1, M2, Int.le_add_of_nonneg_left hD, ?_⟩
  show D + 1 ≤ daysInMonth (Y - 4716 + (14 - M) / 12) M
  by_cases hF : M = 2
  · subst hF
    obtain rfl : m = 11 := hM.symm
    have : monthStart 11 = 337 := rfl
    unfold daysInMonth
    rw [show Y - 4716 + (14 - 2) / 12 = Y - 4715 by omega, if_pos rfl]
    split
    · omega
    · have : g ≠ 365 := fun h => by have := hl h; contradiction
      omega
  · have := monthStart_succ (Y - 4716 + (14 - M) / 12) M M1 M2 hF
    rw [hM] at this
    omega

/-- the century correction on the four centuries (of 36524, 36524, 36524 and 36525 days) that begin with
0000-03-01, Julian day 1721120 -/
theorem corr_period (jd c : Int) (h1 : 1721120 ≤ jd) (h2 : jd < 1721120 + 146097)
    (hc : c = (4 * jd + 274277) / 146097 * 3 / 4) :
    36 ≤ c ∧ c ≤ 39 ∧ 1721120 + 36524 * (c - 36) ≤ jd ∧ (jd < 1721120 + 36524 * (c - 35) ∨ c = 39) := by
  rcases (by omega : jd < 1721120 + 36524 ∨ 1721120 + 36524 ≤ jd ∧ jd < 1721120 + 73048 ∨
      1721120 + 73048 ≤ jd ∧ jd < 1721120 + 109572 ∨ 1721120 + 109572 ≤ jd) with h | h | h | h
  · obtain rfl : c = 36 := by omega
    omega
  · obtain rfl : c = 37 := by omega
    omega
  · obtain rfl : c = 38 := by omega
    omega
  · obtain rfl : c = 39 := by omega
    omega

/-- the days `f = jd + 1363 + c` of the century with correction `c` (the bounds on `f` are those of
`corr_period` on `jd`: 407619 = 1721120 + 1363 - 36 * 36524 and 444143 = 407619 + 36524): their March-year `Y + 84` lies in century `c + 12`, and day 365 of its last year
(29 February of year 100 (c + 13) - 4800) occurs only when that year is a multiple of 400 -/
theorem century (c f Y g : Int) (hc : 36 ≤ c ∧ c ≤ 39) (h1 : 36525 * c + 407619 ≤ f)
    (h2 : f < 36525 * c + 444143 ∨ c = 39 ∧ f = 36525 * c + 444143)
    (hf : f = 365 * Y + Y / 4 + g) (h0 : 0 ≤ g) (h365 : g ≤ 365) (h4 : g = 365 → Y % 4 = 3) :
    c = (Y + 84) / 100 - (Y + 84) / 400 ∧ (g = 365 → isLeap (Y - 4715)) := by
  have hb : 100 * (c + 12) ≤ Y + 84 ∧ Y + 84 < 100 * (c + 13) := by omega
  refine ⟨by omega, fun hg => ⟨by omega, ?_⟩⟩
  by_cases h : Y + 85 = 100 * (c + 13)
  · obtain rfl : c = 39 := by omega
    obtain rfl : Y = 5115 := by omega  -- `Y + 85 = 5200`: the year `Y - 4715` is 400
    exact .inr rfl
  · exact .inl (by omega)

theorem date_period (jd : Int) (h1 : 1721120 ≤ jd) (h2 : jd < 1721120 + 146097) :
    julian_day (date jd) = jd ∧ DateValid (date jd) := by
  rw [date_civil]
  obtain ⟨c1, c2, c3, c4⟩ := corr_period jd _ h1 h2 rfl
  generalize (4 * jd + 274277) / 146097 * 3 / 4 = c at *
  generalize hf : jd + 1401 + c - 38 = f
  obtain ⟨s1, s2, s3, s4⟩ := cycle_split f _ _ rfl rfl
  obtain ⟨hc, hl⟩ := century c f _ _ ⟨c1, c2⟩ (by omega) (by omega) s1 s2 s3 s4
  refine ⟨?_, civil_valid f _ _ rfl rfl hl⟩
  rw [jd_civil f _ _ rfl rfl]
  unfold yearStart
  omega

/-! ### 400-year periodicity: from the base period to all Julian days -/

theorem date_shift (jd : Int) :
    date (jd + 146097) = ⟨(date jd).year + 400, (date jd).month, (date jd).day⟩ := by
  rw [date_civil, date_civil, ← civil_add]
  congr 1
  have h : (4 * (jd + 146097) + 274277) / 146097 = (4 * jd + 274277) / 146097 + 4 := by omega
  rw [h]
  omega

theorem yearStart_add (y : Int) : yearStart (y + 400) = yearStart y + 146097 := by
  unfold yearStart; omega

theorem jd_shift (y m d : Int) : julian_day ⟨y + 400, m, d⟩ = julian_day ⟨y, m, d⟩ + 146097 := by
  rw [jd_eq, jd_eq, show marchYear (y + 400) m = marchYear y m + 400 by unfold marchYear; omega, yearStart_add]
  omega

theorem dim_shift (y m : Int) : daysInMonth (y + 400) m = daysInMonth y m := by
  have h : isLeap (y + 400) ↔ isLeap y := isLeap_add y 1
  unfold daysInMonth
  simp only [h]

theorem valid_shift (y m d : Int) : validYMD (y + 400) m d ↔ validYMD y m d := by
  unfold validYMD; rw [dim_shift]

theorem periodic_all (P : Int → Prop) (T B : Int) (hT : 0 < T) (hstep : ∀ x, P x ↔ P (x + T))
    (hbase : ∀ x, B ≤ x → x < B + T → P x) : ∀ x, P x := by
  have keyN : ∀ (n : Nat) (r : Int), P r ↔ P (r + T * (n : Int)) := by
    intro n
    induction n with
    | zero => intro r; simp
    | succ i ih =>
      intro r
      rw [ih r, hstep (r + T * (i : Int))]
      have : r + T * (i : Int) + T = r + T * ((i + 1 : Nat) : Int) := by
        rw [Int.natCast_succ, Int.mul_add]; omega
      rw [this]
  have key : ∀ (k : Int) (r : Int), P r ↔ P (r + T * k) := by
    intro k r
    rcases Int.eq_nat_or_neg k with ⟨n, hn | hn⟩
    · subst hn; exact keyN n r
    · subst hn
      have h := keyN n (r + T * (-(n : Int)))
      have e : r + T * (-(n : Int)) + T * (n : Int) = r := by
        rw [Int.mul_neg]; omega
      rw [e] at h
      exact h.symm
  intro x
  have hr := hbase (B + (x - B) % T) (by have := Int.emod_nonneg (x - B) (Int.ne_of_gt hT); omega)
    (by have := Int.emod_lt_of_pos (x - B) hT; omega)
  have hx : x = (B + (x - B) % T) + T * ((x - B) / T) := by
    have := Int.emod_add_mul_ediv (x - B) T; omega
  rw [hx]
  exact (key _ _).mp hr

theorem date_good (jd : Int) : julian_day (date jd) = jd ∧ DateValid (date jd) := by
  refine periodic_all (fun jd => julian_day (date jd) = jd ∧ DateValid (date jd)) 146097 1721120 (by decide)
    (fun x => ?_) date_period jd
  show _ ↔ julian_day (date (x + 146097)) = x + 146097 ∧ DateValid (date (x + 146097))
  rw [date_shift, jd_shift]
  show _ ↔ julian_day (date x) + 146097 = x + 146097 ∧ validYMD ((date x).year + 400) _ _
  rw [valid_shift]
  exact and_congr (by omega) Iff.rfl

def ofN (d : DateN) : Date := ⟨d.year, d.month, d.day⟩

theorem date_ofNat (n : Nat) (h : 1721120 ≤ n) : date (n : Int) = ofN (dateN n) := by
  rw [date_civil]
  have hf : (n : Int) + 1401 + (4 * (n : Int) + 274277) / 146097 * 3 / 4 - 38 =
      ((n + 1363 + (4 * n + 274277) / 146097 * 3 / 4 : Nat) : Int) := by omega
  have hY : 4716 ≤ (4 * (n + 1363 + (4 * n + 274277) / 146097 * 3 / 4) + 3) / 1461 := by omega
  rw [hf]
  unfold dateN
  generalize n + 1363 + (4 * n + 274277) / 146097 * 3 / 4 = f at *
  have hm : ∀ t : Nat, ((14 - (t % 12 + 1) : Nat) : Int) = 14 - ((t % 12 + 1 : Nat) : Int) := fun t => by omega
  simp only [civil, ofN, Date.mk.injEq]
  rw [Int.ofNat_sub (Nat.le_trans hY (Nat.le_add_right _ _))]
  simp only [hm, Int.natCast_add, Int.natCast_mul, Int.natCast_ediv, Int.natCast_emod, Int.cast_ofNat_Int, and_true]
  generalize (4 * (f : Int) + 3) / 1461 = Y
  omega

theorem jd_ofNat (d : DateN) (h1 : 1 ≤ d.month) (h2 : d.month ≤ 12) :
    julian_day (ofN d) = (jdN d : Int) := by
  obtain ⟨Y, M, D⟩ := d
  show julian_day ⟨(Y : Int), M, D⟩ = _
  rw [jd_eq]
  unfold jdN yearStart monthStart
  simp only [] at *
  have c := march_cases Y M (by omega) (by omega)
  have ha : (14 - M) / 12 = 1 ∧ M ≤ 2 ∨ (14 - M) / 12 = 0 ∧ 3 ≤ M := by omega
  generalize marchYear Y M = y' at *
  generalize marchMonth M = m' at *
  generalize (14 - M) / 12 = a at *
  have hy : ((Y + 4800 - a : Nat) : Int) = y' ∧ 4799 ≤ Y + 4800 - a := by omega
  have hm : ((M + 12 * a - 3 : Nat) : Int) = m' := by omega
  generalize Y + 4800 - a = y at *
  generalize M + 12 * a - 3 = m at *
  obtain ⟨rfl, hy⟩ := hy
  subst hm
  omega

end XrayModel.Conv
