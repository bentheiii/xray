/-
Fuel monotonicity of the extended evaluator (XrayModel/CoreX.lean): an answer other than "out of fuel"
is not changed by more fuel — for each of the ten mutually recursive functions — and hence is
independent of the fuel (`*_det`).  Also the case split of `builtin` on name and arity
(`builtin_shape`).
-/
import XrayProofs.CoreXBasic
import XrayProofs.CoreSteps
namespace XrayModel.CoreX

structure MonoAt (n : Nat) : Prop where
  eval : ∀ {cfg fr e tail st r st'}, eval n cfg fr e tail st = (r, st') → r ≠ .oof → eval (n + 1) cfg fr e tail st = (r, st')
  callNamed : ∀ {cfg fr f args tail st r st'}, callNamed n cfg fr f args tail st = (r, st') → r ≠ .oof → callNamed (n + 1) cfg fr f args tail st = (r, st')
  callVal : ∀ {cfg fr c args tail st r st'}, callVal n cfg fr c args tail st = (r, st') → r ≠ .oof → callVal (n + 1) cfg fr c args tail st = (r, st')
  evalList : ∀ {cfg fr es st x st'}, evalList n cfg fr es st = (x, st') → x ≠ .error .oof → evalList (n + 1) cfg fr es st = (x, st')
  mkClos : ∀ {cfg fr f st r st'}, mkClos n cfg fr f st = (r, st') → r ≠ .oof → mkClos (n + 1) cfg fr f st = (r, st')
  evalDflts : ∀ {cfg fr ps st x st'}, evalDflts n cfg fr ps st = (x, st') → x ≠ .error .oof → evalDflts (n + 1) cfg fr ps st = (x, st')
  callUser : ∀ {cfg ht c args st r st'}, callUser n cfg ht c args st = (r, st') → r ≠ .oof → callUser (n + 1) cfg ht c args st = (r, st')
  tramp : ∀ {cfg ht c args rec st r st'}, tramp n cfg ht c args rec st = (r, st') → r ≠ .oof → tramp (n + 1) cfg ht c args rec st = (r, st')
  evalDecls : ∀ {cfg fr ds st x st'}, evalDecls n cfg fr ds st = (x, st') → x ≠ .error .oof → evalDecls (n + 1) cfg fr ds st = (x, st')
  builtin : ∀ {cfg fr f args tail st r st'}, builtin n cfg fr f args tail st = (r, st') → r ≠ .oof → builtin (n + 1) cfg fr f args tail st = (r, st')

set_option hygiene false in
/-- name the outcome of a sub-evaluation; if it ran out of fuel so did the whole (contradiction),
otherwise replace the sub-evaluation with one more unit of fuel by the same outcome -/
macro "mono_sub " t:term " => " ihx:term : tactic => `(tactic|
  (rcases hs : $t with ⟨r1, s1⟩
   rw [hs] at h
   by_cases h1 : r1 = Res.oof
   · subst h1; simp_all
   rw [$ihx hs h1]))

set_option hygiene false in
macro "mono_subE " t:term " => " ihx:term : tactic => `(tactic|
  (rcases hs : $t with ⟨r1, s1⟩
   rw [hs] at h
   by_cases h1 : r1 = Except.error Res.oof
   · subst h1; simp_all
   rw [$ihx hs h1]))

/-- the generic arm of `builtin` -/
def strictCall (n : Nat) (cfg : Cfg) (fr : Frame) (f : String) (args : List Expr) (st : St) : Res × St :=
  if isStrictPrim f then
    match evalList n cfg fr args st with
    | (.ok vs, st') => (prim f vs, st')
    | (.error r, st') => (r, st')
  else (.stuck ("unknown function " ++ f), st)

theorem builtin_shape (f : String) (args : List Expr) :
    (∃ c a b, f = "if" ∧ args = [c, a, b]) ∨ (∃ a b, f = "and" ∧ args = [a, b]) ∨
    (∃ a b, f = "or" ∧ args = [a, b]) ∨ (∃ a b, f = "if_error" ∧ args = [a, b]) ∨
    (∃ a, f = "is_error" ∧ args = [a]) ∨ (∃ a, f = "display" ∧ args = [a]) ∨
    (∃ o g d, f = "map_or" ∧ args = [o, g, d]) ∨
    (∀ n cfg fr tail st, builtin (n + 1) cfg fr f args tail st = strictCall n cfg fr f args st) := by
  by_cases h1 : ∃ c a b, f = "if" ∧ args = [c, a, b]
  · exact .inl h1
  by_cases h2 : ∃ a b, f = "and" ∧ args = [a, b]
  · exact .inr (.inl h2)
  by_cases h3 : ∃ a b, f = "or" ∧ args = [a, b]
  · exact .inr (.inr (.inl h3))
  by_cases h4 : ∃ a b, f = "if_error" ∧ args = [a, b]
  · exact .inr (.inr (.inr (.inl h4)))
  by_cases h5 : ∃ a, f = "is_error" ∧ args = [a]
  · exact .inr (.inr (.inr (.inr (.inl h5))))
  by_cases h6 : ∃ a, f = "display" ∧ args = [a]
  · exact .inr (.inr (.inr (.inr (.inr (.inl h6)))))
  by_cases h7 : ∃ o g d, f = "map_or" ∧ args = [o, g, d]
  · exact .inr (.inr (.inr (.inr (.inr (.inr (.inl h7))))))
  refine .inr (.inr (.inr (.inr (.inr (.inr (.inr ?_))))))
  intro n cfg fr tail st
  rw [builtin]
  · rfl
  all_goals
    intros
    simp_all

theorem builtin_strict {f : String} (hf : isStrictPrim f = true) (n : Nat) (cfg : Cfg) (fr : Frame)
    (args : List Expr) (tail : Bool) (st : St) :
    builtin (n + 1) cfg fr f args tail st = strictCall n cfg fr f args st := by
  rcases builtin_shape f args with ⟨_, _, _, rfl, _⟩ | ⟨_, _, rfl, _⟩ | ⟨_, _, rfl, _⟩ | ⟨_, _, rfl, _⟩ |
    ⟨_, rfl, _⟩ | ⟨_, rfl, _⟩ | ⟨_, _, _, rfl, _⟩ | hd
  all_goals first
    | exact hd n cfg fr tail st
    | exact absurd hf (by decide)

theorem monoAt (n : Nat) : MonoAt n := by
  induction n with
  | zero =>
    constructor <;> (intros; rename_i h hne; cases h; exact absurd rfl hne)
  | succ n ih =>
    constructor
    case eval =>
      intro cfg fr e tail st r st' h hne
      cases e with
      | int _ | bool _ | str _ | var _ => exact h
      | item e i =>
        rw [eval] at h ⊢
        mono_sub (eval n cfg fr e false st) => ih.eval
        exact h
      | variant tag e =>
        rw [eval] at h ⊢
        mono_sub (eval n cfg fr e false st) => ih.eval
        exact h
      | memberValue e tag =>
        rw [eval] at h ⊢
        mono_sub (eval n cfg fr e false st) => ih.eval
        exact h
      | memberOpt e tag =>
        rw [eval] at h ⊢
        mono_sub (eval n cfg fr e false st) => ih.eval
        exact h
      | tup es =>
        rw [eval] at h ⊢
        mono_subE (evalList n cfg fr es st) => ih.evalList
        exact h
      | arr es =>
        rw [eval] at h ⊢
        mono_subE (evalList n cfg fr es st) => ih.evalList
        exact h
      | lam f =>
        rw [eval] at h ⊢
        exact ih.mkClos h hne
      | callE fe args =>
        rw [eval] at h ⊢
        mono_sub (eval n cfg fr fe false st) => ih.eval
        rcases r1 with v | _ | _ | _ | _
        · cases v <;> first | exact h | exact ih.callVal h hne
        all_goals exact h
      | call f args =>
        rw [eval] at h ⊢
        rcases hself : fr.self with _ | ⟨sn, sc⟩
        · simp only [hself] at h ⊢
          exact ih.callNamed h hne
        · simp only [hself] at h ⊢
          by_cases hc : (f = sn && (lookup f fr.env).isNone) = true
          · simp only [hc, if_true] at h ⊢
            by_cases ht : (tail && cfg.tco) = true
            · simp only [ht, if_true] at h ⊢
              mono_subE (evalList n cfg fr args st) => ih.evalList
              exact h
            · simp only [ht] at h ⊢
              exact ih.callVal h hne
          · simp only [hc] at h ⊢
            exact ih.callNamed h hne
    case callNamed =>
      intro cfg fr f args tail st r st' h hne
      rw [callNamed] at h ⊢
      cases hg : fr.get f with
      | none => simp only [hg] at h ⊢; exact ih.builtin h hne
      | some c => simp only [hg] at h ⊢; exact ih.callVal h hne
    case callVal =>
      intro cfg fr c args tail st r st' h hne
      cases c with
      | clos f d env =>
        rw [callVal] at h ⊢
        mono_subE (evalList n cfg fr args st) => ih.evalList
        rcases r1 with x | vs
        · exact h
        · exact ih.callUser h hne
      | _ => exact h
    case evalList =>
      intro cfg fr es st x st' h hne
      cases es with
      | nil => exact h
      | cons e rest =>
        rw [evalList] at h ⊢
        mono_sub (eval n cfg fr e false st) => ih.eval
        rcases r1 with v | _ | _ | _ | _
        · cases v
          case err => exact h
          all_goals
            simp only [] at h ⊢
            mono_subE (evalList n cfg fr rest s1) => ih.evalList
            exact h
        all_goals exact h
    case mkClos =>
      intro cfg fr f st r st' h hne
      rw [mkClos] at h ⊢
      mono_subE (evalDflts n cfg fr f.params st) => ih.evalDflts
      exact h
    case evalDflts =>
      intro cfg fr ps st x st' h hne
      cases ps with
      | nil => exact h
      | cons p rest =>
        rw [evalDflts] at h ⊢
        cases hd : p.dflt with
        | none => simp only [hd] at h ⊢; exact ih.evalDflts h hne
        | some d =>
          simp only [hd] at h ⊢
          mono_sub (eval n cfg fr d false st) => ih.eval
          rcases r1 with v | _ | _ | _ | _
          · simp only [] at h ⊢
            mono_subE (evalDflts n cfg fr rest s1) => ih.evalDflts
            exact h
          all_goals exact h
    case callUser =>
      intro cfg ht c args st r st' h hne
      rw [callUser] at h ⊢
      cases hf : firstErr args with
      | some e => simp only [hf] at h ⊢; exact h
      | none =>
        simp only [hf] at h ⊢
        cases hl : cfg.callLimit with
        | none => simp only [hl] at h ⊢; exact ih.tramp h hne
        | some l =>
          simp only [hl] at h ⊢
          exact ite_mono h fun h => ih.tramp h hne
    case tramp =>
      intro cfg ht c args rec st r st' h hne
      cases c with
      | clos f d env =>
        rw [tramp] at h ⊢
        simp only [] at h ⊢
        refine ite_mono h (fun h => ?_)
        cases hb : bindParams f.params args d with
        | none => simp only [hb] at h ⊢; exact h
        | some ps =>
          simp only [hb] at h ⊢
          mono_subE (evalDecls n cfg _ f.decls st) => ih.evalDecls
          rcases r1 with x | fr'
          · exact h
          · simp only [] at h ⊢
            mono_sub (eval n cfg fr' f.body true s1) => ih.eval
            rcases r1 with v | _ | newArgs | _ | _
            case tail =>
              simp only [] at h ⊢
              refine ite_mono h (fun h => ?_)
              exact ih.tramp h hne
            all_goals exact h
      | _ => exact h
    case evalDecls =>
      intro cfg fr ds st x st' h hne
      cases ds with
      | nil => exact h
      | cons d rest =>
        cases d with
        | letD y e =>
          rw [evalDecls] at h ⊢
          mono_sub (eval n cfg fr e false st) => ih.eval
          rcases r1 with v | _ | _ | _ | _
          · exact ih.evalDecls h hne
          all_goals exact h
        | fnD f =>
          rw [evalDecls] at h ⊢
          mono_sub (mkClos n cfg fr f st) => ih.mkClos
          rcases r1 with v | _ | _ | _ | _
          · simp only [] at h ⊢
            cases hn : f.name with
            | none => simp only [hn] at h ⊢; exact h
            | some nm => simp only [hn] at h ⊢; exact ih.evalDecls h hne
          all_goals exact h
    case builtin =>
      intro cfg fr f args tail st r st' h hne
      rcases builtin_shape f args with ⟨c, a, b, rfl, rfl⟩ | ⟨a, b, rfl, rfl⟩ | ⟨a, b, rfl, rfl⟩ | ⟨a, b, rfl, rfl⟩ |
        ⟨a, rfl, rfl⟩ | ⟨a, rfl, rfl⟩ | ⟨o, g, d, rfl, rfl⟩ | hd
      · rw [builtin] at h ⊢
        mono_sub (eval n cfg fr c false st) => ih.eval
        rcases r1 with v | _ | _ | _ | _
        · cases v <;> first | exact h | exact ih.eval h hne
        all_goals exact h
      · rw [builtin] at h ⊢
        mono_sub (eval n cfg fr a false st) => ih.eval
        rcases r1 with v | _ | _ | _ | _
        · cases v
          case bool t => cases t <;> first | exact h | exact ih.eval h hne
          all_goals first | exact h | exact ih.eval h hne
        all_goals exact h
      · rw [builtin] at h ⊢
        mono_sub (eval n cfg fr a false st) => ih.eval
        rcases r1 with v | _ | _ | _ | _
        · cases v
          case bool t => cases t <;> first | exact h | exact ih.eval h hne
          all_goals first | exact h | exact ih.eval h hne
        all_goals exact h
      · rw [builtin] at h ⊢
        mono_sub (eval n cfg fr a false st) => ih.eval
        rcases r1 with v | _ | _ | _ | _
        · cases v <;> first | exact h | exact ih.eval h hne
        all_goals exact h
      · rw [builtin] at h ⊢
        mono_sub (eval n cfg fr a false st) => ih.eval
        exact h
      · rw [builtin] at h ⊢
        mono_sub (eval n cfg fr a false st) => ih.eval
        exact h
      · rw [builtin] at h ⊢
        mono_sub (eval n cfg fr o false st) => ih.eval
        rcases r1 with v | _ | _ | _ | _
        · cases v
          case none => exact ih.eval h hne
          case some w =>
            simp only [] at h ⊢
            mono_sub (eval n cfg fr g false s1) => ih.eval
            rcases r1 with v | _ | _ | _ | _
            · cases v <;> first | exact h | exact ih.callUser h hne
            all_goals exact h
          all_goals exact h
        all_goals exact h
      · rw [hd] at h ⊢
        unfold strictCall at h ⊢
        split at h
        · rename_i hp
          rw [if_pos hp]
          mono_subE (evalList n cfg fr args st) => ih.evalList
          exact h
        · rename_i hp
          rw [if_neg hp]; exact h

theorem eval_mono {n m : Nat} (hle : n ≤ m) {cfg fr e tail st r st'}
    (h : eval n cfg fr e tail st = (r, st')) (hne : r ≠ Res.oof) : eval m cfg fr e tail st = (r, st') :=
  fuel_mono (f := fun n => eval n cfg fr e tail st) (fun n _ _ => (monoAt n).eval) hle h hne

theorem builtin_mono {n m : Nat} (hle : n ≤ m) {cfg fr f args tail st r st'}
    (h : builtin n cfg fr f args tail st = (r, st')) (hne : r ≠ Res.oof) : builtin m cfg fr f args tail st = (r, st') :=
  fuel_mono (f := fun n => builtin n cfg fr f args tail st) (fun n _ _ => (monoAt n).builtin) hle h hne

theorem eval_det {n m : Nat} {cfg fr e tail st r1 r2 s1 s2}
    (h1 : eval n cfg fr e tail st = (r1, s1)) (h2 : eval m cfg fr e tail st = (r2, s2))
    (hn1 : r1 ≠ Res.oof) (hn2 : r2 ≠ Res.oof) : r1 = r2 ∧ s1 = s2 :=
  fuel_det (f := fun n => eval n cfg fr e tail st) (fun n _ _ => (monoAt n).eval) h1 h2 hn1 hn2

theorem callNamed_det {n m : Nat} {cfg fr f args tail st r1 r2 s1 s2}
    (h1 : callNamed n cfg fr f args tail st = (r1, s1)) (h2 : callNamed m cfg fr f args tail st = (r2, s2))
    (hn1 : r1 ≠ Res.oof) (hn2 : r2 ≠ Res.oof) : r1 = r2 ∧ s1 = s2 :=
  fuel_det (f := fun n => callNamed n cfg fr f args tail st) (fun n _ _ => (monoAt n).callNamed) h1 h2 hn1 hn2

theorem callVal_det {n m : Nat} {cfg fr c args tail st r1 r2 s1 s2}
    (h1 : callVal n cfg fr c args tail st = (r1, s1)) (h2 : callVal m cfg fr c args tail st = (r2, s2))
    (hn1 : r1 ≠ Res.oof) (hn2 : r2 ≠ Res.oof) : r1 = r2 ∧ s1 = s2 :=
  fuel_det (f := fun n => callVal n cfg fr c args tail st) (fun n _ _ => (monoAt n).callVal) h1 h2 hn1 hn2

theorem evalList_det {n m : Nat} {cfg fr es st x1 x2 s1 s2}
    (h1 : evalList n cfg fr es st = (x1, s1)) (h2 : evalList m cfg fr es st = (x2, s2))
    (hn1 : x1 ≠ Except.error Res.oof) (hn2 : x2 ≠ Except.error Res.oof) : x1 = x2 ∧ s1 = s2 :=
  fuel_det (f := fun n => evalList n cfg fr es st) (fun n _ _ => (monoAt n).evalList) h1 h2 hn1 hn2

theorem mkClos_det {n m : Nat} {cfg fr f st r1 r2 s1 s2}
    (h1 : mkClos n cfg fr f st = (r1, s1)) (h2 : mkClos m cfg fr f st = (r2, s2))
    (hn1 : r1 ≠ Res.oof) (hn2 : r2 ≠ Res.oof) : r1 = r2 ∧ s1 = s2 :=
  fuel_det (f := fun n => mkClos n cfg fr f st) (fun n _ _ => (monoAt n).mkClos) h1 h2 hn1 hn2

theorem evalDflts_det {n m : Nat} {cfg fr ps st x1 x2 s1 s2}
    (h1 : evalDflts n cfg fr ps st = (x1, s1)) (h2 : evalDflts m cfg fr ps st = (x2, s2))
    (hn1 : x1 ≠ Except.error Res.oof) (hn2 : x2 ≠ Except.error Res.oof) : x1 = x2 ∧ s1 = s2 :=
  fuel_det (f := fun n => evalDflts n cfg fr ps st) (fun n _ _ => (monoAt n).evalDflts) h1 h2 hn1 hn2

theorem callUser_det {n m : Nat} {cfg ht c args st r1 r2 s1 s2}
    (h1 : callUser n cfg ht c args st = (r1, s1)) (h2 : callUser m cfg ht c args st = (r2, s2))
    (hn1 : r1 ≠ Res.oof) (hn2 : r2 ≠ Res.oof) : r1 = r2 ∧ s1 = s2 :=
  fuel_det (f := fun n => callUser n cfg ht c args st) (fun n _ _ => (monoAt n).callUser) h1 h2 hn1 hn2

theorem tramp_det {n m : Nat} {cfg ht c args rec st r1 r2 s1 s2}
    (h1 : tramp n cfg ht c args rec st = (r1, s1)) (h2 : tramp m cfg ht c args rec st = (r2, s2))
    (hn1 : r1 ≠ Res.oof) (hn2 : r2 ≠ Res.oof) : r1 = r2 ∧ s1 = s2 :=
  fuel_det (f := fun n => tramp n cfg ht c args rec st) (fun n _ _ => (monoAt n).tramp) h1 h2 hn1 hn2

theorem evalDecls_det {n m : Nat} {cfg fr ds st x1 x2 s1 s2}
    (h1 : evalDecls n cfg fr ds st = (x1, s1)) (h2 : evalDecls m cfg fr ds st = (x2, s2))
    (hn1 : x1 ≠ Except.error Res.oof) (hn2 : x2 ≠ Except.error Res.oof) : x1 = x2 ∧ s1 = s2 :=
  fuel_det (f := fun n => evalDecls n cfg fr ds st) (fun n _ _ => (monoAt n).evalDecls) h1 h2 hn1 hn2

theorem builtin_det {n m : Nat} {cfg fr f args tail st r1 r2 s1 s2}
    (h1 : builtin n cfg fr f args tail st = (r1, s1)) (h2 : builtin m cfg fr f args tail st = (r2, s2))
    (hn1 : r1 ≠ Res.oof) (hn2 : r2 ≠ Res.oof) : r1 = r2 ∧ s1 = s2 :=
  fuel_det (f := fun n => builtin n cfg fr f args tail st) (fun n _ _ => (monoAt n).builtin) h1 h2 hn1 hn2

end XrayModel.CoreX
