/- the work bound of the generator step machine: how many unproductive iterations one `next()` may perform (C10).
Every construct that loops is a family of states with a rank (`Ranked`): a skip of its own lowers the rank, every other
skip is a skip of the source it reads.  `Ranked.bound` is the one bound theorem; the adaptors without a loop (rank 0),
the loops that take a search permit per iteration (rank: the permits to come), chain, repeat and zip are its instances. -/
import XrayProofs.GenFrame
namespace XrayModel.Gen

def BndN (L : Option Nat) (B : Nat) : Nat → It → Prop
  | 0, it => next L (B + 1) it ≠ .outOfFuel
  | n + 1, it => next L (B + 1) it ≠ .outOfFuel ∧
      (match step L it with
       | .done => True
       | .skip s => BndN L B n s
       | .yield _ s => BndN L B n s)

/-- from `it` and from every state reachable from it, `next()` answers after at most `B` unproductive
iterations -/
def Bnd (L : Option Nat) (B : Nat) (it : It) : Prop := ∀ n, BndN L B n it

theorem bnd_next {L B it} (h : Bnd L B it) : next L (B + 1) it ≠ .outOfFuel := h 0

theorem bnd_skip {L B it s} (h : Bnd L B it) (hs : step L it = .skip s) : Bnd L B s := by
  intro n; have := (h (n + 1)).2; rwa [hs] at this

theorem bnd_yield {L B it x s} (h : Bnd L B it) (hs : step L it = .yield x s) : Bnd L B s := by
  intro n; have := (h (n + 1)).2; rwa [hs] at this

theorem bnd_after {L B n it s} (h : Bnd L B it) (hs : after L n it = some s) : Bnd L B s := by
  induction n generalizing it with
  | zero => cases hs; exact h
  | succ n ih =>
    rw [after] at hs
    cases hst : step L it with
    | done => simp [hst] at hs
    | skip t => rw [hst] at hs; exact ih (bnd_skip h hst) hs
    | «yield» x t => rw [hst] at hs; exact ih (bnd_yield h hst) hs

/-- coinduction (`Bnd` quantifies over the depth `n` of `BndN`, so the proof is an induction on `n`) -/
theorem bnd_coind {L : Option Nat} {B : Nat} (R : It → Prop)
    (hn : ∀ it, R it → next L (B + 1) it ≠ .outOfFuel)
    (hs : ∀ it, R it → match step L it with
      | .done => True
      | .skip s => R s
      | .yield _ s => R s) :
    ∀ it, R it → Bnd L B it := by
  intro it h n
  induction n generalizing it with
  | zero => exact hn it h
  | succ n ih =>
    refine ⟨hn it h, ?_⟩
    have := hs it h
    cases hst : step L it with
    | done => trivial
    | skip s => rw [hst] at this; exact ih s this
    | «yield» x s => rw [hst] at this; exact ih s this

theorem next_eq_of_le (L : Option Nat) : ∀ a it, next L a it ≠ .outOfFuel → ∀ b, a ≤ b → next L b it = next L a it := by
  intro a
  induction a with
  | zero => intro it h; exact absurd rfl h
  | succ a ih =>
    intro it h b hb
    obtain ⟨b', rfl⟩ : ∃ b', b = b' + 1 := ⟨b - 1, by omega⟩
    simp only [next] at h ⊢
    cases hs : step L it with
    | skip s => rw [hs] at h; exact ih s h b' (by omega)
    | _ => rfl

theorem next_answers_of_le {L a it} (h : next L a it ≠ .outOfFuel) {b} (hb : a ≤ b) : next L b it ≠ .outOfFuel := by
  rw [next_eq_of_le L a it h b hb]; exact h

theorem bnd_mono {L B B' it} (h : Bnd L B it) (hB : B ≤ B') : Bnd L B' it := by
  refine bnd_coind (fun t => Bnd L B t) (fun t ht => next_answers_of_le (bnd_next ht) (by omega)) ?_ it h
  intro t ht
  cases hs : step L t with
  | done => trivial
  | skip s => exact bnd_skip ht hs
  | «yield» x s => exact bnd_yield ht hs

theorem next_skipsTo {L j it it'} (hk : skipsTo L j it it') (F : Nat) : next L (j + F) it = next L F it' := by
  induction j generalizing it with
  | zero => cases hk; rw [Nat.zero_add]
  | succ j ih => obtain ⟨s, hs, hr⟩ := hk; rw [Nat.succ_add, next, hs]; exact ih hr

/-- `skipsTo` as a function of the start -/
def skipN (L : Option Nat) : Nat → It → Option It
  | 0, it => some it
  | n + 1, it =>
    match step L it with
    | .skip s => skipN L n s
    | _ => none

theorem skipsTo_of_skipN {L j it it'} (hk : skipN L j it = some it') : skipsTo L j it it' := by
  induction j generalizing it with
  | zero => exact Option.some.inj hk
  | succ j ih =>
    rw [skipN] at hk
    cases hs : step L it with
    | skip s => rw [hs] at hk; exact ⟨s, hs, ih hk⟩
    | _ => simp [hs] at hk

theorem skip_congr (L : Option Nat) (C : It → It)
    (hC : ∀ it s, step L it = .skip s → step L (C it) = .skip (C s)) :
    ∀ j it it', skipN L j it = some it' → ∀ F, next L (j + F) (C it) = next L F (C it') :=
  fun _ _ _ hk => next_skipsTo (skipsTo_congr C hC (skipsTo_of_skipN hk))

/-- a family of loops: in state `a` (invariant `R`) the iterator `C a` reads the source `src a` and has rank `μ a ≤ K`.
A step of the loop that skips either follows a skip of its source at the same rank, or the rank falls (and the
source may be exchanged for another one) -/
structure Ranked {σ : Type} (L : Option Nat) (B K : Nat) (C : σ → It) (R : σ → Prop) (src : σ → It) (μ : σ → Nat) :
    Prop where
  bnd : ∀ a, R a → Bnd L B (src a)
  le : ∀ a, R a → μ a ≤ K
  sim : ∀ a, R a → match step L (C a) with
    | .done => True
    | .yield _ t => ∃ a', t = C a' ∧ R a'
    | .skip t => ∃ a', t = C a' ∧ R a' ∧ (μ a' < μ a ∨ μ a' = μ a ∧ step L (src a) = .skip (src a'))

namespace Ranked
variable {σ : Type} {L : Option Nat} {B K : Nat} {C : σ → It} {R : σ → Prop} {src : σ → It} {μ : σ → Nat}

/-- at rank ≤ `m` the loop answers within `m` skips of its own and `m + 1` runs of at most `B` skips of a source:
inner induction on the fuel `b` within which the present source answers, outer induction on the rank -/
theorem answers (h : Ranked L B K C R src μ) : ∀ (m : Nat) a, R a → μ a ≤ m →
    next L (m * (B + 1) + (B + 1)) (C a) ≠ .outOfFuel := by
  have one (m : Nat) (rec : ∀ a, R a → μ a < m → next L (m * (B + 1)) (C a) ≠ .outOfFuel) :
      ∀ b a, R a → μ a ≤ m → next L b (src a) ≠ .outOfFuel → next L (m * (B + 1) + b) (C a) ≠ .outOfFuel := by
    intro b
    induction b with
    | zero => intro a _ _ hb; exact absurd rfl hb
    | succ b ih =>
      intro a ha hm hb
      have hs := h.sim a ha
      rw [← Nat.add_assoc, next]
      cases hc : step L (C a) with
      | done => simp
      | «yield» y t => simp
      | skip t =>
        rw [hc] at hs
        obtain ⟨a', rfl, ha', lt | ⟨e, hsrc⟩⟩ := hs
        · exact next_answers_of_le (rec a' ha' (by omega)) (by omega)
        · rw [next, hsrc] at hb
          exact ih a' ha' (by omega) hb
  intro m
  induction m with
  | zero => exact fun a ha hm => one 0 (fun _ _ lt => absurd lt (Nat.not_lt_zero _)) _ a ha hm (bnd_next (h.bnd a ha))
  | succ m ih =>
    exact fun a ha hm => one (m + 1) (fun a' ha' lt => Nat.succ_mul m (B + 1) ▸ ih a' ha' (Nat.le_of_lt_succ lt))
      _ a ha hm (bnd_next (h.bnd a ha))

/-- the work bound of every loop of the model: at most `K` skips of its own, and a source skips at most `B` times
before each of them and before the answer -/
theorem bound (h : Ranked L B K C R src μ) (a : σ) (ha : R a) :
    Bnd L (K * (B + 1) + B) (C a) := by
  refine bnd_coind (fun t => ∃ a, t = C a ∧ R a) ?_ ?_ _ ⟨a, rfl, ha⟩
  · rintro t ⟨a, rfl, ha⟩
    exact next_answers_of_le (h.answers K a ha (h.le a ha)) (by omega)
  · rintro t ⟨a, rfl, ha⟩
    have hs := h.sim a ha
    cases hc : step L (C a) with
    | done => trivial
    | «yield» y t => rw [hc] at hs; exact hs
    | skip t => rw [hc] at hs; obtain ⟨a', e, ha', _⟩ := hs; exact ⟨a', e, ha'⟩

end Ranked

/-- adaptors without a loop of their own keep the bound of their source -/
theorem bnd_pass {α : Type} (L : Option Nat) (B : Nat) (C : α → It → It)
    (h1 : ∀ a it s, step L it = .skip s → step L (C a it) = .skip (C a s) ∨ step L (C a it) = .done)
    (h2 : ∀ a it, step L it = .done → step L (C a it) = .done)
    (h3 : ∀ a it x s, step L it = .yield x s →
      step L (C a it) = .done ∨ ∃ y a', step L (C a it) = .yield y (C a' s)) :
    ∀ a it, Bnd L B it → Bnd L B (C a it) := by
  -- no skip of its own: rank 0 throughout
  have hR : Ranked L B 0 (fun a : α × It => C a.1 a.2) (fun a => Bnd L B a.2) (·.2) (fun _ => 0) := by
    refine ⟨fun _ h => h, fun _ _ => Nat.le_refl _, fun ⟨a, it⟩ h => ?_⟩
    dsimp only at h ⊢
    cases hs : step L it with
    | done => rw [h2 a it hs]; trivial
    | skip s =>
      rcases h1 a it s hs with h' | h' <;> rw [h']
      · exact ⟨(a, s), rfl, bnd_skip h hs, .inr ⟨rfl, rfl⟩⟩
      · trivial
    | «yield» x s =>
      rcases h3 a it x s hs with h' | ⟨y, a', h'⟩ <;> rw [h']
      · trivial
      · exact ⟨(a', s), rfl, bnd_yield h hs⟩
  intro a it h
  simpa using hR.bound (a, it) h

/-- the frames of adaptors without a loop of their own -/
structure PassT {α : Type} (T : α → Sh → TO α) : Prop where
  skip : ∀ a, T a .skip = .skip a
  done : ∀ a, T a .done = .done
  yld : ∀ a x a', T a (.yld x) ≠ .skip a'

theorem Frame.bnd_pass {α : Type} {L : Option Nat} {C : α → It → It} {T : α → Sh → TO α} (hT : Frame L C T)
    (hp : PassT T) (B : Nat) (a : α) (it : It) (h : Bnd L B it) : Bnd L B (C a it) := by
  refine Gen.bnd_pass L B C ?_ ?_ ?_ a it h
  · intro a it s hs; rw [hT, hs]; left; simp only [hp.skip]; rfl
  · intro a it hs; rw [hT, hs]; simp only [hp.done]; rfl
  · intro a it x s hs
    rw [hT, hs]
    dsimp only
    cases e : T a (.yld x) with
    | done => left; rfl
    | skip a' => exact absurd e (hp.yld a x a')
    | yld y a' => right; exact ⟨y, a', rfl⟩

theorem passT_map (f : F) : PassT (tMap f) := ⟨fun _ => rfl, fun _ => rfl, fun _ _ _ => nofun⟩

theorem passT_takeWhile (p : P) : PassT (tTakeWhile p) := by
  refine ⟨fun _ => rfl, fun _ => rfl, fun _ x _ => ?_⟩
  cases x with
  | viol => nofun
  | err => simp only [tTakeWhile]; cases p .err <;> nofun
  | val v => simp only [tTakeWhile]; cases p (.val v) <;> nofun

theorem passT_aggregate (f : F2) : PassT (tAggregate f) := by
  refine ⟨fun _ => rfl, fun _ => rfl, fun st x _ => ?_⟩
  cases x with
  | viol => nofun
  | err => simp only [tAggregate]; cases f st .err <;> nofun
  | val v => simp only [tAggregate]; cases f st (.val v) <;> nofun

theorem passT_withCount (eq : V → V → Bool) : PassT (tWithCount eq) := by
  refine ⟨fun _ => rfl, fun _ => rfl, fun _ x _ => ?_⟩
  cases x <;> nofun

theorem passT_budget : PassT tBudget := by
  refine ⟨fun _ => rfl, fun _ => rfl, fun perm x _ => ?_⟩
  simp only [tBudget]
  obtain ⟨t, q⟩ := perm.next
  cases t <;> nofun

theorem bnd_aggregate (L : Option Nat) (B : Nat) (st : Item) (f : F2) (first : Bool) (it : It) (h : Bnd L B it) :
    Bnd L B (.aggregate it st f first) := by
  have hrun := (frame_aggregate L f).bnd_pass (passT_aggregate f) B st it h
  cases first with
  | false => exact hrun
  | true =>
    intro n
    cases n with
    | zero => simp [BndN, next, step_aggregate_first]
    | succ n => exact ⟨by simp [next, step_aggregate_first], by rw [step_aggregate_first]; exact hrun n⟩

/-! ### adaptors whose own loop takes a search permit per iteration -/

/-- the number of `Ok` permits still to come, plus one for the violation -/
def Permits.bound : Permits → Nat
  | .left k => k + 1
  | _ => 0

theorem permits_next_props (perm : Permits) (hu : perm ≠ .unlimited) :
    (perm.next.2 ≠ .unlimited ∧ perm.next.2.bound ≤ perm.bound) ∧
    (perm.next.1 = .ok → perm.next.2.bound < perm.bound) := by
  cases perm with
  | unlimited => exact absurd rfl hu
  | dead => simp [Permits.next, Permits.bound]
  | left k => cases k <;> simp [Permits.next, Permits.bound]

/-- `C` takes (own state, permits, source); a skip of its own uses up a permit -/
structure PermitLoop {α : Type} (L : Option Nat) (C : α → Permits → It → It) : Prop where
  skip : ∀ a perm it s, step L it = .skip s →
    step L (C a perm it) = .skip (C a perm s) ∨ step L (C a perm it) = .done
  done : ∀ a perm it, perm ≠ .unlimited → step L it = .done →
    step L (C a perm it) = .done ∨
    ∃ y a' perm', step L (C a perm it) = .yield y (C a' perm' it) ∧ perm' ≠ .unlimited ∧ perm'.bound ≤ perm.bound
  yld : ∀ a perm it x s, perm ≠ .unlimited → step L it = .yield x s →
    step L (C a perm it) = .done ∨
    (∃ y a' perm', step L (C a perm it) = .yield y (C a' perm' s) ∧ perm' ≠ .unlimited ∧ perm'.bound ≤ perm.bound) ∨
    (∃ a' perm', step L (C a perm it) = .skip (C a' perm' s) ∧ perm' ≠ .unlimited ∧ perm'.bound < perm.bound)

namespace PermitLoop

/-- the rank is the number of permits still to come: a skip of the loop's own has taken one -/
theorem ranked {α : Type} {L : Option Nat} {C : α → Permits → It → It} (hC : PermitLoop L C) (B k : Nat) :
    Ranked L B k (fun a : α × Permits × It => C a.1 a.2.1 a.2.2)
      (fun a => a.2.1 ≠ .unlimited ∧ a.2.1.bound ≤ k ∧ Bnd L B a.2.2) (·.2.2) (·.2.1.bound) := by
  refine ⟨fun _ h => h.2.2, fun _ h => h.2.1, fun ⟨a, perm, it⟩ ⟨hu, hb, h⟩ => ?_⟩
  dsimp only at hu hb h ⊢
  cases hs : step L it with
  | done =>
    rcases hC.done a perm it hu hs with h' | ⟨y, a', perm', h', hu', hle⟩ <;> rw [h']
    · trivial
    · exact ⟨(a', perm', it), rfl, hu', Nat.le_trans hle hb, h⟩
  | skip s =>
    rcases hC.skip a perm it s hs with h' | h' <;> rw [h']
    · exact ⟨(a, perm, s), rfl, ⟨hu, hb, bnd_skip h hs⟩, .inr ⟨rfl, rfl⟩⟩
    · trivial
  | «yield» x s =>
    rcases hC.yld a perm it x s hu hs with h' | ⟨y, a', perm', h', hu', hle⟩ | ⟨a', perm', h', hu', hlt⟩ <;> rw [h']
    · trivial
    · exact ⟨(a', perm', s), rfl, hu', Nat.le_trans hle hb, bnd_yield h hs⟩
    · exact ⟨(a', perm', s), rfl, ⟨hu', Nat.le_trans (Nat.le_of_lt hlt) hb, bnd_yield h hs⟩, .inl hlt⟩

theorem bnd {α : Type} {L : Option Nat} {C : α → Permits → It → It} (hC : PermitLoop L C) (B : Nat)
    (k : Nat) (a : α) (perm : Permits) (it : It) (hu : perm ≠ .unlimited) (hb : perm.bound ≤ k) (h : Bnd L B it) :
    Bnd L ((k + 1) * (B + 1)) (C a perm it) :=
  bnd_mono ((hC.ranked B k).bound (a, perm, it) ⟨hu, hb, h⟩) (by rw [Nat.succ_mul]; omega)

end PermitLoop

theorem bnd_permit {α : Type} (L : Option Nat) (B0 : Nat) (C : α → Permits → It → It)
    (h1 : ∀ a perm it s, step L it = .skip s →
      step L (C a perm it) = .skip (C a perm s) ∨ step L (C a perm it) = .done)
    (h2 : ∀ a perm it, perm ≠ .unlimited → step L it = .done →
      step L (C a perm it) = .done ∨
      ∃ y a' perm', step L (C a perm it) = .yield y (C a' perm' it) ∧ perm' ≠ .unlimited ∧ perm'.bound ≤ perm.bound)
    (h3 : ∀ a perm it x s, perm ≠ .unlimited → step L it = .yield x s →
      step L (C a perm it) = .done ∨
      (∃ y a' perm', step L (C a perm it) = .yield y (C a' perm' s) ∧ perm' ≠ .unlimited ∧ perm'.bound ≤ perm.bound) ∨
      (∃ a' perm', step L (C a perm it) = .skip (C a' perm' s) ∧ perm' ≠ .unlimited ∧ perm'.bound < perm.bound)) :
    ∀ (k : Nat) a perm it, perm ≠ .unlimited → perm.bound ≤ k → Bnd L B0 it →
      Bnd L ((k + 1) * (B0 + 1)) (C a perm it) :=
  PermitLoop.bnd ⟨h1, h2, h3⟩ B0

def TO.takes {β : Type} (perm : Permits) : TO (β × Permits) → Prop
  | .done => True
  | .yld _ (_, q) => q = perm ∨ q = perm.next.2
  | .skip (_, q) => perm.next = (.ok, q)

structure PermitT {β : Type} (T : β × Permits → Sh → TO (β × Permits)) : Prop where
  skip : ∀ a, T a .skip = .skip a ∨ T a .skip = .done
  done : ∀ b perm, (T (b, perm) .done).takes perm ∧ ∀ a', T (b, perm) .done ≠ .skip a'
  yld : ∀ b perm x, (T (b, perm) (.yld x)).takes perm

theorem gate_takes {β : Type} (perm : Permits) (strict : Bool) (bv : β) (U : TO β) :
    (gate perm strict bv U).takes perm := by
  unfold gate
  cases hn : perm.next with
  | mk t q => cases t <;> cases U <;> cases strict <;> simp [TO.takes, TO.withPerm, hn]

theorem Frame.permitLoop {β : Type} {L : Option Nat} {C : β × Permits → It → It}
    {T : β × Permits → Sh → TO (β × Permits)} (hT : Frame L C T) (hp : PermitT T) :
    PermitLoop L (fun b perm it => C (b, perm) it) := by
  have key : ∀ perm (r : TO (β × Permits)) (s : It), perm ≠ .unlimited → r.takes perm →
      r.toOut (fun a' => C a' s) = .done ∨
      (∃ y b' perm', r.toOut (fun a' => C a' s) = .yield y (C (b', perm') s) ∧ perm' ≠ .unlimited ∧
        perm'.bound ≤ perm.bound) ∨
      (∃ b' perm', r.toOut (fun a' => C a' s) = .skip (C (b', perm') s) ∧ perm' ≠ .unlimited ∧
        perm'.bound < perm.bound) := by
    intro perm r s hu ht
    have hp := permits_next_props perm hu
    match r, ht with
    | .done, _ => exact .inl rfl
    | .yld y (b', q), .inl e => exact .inr (.inl ⟨y, b', q, rfl, e ▸ hu, e ▸ Nat.le_refl _⟩)
    | .yld y (b', q), .inr e => exact .inr (.inl ⟨y, b', q, rfl, e ▸ hp.1⟩)
    | .skip (b', q), e =>
      have e : perm.next = (.ok, q) := e
      rw [e] at hp
      exact .inr (.inr ⟨b', q, rfl, hp.1.1, hp.2 rfl⟩)
  refine ⟨?_, ?_, ?_⟩
  · intro b perm it s hs
    rw [hT, hs]
    rcases hp.skip (b, perm) with e | e <;> simp only [e]
    · exact .inl rfl
    · exact .inr rfl
  · intro b perm it hu hs
    rw [hT, hs]
    rcases key perm _ it hu (hp.done b perm).1 with h | h | ⟨b', perm', h, _⟩
    · exact .inl h
    · exact .inr h
    · cases e : T (b, perm) .done with
      | skip a' => exact absurd e ((hp.done b perm).2 a')
      | _ => simp [e, TO.toOut] at h
  · intro b perm it x s hu hs
    rw [hT, hs]
    exact key perm _ s hu (hp.yld b perm x)

theorem permitT_filter (p : P) : PermitT (tFilter p) :=
  ⟨fun _ => .inl rfl, fun _ _ => ⟨trivial, nofun⟩, fun _ perm _ => gate_takes perm ..⟩

theorem permitT_skipUntil (p : P) : PermitT (tSkipUntil p) := by
  refine ⟨fun _ => .inl rfl, fun _ _ => ⟨trivial, nofun⟩, fun found perm x => ?_⟩
  cases found with
  | true => exact .inl rfl
  | false => exact gate_takes perm ..

theorem permitT_slice : PermitT tSlice := by
  refine ⟨fun ⟨⟨k, t⟩, perm⟩ => ?_, fun a perm => ?_, fun ⟨k, t⟩ perm x => ?_⟩
  · simp only [tSlice]; split <;> simp
  · rw [tSlice_done]; exact ⟨trivial, nofun⟩
  · simp only [tSlice]
    split
    · trivial
    · cases k with
      | zero => exact .inl rfl
      | succ k => exact gate_takes perm ..

theorem permitT_windows (size : Nat) : PermitT (tWindows size) :=
  ⟨fun _ => .inl rfl, fun _ _ => ⟨trivial, nofun⟩, fun _ perm _ => gate_takes perm ..⟩

theorem permitT_group (eq : P2) : PermitT (tGroup eq) := by
  refine ⟨fun ⟨⟨cur, fl⟩, perm⟩ => ?_, fun ⟨cur, fl⟩ perm => ?_, fun ⟨cur, fl⟩ perm x => ?_⟩
  · cases fl <;> simp [tGroup]
  · cases fl with
    | true => exact ⟨trivial, nofun⟩
    | false =>
      refine ⟨gate_takes perm .., fun a' => ?_⟩
      simp only [tGroup, gate]
      obtain ⟨t, q⟩ := perm.next
      cases t <;> cases cur <;> nofun
  · cases fl with
    | true => trivial
    | false => exact gate_takes perm ..

theorem permitLoop_filter (L : Option Nat) (p : P) : PermitLoop L fun (_ : Unit) perm it => .filter it p perm :=
  (frame_filter L p).permitLoop (permitT_filter p)

theorem permitLoop_skipUntil (L : Option Nat) (p : P) :
    PermitLoop L fun (found : Bool) perm it => .skipUntil it p found perm :=
  (frame_skipUntil L p).permitLoop (permitT_skipUntil p)

theorem permitLoop_slice (L : Option Nat) :
    PermitLoop L fun (c : Nat × Option Nat) perm it => .slice it c.1 perm c.2 :=
  (frame_slice L).permitLoop permitT_slice

theorem permitLoop_windows (L : Option Nat) (size : Nat) :
    PermitLoop L fun (mem : List V) perm it => .windows it size mem perm :=
  (frame_windows L size).permitLoop (permitT_windows size)

theorem permitLoop_group (L : Option Nat) (eq : P2) :
    PermitLoop L fun (c : List V × Bool) perm it => .group it eq c.1 perm c.2 :=
  (frame_group L eq).permitLoop (permitT_group eq)

/-- a fresh loop under search limit `l` has `l` permits and the violation to come -/
theorem PermitLoop.fresh {α : Type} {l : Nat} {C : α → Permits → It → It} (hC : PermitLoop (some l) C) {B : Nat}
    (a : α) (it : It) (h : Bnd (some l) B it) :
    Bnd (some l) ((l + 2) * (B + 1)) (C a (Permits.ofLimit (some l)) it) :=
  hC.bnd B (l + 1) a _ it nofun (Nat.le_refl _) h

/-- iterators without an internal loop: every step yields or ends -/
inductive Prod : It → Prop
  | arr (xs) : Prod (.arr xs)
  | count (i f) : Prod (.count i f)
  | succ (c f) : Prod (.succ c f)
  | map {it} (f) : Prod it → Prod (.map it f)
  | takeWhile {it} (p) : Prod it → Prod (.takeWhile it p)
  | aggregate {it} (st f first) : Prod it → Prod (.aggregate it st f first)
  | withCount {it} (eq seen) : Prod it → Prod (.withCount it eq seen)
  | budget {it} (perm) : Prod it → Prod (.budget it perm)

/-- a family of states closed under `step` in which no step skips -/
theorem bnd_zero {L : Option Nat} (R : It → Prop)
    (h : ∀ t, R t → match step L t with | .done => True | .skip _ => False | .yield _ s => R s) :
    ∀ it, R it → Bnd L 0 it := by
  refine bnd_coind R (fun t ht => ?_) (fun t ht => ?_)
  · have := h t ht
    rw [next]
    cases hs : step L t <;> simp_all
  · have := h t ht
    cases hs : step L t <;> simp_all

theorem bnd_zero_step {L : Option Nat} {it : It} (h : Bnd L 0 it) :
    step L it = .done ∨ ∃ x s, step L it = .yield x s ∧ Bnd L 0 s := by
  have hn := bnd_next h
  rw [next] at hn
  cases hs : step L it with
  | done => exact .inl rfl
  | skip s => simp [hs, next] at hn
  | «yield» x s => exact .inr ⟨x, s, rfl, bnd_yield h hs⟩

/-- the sources never skip; the adaptors over them are those that keep the bound of their source (`Frame.bnd_pass`) -/
theorem bnd_prod (L : Option Nat) {it : It} (h : Prod it) : Bnd L 0 it := by
  induction h with
  | arr xs => exact bnd_zero (fun t => ∃ xs, t = .arr xs) (by rintro _ ⟨xs, rfl⟩; cases xs <;> simp [step]) _ ⟨xs, rfl⟩
  | count i f => exact bnd_zero (fun t => ∃ i, t = .count i f) (by rintro _ ⟨i, rfl⟩; exact ⟨_, rfl⟩) _ ⟨i, rfl⟩
  | succ c f =>
    exact bnd_zero (fun t => ∃ c, t = .succ c f) (by rintro _ ⟨c, rfl⟩; cases c <;> simp [step]) _ ⟨c, rfl⟩
  | map f _ ih => exact (frame_map L f).bnd_pass (passT_map f) 0 () _ ih
  | takeWhile p _ ih => exact (frame_takeWhile L p).bnd_pass (passT_takeWhile p) 0 () _ ih
  | aggregate st f first _ ih => exact bnd_aggregate L 0 st f first _ ih
  | withCount eq seen _ ih => exact (frame_withCount L eq).bnd_pass (passT_withCount eq) 0 seen _ ih
  | budget perm _ ih => exact (frame_budget L).bnd_pass passT_budget 0 perm _ ih

/-- chain: the rank is the number of parts not yet started; the chain skips on its own when the current part has ended
and the next one is started -/
theorem ranked_chain (L : Option Nat) (B K : Nat) :
    Ranked L B K (fun a : It × List G => .chain a.1 a.2)
      (fun a => Bnd L B a.1 ∧ (∀ g ∈ a.2, Bnd L B (g.start L)) ∧ a.2.length ≤ K) (·.1) (·.2.length) := by
  refine ⟨fun _ h => h.1, fun _ h => h.2.2, fun ⟨cur, r⟩ ⟨h, hr, hl⟩ => ?_⟩
  dsimp only
  rw [step_chain]
  cases hs : step L cur with
  | «yield» x s => exact ⟨(s, r), rfl, bnd_yield h hs, hr, hl⟩
  | skip s => exact ⟨(s, r), rfl, ⟨bnd_skip h hs, hr, hl⟩, .inr ⟨rfl, rfl⟩⟩
  | done =>
    cases r with
    | nil => trivial
    | cons g r =>
      obtain ⟨hg, hr⟩ := List.forall_mem_cons.mp hr
      exact ⟨(g.start L, r), rfl, ⟨hg, hr, Nat.le_of_succ_le hl⟩, .inl (Nat.lt_succ_self _)⟩

theorem bnd_chain (L : Option Nat) (B : Nat) (rest : List G) (cur : It) (h : Bnd L B cur)
    (hr : ∀ g ∈ rest, Bnd L B (g.start L)) :
    Bnd L ((rest.length + 1) * (B + 1)) (.chain cur rest) :=
  bnd_mono ((ranked_chain L B rest.length).bound (cur, rest) ⟨h, hr, Nat.le_refl _⟩)
    (by rw [Nat.succ_mul]; omega)

/-- repeat: rank 1 once the current pass has yielded, 0 while it is fresh; the only skip of its own is the restart, which
leaves a fresh pass -/
theorem ranked_repeat (L : Option Nat) (B : Nat) (g : G) (hg : Bnd L B (g.start L)) :
    Ranked L B 1 (fun a : It × Bool => .repeat_ g a.1 a.2) (fun a => Bnd L B a.1) (·.1)
      (fun a => if a.2 then 0 else 1) := by
  refine ⟨fun _ h => h, fun a _ => by split <;> omega, fun ⟨cur, fresh⟩ h => ?_⟩
  dsimp only
  rw [step_repeat]
  cases hs : step L cur with
  | «yield» x s => exact ⟨(s, false), rfl, bnd_yield h hs⟩
  | skip s => exact ⟨(s, fresh), rfl, bnd_skip h hs, .inr ⟨rfl, rfl⟩⟩
  | done =>
    cases fresh with
    | true => trivial
    | false => exact ⟨(g.start L, true), rfl, hg, .inl Nat.zero_lt_one⟩

theorem bnd_repeat (L : Option Nat) (B : Nat) (g : G) (cur : It) (fresh : Bool) (hg : Bnd L B (g.start L))
    (h : Bnd L B cur) : Bnd L (2 * (B + 1)) (.repeat_ g cur fresh) :=
  bnd_mono ((ranked_repeat L B g hg).bound (cur, fresh) h) (by omega)

/-- zip: the source is the part being pulled, the rank the number of parts waiting behind it in this round; the zip
skips on its own when a part has yielded and the pull moves on to the next -/
theorem ranked_zip (L : Option Nat) (B n : Nat) :
    Ranked L B (n - 1) (fun a : List It × List It × List V × Bool => .zip a.1 a.2.1 a.2.2.1 a.2.2.2)
      (fun a => (∀ u ∈ a.1, Bnd L B u) ∧ (∀ u ∈ a.2.1, Bnd L B u) ∧ a.1.length + a.2.1.length = n)
      (fun a => a.1.headD (.arr [])) (fun a => a.1.length - 1) := by
  have hrev : ∀ {l : List It}, (∀ u ∈ l, Bnd L B u) → ∀ u ∈ l.reverse, Bnd L B u :=
    fun h u hu => h u (List.mem_reverse.mp hu)
  refine ⟨fun ⟨td, _⟩ h => ?_, fun _ h => by omega, fun ⟨td, pl, ac, bd⟩ ⟨htd, hpl, hl⟩ => ?_⟩
  · cases td with
    | nil => exact bnd_mono (bnd_prod L (.arr [])) (Nat.zero_le _)
    | cons it _ => exact h.1 it (List.mem_cons_self ..)
  dsimp only at htd hpl hl ⊢
  cases td with
  | nil => rw [step]; exact ⟨(pl.reverse, [], [], false), rfl, hrev hpl, nofun, by simpa using hl⟩
  | cons it rest =>
    obtain ⟨hit, hrest⟩ := List.forall_mem_cons.mp htd
    rw [step, List.headD_cons]
    cases hs : step L it with
    | done => trivial
    | skip s =>
      exact ⟨(s :: rest, pl, ac, bd), rfl, ⟨List.forall_mem_cons.mpr ⟨bnd_skip hit hs, hrest⟩, hpl, hl⟩, .inr ⟨rfl, rfl⟩⟩
    | «yield» x s =>
      have hspl := List.forall_mem_cons.mpr ⟨bnd_yield hit hs, hpl⟩
      cases x with
      | viol =>
        refine ⟨(pl.reverse ++ s :: rest, [], [], false), rfl, ?_, nofun, by simpa [Nat.add_comm] using hl⟩
        exact List.forall_mem_append.mpr ⟨hrev hpl, List.forall_mem_cons.mpr ⟨bnd_yield hit hs, hrest⟩⟩
      | _ =>
        cases rest with
        | nil => exact ⟨((s :: pl).reverse, [], [], false), rfl, hrev hspl, nofun, by simpa [Nat.add_comm] using hl⟩
        | cons r rs =>
          exact ⟨(r :: rs, s :: pl, _, _), rfl, ⟨hrest, hspl, by simp only [List.length_cons] at hl ⊢; omega⟩,
            .inl (by simp only [List.length_cons]; omega)⟩

theorem bnd_zip (L : Option Nat) (B : Nat) (todo pulled : List It) (acc : List V) (bad : Bool)
    (hall : ∀ t, t ∈ todo ∨ t ∈ pulled → Bnd L B t) :
    Bnd L ((todo.length + pulled.length) * (B + 1)) (.zip todo pulled acc bad) := by
  by_cases h0 : todo.length + pulled.length = 0
  · -- no parts: no source is ever consulted, so the bound does not depend on `B`
    have h1 : todo = [] := List.eq_nil_of_length_eq_zero (by omega)
    have h2 : pulled = [] := List.eq_nil_of_length_eq_zero (by omega)
    subst h1 h2
    simpa using (ranked_zip L 0 0).bound ([], [], acc, bad) ⟨nofun, nofun, rfl⟩
  · refine bnd_mono ((ranked_zip L B _).bound (todo, pulled, acc, bad)
      ⟨fun u hu => hall u (.inl hu), fun u hu => hall u (.inr hu), rfl⟩) ?_
    obtain ⟨m, hm⟩ : ∃ m, todo.length + pulled.length = m + 1 := ⟨_, (Nat.succ_pred_eq_of_ne_zero h0).symm⟩
    rw [hm, Nat.add_sub_cancel, Nat.succ_mul]; omega

/-- over a loop-free source (bound 0) the constant is sharp: `b + 1` -/
theorem PermitLoop.answers_prod {α : Type} {L : Option Nat} {C : α → Permits → It → It} (hC : PermitLoop L C) (b : Nat)
    (a : α) (perm : Permits) (it : It) (hu : perm ≠ .unlimited) (hb : perm.bound ≤ b) (hp : Prod it) :
    next L (b + 1) (C a perm it) ≠ .outOfFuel := by
  simpa using bnd_next ((hC.ranked 0 b).bound (a, perm, it) ⟨hu, hb, bnd_prod L hp⟩)

theorem filter_unlimited_diverges (L : Option Nat) :
    ∀ (n i : Nat), next L n (.filter (.count i none) (fun _ => .f) .unlimited) = .outOfFuel := by
  intro n
  induction n with
  | zero => intro i; rfl
  | succ n ih =>
    intro i
    rw [next, step]
    simp [step, Permits.next, ih]

mutual
/-- the generators `work_bounded_all` speaks of: all of them (`nest_true`) -/
def G.nest : G → Bool
  | .fromArr _ => true
  | .fromCount _ => true
  | .succUntil _ _ => true
  | .map g _ => g.nest
  | .filter g _ => g.nest
  | .chain parts => G.nestAll parts
  | .slice g _ _ => g.nest
  | .repeat_ g => g.nest
  | .takeWhile g _ => g.nest
  | .skipUntil g _ => g.nest
  | .aggregate g _ _ => g.nest
  | .withCount g _ => g.nest
  | .group g _ => g.nest
  | .windows g _ => g.nest
  | .zip parts => G.nestAll parts
def G.nestAll : List G → Bool
  | [] => true
  | g :: gs => g.nest && G.nestAll gs
end

mutual
/-- unproductive iterations one `next()` may perform under search limit `l`: every level that loops takes a
permit per iteration, so it multiplies the bound of its source by at most `l + 2` (`PermitLoop.fresh`: the `l` `Ok`
permits, the violation, and the iteration that answers) -/
def G.work (l : Nat) : G → Nat
  | .fromArr _ => 0
  | .fromCount _ => 0
  | .succUntil _ _ => 0
  | .map g _ => g.work l
  | .filter g _ => (l + 2) * (g.work l + 1)
  | .chain parts => (parts.length + 1) * (G.workMax l parts + 1)
  | .slice g _ _ => (l + 2) * (g.work l + 1)
  | .repeat_ g => 2 * (g.work l + 1)
  | .takeWhile g _ => g.work l
  | .skipUntil g _ => (l + 2) * (g.work l + 1)
  | .aggregate g _ _ => g.work l
  | .withCount g _ => g.work l
  | .group g _ => (l + 2) * (g.work l + 1)
  | .windows g _ => (l + 2) * (g.work l + 1)
  | .zip parts => parts.length * (G.workMax l parts + 1)
def G.workMax (l : Nat) : List G → Nat
  | [] => 0
  | g :: gs => max (g.work l) (G.workMax l gs)
end

mutual
theorem work_bounded_any (l : Nat) : ∀ (g : G), Bnd (some l) (g.work l) (g.start (some l))
  | .fromArr xs => bnd_prod _ (Prod.arr xs)
  | .fromCount f => bnd_prod _ (Prod.count 0 f)
  | .succUntil i f => bnd_prod _ (Prod.succ _ f)
  | .map g f => (frame_map _ f).bnd_pass (passT_map f) _ () _ (work_bounded_any l g)
  | .filter g p => (permitLoop_filter _ p).fresh () _ (work_bounded_any l g)
  | .chain parts =>
    bnd_chain _ _ parts _ (bnd_mono (bnd_prod _ (Prod.arr [])) (Nat.zero_le _)) (work_bounded_parts l parts)
  | .slice g a b => (permitLoop_slice _).fresh (a, _) _ (work_bounded_any l g)
  | .repeat_ g => bnd_repeat _ _ g _ true (work_bounded_any l g) (work_bounded_any l g)
  | .takeWhile g p => (frame_takeWhile _ p).bnd_pass (passT_takeWhile p) _ () _ (work_bounded_any l g)
  | .skipUntil g p => (permitLoop_skipUntil _ p).fresh false _ (work_bounded_any l g)
  | .aggregate g i f => bnd_aggregate _ _ i f true _ (work_bounded_any l g)
  | .withCount g e => (frame_withCount _ e).bnd_pass (passT_withCount e) _ [] _ (work_bounded_any l g)
  | .group g e => (permitLoop_group _ e).fresh ([], false) _ (work_bounded_any l g)
  | .windows g n => (permitLoop_windows _ n).fresh [] _ (work_bounded_any l g)
  | .zip ps => by
    rw [G.start, G.work, startAll_map]
    have := bnd_zip (some l) (G.workMax l ps) (ps.map (G.start (some l))) [] [] false fun t ht => by
      obtain ⟨g, hg, rfl⟩ := List.mem_map.mp (ht.resolve_right nofun)
      exact work_bounded_parts l ps g hg
    simpa using this
theorem work_bounded_parts (l : Nat) : ∀ (gs : List G), ∀ g ∈ gs, Bnd (some l) (G.workMax l gs) (g.start (some l))
  | [] => nofun
  | g0 :: gs => fun g hg => by
    rw [G.workMax]
    rcases List.mem_cons.mp hg with heq | hg'
    · rw [heq]; exact bnd_mono (work_bounded_any l g0) (Nat.le_max_left _ _)
    · exact bnd_mono (work_bounded_parts l gs g hg') (Nat.le_max_right _ _)
end

theorem work_bounded_all (l : Nat) : ∀ (gs : List G), G.nestAll gs = true →
    ∀ g ∈ gs, Bnd (some l) (G.workMax l gs) (g.start (some l)) :=
  fun gs _ => work_bounded_parts l gs

mutual
theorem nest_true : ∀ (g : G), g.nest = true
  | .fromArr _ => rfl
  | .fromCount _ => rfl
  | .succUntil _ _ => rfl
  | .map g _ => nest_true g
  | .filter g _ => nest_true g
  | .chain ps => nestAll_true ps
  | .slice g _ _ => nest_true g
  | .repeat_ g => nest_true g
  | .takeWhile g _ => nest_true g
  | .skipUntil g _ => nest_true g
  | .aggregate g _ _ => nest_true g
  | .withCount g _ => nest_true g
  | .group g _ => nest_true g
  | .windows g _ => nest_true g
  | .zip ps => nestAll_true ps
theorem nestAll_true : ∀ (gs : List G), G.nestAll gs = true
  | [] => rfl
  | g :: gs => by rw [G.nestAll, nest_true g, nestAll_true gs]; rfl
end

end XrayModel.Gen
