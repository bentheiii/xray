/-
The core evaluator (XrayModel/Core.lean) in a common shape.  Its ten functions consume the outcome of a
sub-evaluation in five ways only; each way is a combinator here (`onVal` … `onTail`), `lazySel` is a view of
the six natives that do not evaluate all their arguments, `Cfg.tooDeep` / `Cfg.recOver` are the two checks
of the trampoline, and the equations `eval_tup` … `evalDecls_fnD` state what each function does with one
more unit of fuel in these terms.  An induction on the fuel through the ten functions then needs one small
lemma per combinator.
-/
import XrayModel.Core
namespace XrayModel.Core

/-- `unwrap_value` at an `eval(…, false)` site; a tail call there is the interpreter's own failure -/
def onVal (x : Res × St) (k : Val → St → Res × St) : Res × St :=
  match x with
  | (.val v, s) => k v s
  | (.tail _, s) => (.stuck "tail escaped", s)
  | r => r

def onValE {α} (x : Res × St) (k : Val → St → Except Res α × St) : Except Res α × St :=
  match x with
  | (.val v, s) => k v s
  | (.tail _, s) => (.error (.stuck "tail escaped"), s)
  | (r, s) => (.error r, s)

def onOk {α} (x : Except Res α × St) (k : α → St → Res × St) : Res × St :=
  match x with
  | (.ok a, s) => k a s
  | (.error r, s) => (r, s)

def consOk (v : Val) (x : Except Res (List Val) × St) : Except Res (List Val) × St :=
  match x with
  | (.ok vs, s) => (.ok (v :: vs), s)
  | r => r

def onTail (x : Res × St) (k : List Val → St → Res × St) : Res × St :=
  match x with
  | (.tail a, s) => k a s
  | r => r

def Frame.selfCall (fr : Frame) (f : String) : Option Val :=
  match fr.self with
  | some (name, c) => if f = name && (lookup f fr.env).isNone then some c else none
  | none => none

/-- The argument evaluated first, and what its value selects: a finished outcome, or the argument
evaluated in the call's place (with the call's tail slot). -/
def lazySel : String → List Expr → Option (Expr × (Val → St → (Res × St) ⊕ Expr))
  | "if", [c, a, b] => some (c, fun v s => match v with
      | .bool t => .inr (if t then a else b)
      | .err m => .inl (.val (.err m), s)
      | _ => .inl (.stuck "if", s))
  | "and", [a, b] => some (a, fun v s => match v with
      | .bool true => .inr b
      | .bool false => .inl (.val (.bool false), s)
      | .err m => .inl (.val (.err m), s)
      | _ => .inl (.stuck "and", s))
  | "or", [a, b] => some (a, fun v s => match v with
      | .bool false => .inr b
      | .bool true => .inl (.val (.bool true), s)
      | .err m => .inl (.val (.err m), s)
      | _ => .inl (.stuck "or", s))
  | "if_error", [a, b] => some (a, fun v s => match v with
      | .err _ => .inr b
      | v => .inl (.val v, s))
  | "is_error", [a] => some (a, fun v s => .inl (.val (.bool v.isErr), s))
  | "display", [a] => some (a, fun v s => match v with
      | .err m => .inl (.val (.err m), s)
      | v => match toStr v with
        | some str => .inl (.val v, { s with out := s.out ++ [str] })
        | none => .inl (.stuck "display", s))
  | _, _ => none

def selfCell (c : Val) (f : Func) : Option (String × Val) :=
  match f.name with
  | some n => some (n, c)
  | none => none

/-- the frame `from_template` builds for a call of the closure `.clos f dflts env` from height `h` -/
def callFrame (h : Nat) (f : Func) (dflts : List Val) (env ps : List (String × Val)) : Frame :=
  { env := ps.reverse ++ env, self := selfCell (.clos f dflts env) f, height := h + 1 }

/-- `from_template`'s depth check for a frame at height `h` -/
def Cfg.tooDeep (cfg : Cfg) (h : Nat) : Bool :=
  match cfg.depthLimit with
  | some l => decide (h ≥ l)
  | none => false

def Cfg.recOver (cfg : Cfg) (rec : Nat) : Bool :=
  match cfg.recLimit with
  | some l => decide (rec > l)
  | none => false

theorem Cfg.tooDeep_none {cfg : Cfg} (h : cfg.depthLimit = none) (k : Nat) : cfg.tooDeep k = false := by
  simp only [Cfg.tooDeep, h]
theorem Cfg.recOver_none {cfg : Cfg} (h : cfg.recLimit = none) (k : Nat) : cfg.recOver k = false := by
  simp only [Cfg.recOver, h]

theorem eval_tup (n cfg fr es tail st) : eval (n + 1) cfg fr (.tup es) tail st =
    onOk (evalList n cfg fr es st) fun vs s => (.val (.tup vs), s) := by
  rw [eval]; rcases evalList n cfg fr es st with ⟨_ | _, _⟩ <;> rfl

theorem eval_arr (n cfg fr es tail st) : eval (n + 1) cfg fr (.arr es) tail st =
    onOk (evalList n cfg fr es st) fun vs s => (.val (.arr vs), s) := by
  rw [eval]; rcases evalList n cfg fr es st with ⟨_ | _, _⟩ <;> rfl

theorem eval_item (n cfg fr e i tail st) : eval (n + 1) cfg fr (.item e i) tail st =
    onVal (eval n cfg fr e false st) fun v s => match v with
      | .tup vs => match vs[i]? with
        | some v => (.val v, s)
        | none => (.stuck "item", s)
      | .err m => (.val (.err m), s)
      | _ => (.stuck "item of non-tuple", s) := by
  rw [eval]; rcases eval n cfg fr e false st with ⟨v | _ | _ | _ | _, s⟩ <;> first | rfl | (cases v <;> rfl)

theorem eval_callE (n cfg fr fe args tail st) : eval (n + 1) cfg fr (.callE fe args) tail st =
    onVal (eval n cfg fr fe false st) fun c s => match c with
      | .err m => (.val (.err m), s)
      | c => callVal n cfg fr c args tail s := by
  rw [eval]; rcases eval n cfg fr fe false st with ⟨v | _ | _ | _ | _, s⟩ <;> first | rfl | (cases v <;> rfl)

theorem eval_call (n cfg fr f args tail st) : eval (n + 1) cfg fr (.call f args) tail st =
    match fr.selfCall f with
    | some c =>
      if tail && cfg.tco then onOk (evalList n cfg fr args st) fun vs s => (.tail vs, s)
      else callVal n cfg fr c args tail st
    | none => callNamed n cfg fr f args tail st := by
  rw [eval, Frame.selfCall]
  rcases fr.self with _ | ⟨name, c⟩
  · rfl
  · dsimp only; split
    · dsimp only; split
      · rcases evalList n cfg fr args st with ⟨_ | _, _⟩ <;> rfl
      · rfl
    · rfl

theorem builtin_succ (n cfg fr f args tail st) : builtin (n + 1) cfg fr f args tail st =
    match lazySel f args with
    | some (a, sel) => onVal (eval n cfg fr a false st) fun v s => match sel v s with
      | .inl r => r
      | .inr b => eval n cfg fr b tail s
    | none =>
      if isStrictPrim f then onOk (evalList n cfg fr args st) fun vs s => (prim f vs, s)
      else (.stuck ("unknown function " ++ f), st) := by
  rw [builtin.eq_def]
  dsimp only
  split
  case h_7 h1 h2 h3 h4 h5 h6 =>
    -- `h1 … h6` exclude the six patterns, which is what `lazySel`'s last equation asks for
    rw [lazySel.eq_7 _ _ h1 h2 h3 h4 h5 h6]
    dsimp only; split
    · rcases evalList n cfg fr args st with ⟨_ | _, _⟩ <;> rfl
    · rfl
  all_goals
    rw [lazySel]
    dsimp only
    generalize eval n cfg fr _ false st = x
    rcases x with ⟨v | _ | _ | _ | _, s⟩ <;> first | rfl | (rcases v with _ | (_ | _) | _ | _ | _ | _ | _ <;> rfl)

theorem lazySel_none {f : String} (h : f ∉ ["if", "and", "or", "if_error", "is_error", "display"]) (args : List Expr) :
    lazySel f args = none := by
  unfold lazySel
  split <;> first | rfl | exact absurd (by decide) h

theorem callVal_clos (n cfg fr f dflts env args tail st) :
    callVal (n + 1) cfg fr (.clos f dflts env) args tail st =
      onOk (evalList n cfg fr args st) (callUser n cfg fr.height (.clos f dflts env)) := by
  rw [callVal]; rcases evalList n cfg fr args st with ⟨_ | _, _⟩ <;> rfl

theorem evalList_cons (n cfg fr e rest st) : evalList (n + 1) cfg fr (e :: rest) st =
    onValE (eval n cfg fr e false st) fun v s => match v with
      | .err m => (.error (.val (.err m)), s)
      | v => consOk v (evalList n cfg fr rest s) := by
  rw [evalList]
  rcases eval n cfg fr e false st with ⟨v | _ | _ | _ | _, s⟩ <;> first | rfl | (cases v <;> rfl)

theorem mkClos_succ (n cfg fr f st) : mkClos (n + 1) cfg fr f st =
    onOk (evalDflts n cfg fr f.params st) fun ds s =>
      (.val (.clos f ds (match fr.self with | some p => fr.env ++ [p] | none => fr.env)), s) := by
  rw [mkClos]; rcases evalDflts n cfg fr f.params st with ⟨_ | _, _⟩ <;> rfl

theorem evalDflts_cons (n cfg fr p rest st) : evalDflts (n + 1) cfg fr (p :: rest) st =
    match p.dflt with
    | none => evalDflts n cfg fr rest st
    | some d => onValE (eval n cfg fr d false st) fun v s => consOk v (evalDflts n cfg fr rest s) := by
  rw [evalDflts]
  rcases p.dflt with _ | d
  · rfl
  · dsimp only; rcases eval n cfg fr d false st with ⟨v | _ | _ | _ | _, s⟩ <;> rfl

theorem callUser_succ (n cfg h c args st) : callUser (n + 1) cfg h c args st =
    match firstErr args with
    | some e => (.val e, st)
    | none => match cfg.callLimit with
      | some l =>
        if st.calls + 1 ≥ l then (.viol .calls, { st with calls := st.calls + 1 })
        else tramp n cfg h c args 0 { st with calls := st.calls + 1 }
      | none => tramp n cfg h c args 0 st := by
  rw [callUser]; rfl

theorem tramp_succ (n cfg h f dflts env args rec st) :
    tramp (n + 1) cfg h (.clos f dflts env) args rec st =
      if cfg.tooDeep (h + 1) then (.viol .depth, st)
      else match bindParams f.params args dflts with
        | none => (.stuck "arity", st)
        | some ps => onOk (evalDecls n cfg (callFrame h f dflts env ps) f.decls st) fun fr' s =>
          onTail (eval n cfg fr' f.body true s) fun newArgs s' =>
            if cfg.recOver (rec + 1) then (.viol .recursion, s')
            else tramp n cfg h (.clos f dflts env) newArgs (rec + 1) s' := by
  rw [tramp]
  congr 1
  rcases bindParams f.params args dflts with _ | ps
  · rfl
  · dsimp only [callFrame, selfCell]
    generalize evalDecls n cfg _ f.decls st = x
    rcases x with ⟨_ | fr', s⟩
    · rfl
    · dsimp only [onOk]
      rcases eval n cfg fr' f.body true s with ⟨_ | _ | _ | _ | _, s⟩ <;> rfl

theorem evalDecls_letD (n cfg fr x e rest st) : evalDecls (n + 1) cfg fr (.letD x e :: rest) st =
    onValE (eval n cfg fr e false st) fun v s => evalDecls n cfg { fr with env := (x, v) :: fr.env } rest s := by
  rw [evalDecls]; rcases eval n cfg fr e false st with ⟨v | _ | _ | _ | _, s⟩ <;> rfl

theorem evalDecls_fnD (n cfg fr f rest st) : evalDecls (n + 1) cfg fr (.fnD f :: rest) st =
    onValE (mkClos n cfg fr f st) fun c s => match f.name with
      | some name => evalDecls n cfg { fr with env := (name, c) :: fr.env } rest s
      | none => (.error (.stuck "anonymous declaration"), s) := by
  rw [evalDecls]; rcases mkClos n cfg fr f st with ⟨v | _ | _ | _ | _, s⟩ <;> rfl

theorem Frame.selfCall_eq_some {fr : Frame} {f c} (h : fr.selfCall f = some c) :
    fr.self = some (f, c) ∧ lookup f fr.env = none := by
  unfold Frame.selfCall at h
  split at h
  · split at h
    · rename_i hc
      simp only [Bool.and_eq_true, decide_eq_true_eq, Option.isNone_iff_eq_none] at hc
      cases h; rw [hc.1]; exact ⟨by assumption, hc.1 ▸ hc.2⟩
    · cases h
  · cases h

theorem selfCell_eq_some {c f name c'} (h : selfCell c f = some (name, c')) : c' = c := by
  unfold selfCell at h
  split at h <;> cases h
  rfl

theorem onValE_eq_ok {α} {x : Res × St} {k : Val → St → Except Res α × St} {a s'}
    (h : onValE x k = (.ok a, s')) : ∃ v s, x = (.val v, s) ∧ k v s = (.ok a, s') := by
  obtain ⟨r, s⟩ := x
  cases r <;> first | exact ⟨_, _, rfl, h⟩ | cases h

theorem consOk_eq_ok {v vs s'} {y : Except Res (List Val) × St} (h : consOk v y = (.ok vs, s')) :
    ∃ vs1, y = (.ok vs1, s') ∧ vs = v :: vs1 := by
  obtain ⟨_ | vs1, s⟩ := y <;> cases h
  exact ⟨vs1, rfl, rfl⟩

theorem onVal_eq_viol {x : Res × St} {k : Val → St → Res × St} {k' s} (h : onVal x k = (.viol k', s)) :
    x = (.viol k', s) ∨ ∃ v s1, x = (.val v, s1) ∧ k v s1 = (.viol k', s) := by
  obtain ⟨r, s1⟩ := x
  cases r <;> first | exact .inl h | exact .inr ⟨_, _, rfl, h⟩ | cases h

theorem onOk_eq_viol {α} {x : Except Res α × St} {k : α → St → Res × St} {k' s} (h : onOk x k = (.viol k', s)) :
    x = (.error (.viol k'), s) ∨ ∃ a s1, x = (.ok a, s1) ∧ k a s1 = (.viol k', s) := by
  obtain ⟨_ | a, s1⟩ := x
  · cases h; exact .inl rfl
  · exact .inr ⟨_, _, rfl, h⟩

theorem onValE_eq_viol {α} {x : Res × St} {k : Val → St → Except Res α × St} {k' s}
    (h : onValE x k = (.error (.viol k'), s)) :
    x = (.viol k', s) ∨ ∃ v s1, x = (.val v, s1) ∧ k v s1 = (.error (.viol k'), s) := by
  obtain ⟨r, s1⟩ := x
  cases r with
  | val v => exact .inr ⟨v, s1, rfl, h⟩
  | viol _ => cases h; exact .inl rfl
  | _ => cases h

theorem consOk_eq_viol {v k s} {y : Except Res (List Val) × St} (h : consOk v y = (.error (.viol k), s)) :
    y = (.error (.viol k), s) := by
  obtain ⟨_ | _, _⟩ := y
  · exact h
  · cases h

theorem Frame.selfCall_of {fr : Frame} {f sc} (hs : fr.self = some (f, sc)) (hl : lookup f fr.env = none) :
    fr.selfCall f = some sc := by
  simp only [Frame.selfCall, hs, hl, decide_true, Option.isNone_none, Bool.and_self, if_true]

theorem Frame.selfCall_none {fr : Frame} {f}
    (h : ∀ sn sc, fr.self = some (sn, sc) → (f = sn && (lookup f fr.env).isNone) = false) : fr.selfCall f = none := by
  unfold Frame.selfCall
  split
  · rename_i hs; rw [h _ _ hs]; rfl
  · rfl

theorem Frame.selfCall_eq_none {fr : Frame} {f} (h : fr.selfCall f = none) {sn sc} (hs : fr.self = some (sn, sc)) :
    (f = sn && (lookup f fr.env).isNone) = false := by
  unfold Frame.selfCall at h
  rw [hs] at h
  dsimp only at h
  split at h
  · cases h
  · rename_i hc; exact (Bool.not_eq_true _).mp hc

theorem prim_cases (f : String) (vs : List Val) :
    (∃ v, prim f vs = .val v) ∨ prim f vs = .stuck "to_str" ∨ prim f vs = .stuck ("prim " ++ f) := by
  unfold prim
  repeat' split
  all_goals first | exact .inl ⟨_, rfl⟩ | exact .inr (.inl rfl) | exact .inr (.inr rfl)

end XrayModel.Core
