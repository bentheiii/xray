/-
For C12 and the literal rules of C18.  `apply_escapes` and the number handler never reach their panics: every text the
grammar rule `NUMBER_ANY` admits falls into one of the handler's arms.  The interner is injective because a canonical
numeral is determined by its value.  A literal in whose text the closing delimiter does not occur scans to that text.
-/
import XrayModel.Lex
namespace XrayModel.Lex

def Outcome.isPanic {α} : Outcome α → Prop
  | .panic _ => True
  | _ => False

theorem applyEscapesAux_no_panic (fuel : Nat) (cs : List Char) : ¬ (applyEscapesAux fuel cs).isPanic := by
  induction fuel generalizing cs with
  | zero => exact id
  | succ f ih =>
    cases cs with
    | nil => exact id
    | cons c cs =>
      -- every branch that is not an error puts one character before the result of a recursive call
      have hcons (ch : Char) (r : List Char) : ¬ (match applyEscapesAux f r with
          | .ok r' => Outcome.ok (ch :: r')
          | e => e).isPanic := by
        have := ih r
        cases h : applyEscapesAux f r with
        | panic w => rw [h] at this; exact absurd trivial this
        | _ => exact id
      unfold applyEscapesAux
      dsimp only
      split
      · split
        · split
          · exact id
          · exact hcons _ _
        · split
          · exact hcons _ _
          · split
            · exact hcons _ _
            · split
              · exact id
              · exact hcons _ _
      · exact hcons _ _

theorem applyEscapesAux_plain (fuel : Nat) (cs : List Char) (h : ∀ c ∈ cs, c ≠ '\\') (hf : cs.length ≤ fuel) :
    applyEscapesAux fuel cs = .ok cs := by
  induction cs generalizing fuel with
  | nil => cases fuel <;> rfl
  | cons c cs ih =>
    obtain ⟨f, rfl⟩ : ∃ f, fuel = f + 1 := ⟨fuel - 1, by simp at hf; omega⟩
    unfold applyEscapesAux
    dsimp only
    rw [if_neg (h c (by simp)), ih f (fun d hd => h d (by simp [hd])) (by simpa using hf)]

theorem applyEscapes_plain (cs : List Char) (h : ∀ c ∈ cs, c ≠ '\\') : applyEscapes cs = .ok cs :=
  applyEscapesAux_plain _ cs h (Nat.le_succ _)

theorem char_le_iff (a c : Char) : a ≤ c ↔ a.toNat ≤ c.toNat := Char.le_def.trans UInt32.le_iff_toNat_le

theorem isDigit_iff (c : Char) : isDigit c = true ↔ 48 ≤ c.toNat ∧ c.toNat ≤ 57 := by
  simp [isDigit, char_le_iff]

theorem isHex_iff (c : Char) : isHex c = true ↔
    (48 ≤ c.toNat ∧ c.toNat ≤ 57) ∨ (97 ≤ c.toNat ∧ c.toNat ≤ 102) ∨ (65 ≤ c.toNat ∧ c.toNat ≤ 70) := by
  simp [isHex, char_le_iff, or_assoc]

def dig (c : Char) : Nat := c.toNat - '0'.toNat

def valRev : List Char → Nat
  | [] => 0
  | c :: cs => dig c + 10 * valRev cs

theorem decVal_eq (cs : List Char) : decVal cs = valRev cs.reverse := by
  have (r : List Char) : decVal r.reverse = valRev r := by
    induction r with
    | nil => rfl
    | cons c r ih =>
      rw [List.reverse_cons, decVal, List.foldl_append, ← decVal, ih, valRev, dig]
      simp [Nat.mul_comm, Nat.add_comm]
  simpa using this cs.reverse

theorem getLast?_tail_ne {α} {x z : α} {xs : List α} (h : (x :: xs).getLast? ≠ some z) : xs.getLast? ≠ some z := by
  cases xs with
  | nil => simp
  | cons y ys => simpa [List.getLast?_cons_cons] using h

theorem valRev_pos (r : List Char) (hne : r ≠ []) (hd : ∀ c ∈ r, isDigit c = true)
    (hl : r.getLast? ≠ some '0') : 0 < valRev r := by
  induction r with
  | nil => exact absurd rfl hne
  | cons c cs ih =>
    cases cs with
    | nil =>
      have := (isDigit_iff c).mp (hd c (by simp))
      have : c.toNat ≠ 48 := fun h => hl (by simp [← Char.toNat_inj, h])
      simp only [valRev, dig, Char.reduceToNat]
      omega
    | cons d t =>
      have := ih (by simp) (fun x hx => hd x (by simp [hx])) (getLast?_tail_ne hl)
      rw [valRev]
      omega

theorem valRev_inj (r1 r2 : List Char) (h1 : ∀ c ∈ r1, isDigit c = true) (h2 : ∀ c ∈ r2, isDigit c = true)
    (l1 : r1.getLast? ≠ some '0') (l2 : r2.getLast? ≠ some '0') (hv : valRev r1 = valRev r2) : r1 = r2 := by
  induction r1 generalizing r2 with
  | nil =>
    cases r2 with
    | nil => rfl
    | cons c cs => have := valRev_pos (c :: cs) (by simp) h2 l2; rw [← hv, valRev] at this; omega
  | cons c cs ih =>
    cases r2 with
    | nil => have := valRev_pos (c :: cs) (by simp) h1 l1; rw [hv, valRev] at this; omega
    | cons d ds =>
      have hc := (isDigit_iff c).mp (h1 c (by simp))
      have hd := (isDigit_iff d).mp (h2 d (by simp))
      simp only [valRev, dig, Char.reduceToNat] at hv
      obtain ⟨hcd, hvv⟩ : c.toNat = d.toNat ∧ valRev cs = valRev ds := by omega
      rw [Char.toNat_inj.mp hcd,
        ih ds (fun x hx => h1 x (by simp [hx])) (fun x hx => h2 x (by simp [hx])) (getLast?_tail_ne l1)
        (getLast?_tail_ne l2) hvv]

theorem decVal_inj (a b : List Char) (ha : ∀ c ∈ a, isDigit c = true) (hb : ∀ c ∈ b, isDigit c = true)
    (la : a.head? ≠ some '0') (lb : b.head? ≠ some '0') (h : decVal a = decVal b) : a = b := by
  rw [decVal_eq, decVal_eq] at h
  exact List.reverse_inj.mp (valRev_inj _ _ (by simpa) (by simpa) (by simpa) (by simpa) h)

def canonical (ds : List Char) : Prop :=
  ds = ['0'] ∨ ∃ d rest, ds = d :: rest ∧ '1' ≤ d ∧ d ≤ '9' ∧ rest.all isDigit = true

theorem canonical_digits {ds : List Char} (h : canonical ds) :
    ds = ['0'] ∨ (ds ≠ [] ∧ (∀ c ∈ ds, isDigit c = true) ∧ ds.head? ≠ some '0') := by
  rcases h with rfl | ⟨d, rest, rfl, h1, h9, hr⟩
  · exact Or.inl rfl
  · refine Or.inr ⟨by simp, ?_, ?_⟩
    · intro c hc
      rcases List.mem_cons.mp hc with rfl | hc
      · simpa [isDigit] using ⟨Char.le_trans (by decide) h1, h9⟩
      · exact List.all_eq_true.mp hr c hc
    · rintro ⟨⟩
      exact absurd h1 (by decide)

theorem decVal_inj_canonical (a b : List Char) (ha : canonical a) (hb : canonical b)
    (h : decVal a = decVal b) : a = b := by
  -- the numeral `0` is the only canonical one of value 0
  have zero (x : List Char) (hx : canonical x) (h0 : decVal x = 0) : x = ['0'] := by
    rcases canonical_digits hx with rfl | ⟨hne, hd, hl⟩
    · rfl
    · have := valRev_pos x.reverse (by simpa) (by simpa) (by simpa)
      rw [decVal_eq] at h0
      omega
  rcases canonical_digits ha with rfl | ⟨_, da, la⟩
  · exact (zero b hb h.symm).symm
  · rcases canonical_digits hb with rfl | ⟨_, db, lb⟩
    · exact zero a ha h
    · exact decVal_inj a b da db la lb h

theorem itemIndex_some {s : List Char} {i : Nat} (h : itemIndex s = some i) :
    ∃ ds, s = 'i' :: 't' :: 'e' :: 'm' :: ds ∧ canonical ds ∧ i = decVal ds ∧ i ≤ maxItemIndex := by
  unfold itemIndex at h
  split at h
  · rename_i ds
    refine ⟨ds, rfl, ?_⟩
    split at h
    · rename_i h0
      cases h; subst h0
      exact ⟨Or.inl rfl, by decide⟩
    · split at h
      · rename_i d rest _
        split at h
        · rename_i hc
          simp only [Bool.and_eq_true, decide_eq_true_eq] at hc
          dsimp only at h
          split at h
          · cases h
            exact ⟨Or.inr ⟨d, rest, rfl, hc.1.1, hc.1.2, hc.2⟩, rfl, ‹_›⟩
          · cases h
        · cases h
      · cases h
  · cases h

theorem intern_item {s : List Char} {i : Nat} (h : intern s = .item i) : itemIndex s = some i := by
  unfold intern at h
  split at h
  · cases h; assumption
  · cases h

theorem intern_regular {s t : List Char} (h : intern s = .regular t) : t = s := by
  unfold intern at h
  split at h
  · cases h
  · cases h; rfl

theorem intern_inj (s1 s2 : List Char) (h : intern s1 = intern s2) : s1 = s2 := by
  cases h2 : intern s2 with
  | regular t => exact (intern_regular (h.trans h2)).symm.trans (intern_regular h2)
  | item j =>
    rw [h2] at h
    obtain ⟨d1, rfl, c1, e1, _⟩ := itemIndex_some (intern_item h)
    obtain ⟨d2, rfl, c2, e2, _⟩ := itemIndex_some (intern_item h2)
    rw [decVal_inj_canonical d1 d2 c1 c2 (e1.symm.trans e2)]

theorem isHex_of_isDigit {c : Char} (h : isDigit c = true) : isHex c = true :=
  (isHex_iff c).mpr (Or.inl ((isDigit_iff c).mp h))

theorem hexVal_digit {c : Char} (h : isDigit c = true) : hexVal c < 10 := by
  have := (isDigit_iff c).mp h
  rw [hexVal, if_pos (by exact h)]
  simp only [Char.reduceToNat]
  omega

theorem hexVal_lt16 {c : Char} (h : isHex c = true) : hexVal c < 16 := by
  have := (isHex_iff c).mp h
  simp only [hexVal, Bool.and_eq_true, decide_eq_true_eq, char_le_iff, Char.reduceToNat]
  split
  · omega
  · split <;> omega

theorem parseRadix_some (radix : Nat) (cs : List Char) (hne : cs ≠ [])
    (h : ∀ c ∈ cs, isHex c = true ∧ hexVal c < radix) : parseRadix radix cs = some (radixVal radix cs) := by
  rw [parseRadix, if_pos]
  simpa [hne] using h

theorem radixVal_snoc (radix : Nat) (ds : List Char) (c : Char) :
    radixVal radix (ds ++ [c]) = radixVal radix ds * radix + hexVal c := by
  simp [radixVal, List.foldl_append]

theorem stripUs_cons_keep {c : Char} (h : c ≠ '_') (l : List Char) : stripUs (c :: l) = c :: stripUs l := by
  simp [stripUs, h]

theorem stripUs_us (l : List Char) : stripUs ('_' :: l) = stripUs l := by
  simp [stripUs]

theorem isHex_ne_us {c : Char} (h : isHex c = true) : c ≠ '_' := by
  rintro rfl; revert h; decide

theorem isDigit_ne_us {c : Char} (h : isDigit c = true) : c ≠ '_' := isHex_ne_us (isHex_of_isDigit h)

theorem stripUs_all {p : Char → Bool} (l : List Char) (h : l.all (fun c => p c || c = '_') = true) :
    (stripUs l).all p = true := by
  rw [stripUs, List.all_filter]
  simpa [Bool.or_comm] using h

theorem number_int (d : Char) (rest : List Char) (hd : isDigit d = true) (hr : rest.all isNumDigit = true) :
    numberLiteral (d :: rest) = .ok (.int (radixVal 10 (stripUs (d :: rest)))) := by
  have hall : ∀ c ∈ stripUs (d :: rest), isHex c = true ∧ hexVal c < 10 := by
    rw [stripUs_cons_keep (isDigit_ne_us hd)]
    intro c hc
    have : isDigit c = true := by
      rcases List.mem_cons.mp hc with rfl | hc
      · exact hd
      · exact List.all_eq_true.mp (stripUs_all rest hr) c hc
    exact ⟨isHex_of_isDigit this, hexVal_digit this⟩
  rw [numberLiteral, parseRadix_some 10 _ (by simp [stripUs_cons_keep (isDigit_ne_us hd)]) hall]

theorem stripUs_dropWhile_us (l : List Char) : stripUs (l.dropWhile (· = '_')) = stripUs l := by
  induction l with
  | nil => rfl
  | cons c cs ih =>
    by_cases hc : c = '_'
    · simpa [hc, stripUs_us] using ih
    · simp [hc]

/-- the digits of a token `0x…` / `0b…`: after the separators a digit of the radix, then digits and separators -/
theorem radix_token_ok (p : Char → Bool) (radix : Nat) (hp : ∀ c, p c = true → isHex c = true ∧ hexVal c < radix)
    (rest : List Char)
    (h : (match rest.dropWhile (· = '_') with
      | c :: more => p c && more.all (fun c => p c || c = '_')
      | [] => false) = true) :
    parseRadix radix (stripUs rest) = some (radixVal radix (stripUs rest)) := by
  split at h
  · rename_i c more hd
    simp only [Bool.and_eq_true] at h
    have e : stripUs rest = c :: stripUs more := by
      rw [← stripUs_dropWhile_us, hd, stripUs_cons_keep (isHex_ne_us (hp c h.1).1)]
    rw [e]
    refine parseRadix_some radix _ (by simp) fun x hx => ?_
    rcases List.mem_cons.mp hx with rfl | hx
    · exact hp _ h.1
    · exact hp x (List.all_eq_true.mp (stripUs_all more h.2) x hx)
  · cases h

theorem isBin_props (c : Char) (h : isBin c = true) : isHex c = true ∧ hexVal c < 2 := by
  simp only [isBin, Bool.or_eq_true, decide_eq_true_eq] at h
  rcases h with rfl | rfl <;> decide

theorem dropWhile_stripUs (l : List Char) : (stripUs l).dropWhile isDigit = stripUs (l.dropWhile isNumDigit) := by
  induction l with
  | nil => rfl
  | cons c cs ih =>
    by_cases hu : c = '_'
    · subst hu; simpa [stripUs_us, isNumDigit] using ih
    · rw [stripUs_cons_keep hu]
      by_cases hd : isDigit c = true
      · simpa [hd, isNumDigit] using ih
      · simp [hd, hu, isNumDigit, stripUs_cons_keep hu]

theorem isFloatExp_digit (d : Char) (m : List Char) (hd : isDigit d = true) :
    isFloatExp (d :: m) = m.all isDigit := by
  unfold isFloatExp
  split
  · rename_i heq; cases heq; exact absurd hd (by decide)
  · rename_i heq; cases heq; simp [hd]
  · rename_i heq; cases heq

theorem floatExp_of_expTail (t : List Char) (h : isExpTail t = true) : isFloatExp (stripUs t) = true := by
  unfold isExpTail at h
  split at h
  · rename_i d m
    simp only [Bool.and_eq_true] at h
    rw [stripUs_cons_keep (by decide), stripUs_cons_keep (isDigit_ne_us h.1)]
    simp only [isFloatExp, h.1, stripUs_all m h.2, Bool.and_self]
  · rename_i d m _
    simp only [Bool.and_eq_true] at h
    rw [stripUs_cons_keep (isDigit_ne_us h.1), isFloatExp_digit _ _ h.1]
    exact stripUs_all m h.2
  · cases h

/-- the exponent part, or the end of the token -/
theorem expPart_stripUs (r : List Char)
    (h : (match r with
      | [] => true
      | e :: t => (e = 'e' || e = 'E') && isExpTail t) = true) :
    (match stripUs r with
      | [] => true
      | e :: t => (e = 'e' || e = 'E') && isFloatExp t) = true := by
  cases r with
  | nil => rfl
  | cons e t =>
    simp only [Bool.and_eq_true] at h
    have hu : e ≠ '_' := by rintro rfl; exact absurd h.1 (by decide)
    rw [stripUs_cons_keep hu]
    simp only [h.1, floatExp_of_expTail t h.2, Bool.and_self]

theorem floatTail_of_numTail (r : List Char) (h : isNumTail r = true) : isFloatTail (stripUs r) = true := by
  cases r with
  | nil => rfl
  | cons e t =>
    by_cases he : e = '.'
    · subst he
      cases t with
      | nil => cases h
      | cons f more =>
        by_cases hf : isNumDigit f = true
        · -- a fraction: what follows its digits is what follows them in the text without separators
          simp only [isNumTail, hf, if_true] at h
          rw [stripUs_cons_keep (by decide), isFloatTail]
          simp only [dropWhile_stripUs, List.dropWhile_cons, hf, if_true]
          exact expPart_stripUs _ h
        · simp [isNumTail, hf] at h
    · have h' : ((e = 'e' || e = 'E') && isExpTail t) = true := by
        unfold isNumTail at h
        split at h
        · rename_i heq; cases heq; exact absurd rfl he
        · exact h
      have hu : e ≠ '_' := by rintro rfl; simp at h'
      have := expPart_stripUs (e :: t) h'
      rw [stripUs_cons_keep hu] at this ⊢
      unfold isFloatTail
      split
      · rename_i heq; cases heq; exact absurd rfl he
      · exact this

/-- a token of the rule `num` reads as a float once the separators are gone (and as an int before that, when it
has neither fraction nor exponent: `number_int`) -/
theorem num_token_float (d : Char) (rest : List Char) (h : isNumTok (d :: rest) = true) :
    isFloatText (stripUs (d :: rest)) = true := by
  simp only [isNumTok, Bool.and_eq_true] at h
  rw [stripUs_cons_keep (isDigit_ne_us h.1)]
  simp only [isFloatText, List.dropWhile_cons, h.1, if_true, Bool.true_and]
  rw [dropWhile_stripUs]
  exact floatTail_of_numTail _ h.2

theorem numberLiteral_ok_of (s : List Char)
    (h : (∃ v, hexAttempt (stripUs s) = some v) ∨ (∃ v, binAttempt (stripUs s) = some v) ∨
         isFloatText (stripUs s) = true) :
    ¬ (numberLiteral s).isPanic := by
  unfold numberLiteral
  cases parseRadix 10 (stripUs s) with
  | some v => exact id
  | none =>
    cases h16 : hexAttempt (stripUs s) with
    | some v => exact id
    | none =>
      cases h2 : binAttempt (stripUs s) with
      | some v => exact id
      | none =>
        rcases h with ⟨v, hv⟩ | ⟨v, hv⟩ | hf
        · rw [h16] at hv; cases hv
        · rw [h2] at hv; cases hv
        · simp only [hf, if_true]; exact id

/-- every token the grammar rule NUMBER_ANY can produce is handled without reaching the `panic!` -/
theorem numberLiteral_total (s : List Char) (h : isNumberAny s = true) : ¬ (numberLiteral s).isPanic := by
  apply numberLiteral_ok_of
  simp only [isNumberAny, Bool.or_eq_true] at h
  rcases h with (h | h) | h
  · unfold isHexTok at h
    split at h
    · rename_i rest
      refine Or.inl ⟨radixVal 16 (stripUs rest), ?_⟩
      rw [stripUs_cons_keep (by decide), stripUs_cons_keep (by decide)]
      exact radix_token_ok isHex 16 (fun c hc => ⟨hc, hexVal_lt16 hc⟩) rest h
    · cases h
  · unfold isBinTok at h
    split at h
    · rename_i rest
      refine Or.inr (Or.inl ⟨radixVal 2 (stripUs rest), ?_⟩)
      rw [stripUs_cons_keep (by decide), stripUs_cons_keep (by decide)]
      exact radix_token_ok isBin 2 isBin_props rest h
    · cases h
  · cases s with
    | nil => cases h
    | cons d rest => exact Or.inr (Or.inr (num_token_float d rest h))

theorem isNumDigit_iff (c : Char) : isNumDigit c = true ↔ isDigit c = true ∨ c = '_' := by
  simp [isNumDigit]

def isQuote (q : Char) : Prop := q = '"' ∨ q = '\''

theorem closes_self (q : Char) (n : Nat) (rest : List Char) :
    closes q n (q :: List.replicate n '#' ++ rest) = true :=
  List.isPrefixOf_iff_prefix.mpr (List.prefix_append _ _)

theorem drop_self (q : Char) (n : Nat) (rest : List Char) :
    (q :: List.replicate n '#' ++ rest).drop (n + 1) = rest := by
  simp

theorem scanInner_clean (q : Char) (n : Nat) (raw : Bool) (t rest : List Char) (fuel : Nat) (hf : t.length < fuel)
    (hb : raw = false → ∀ c ∈ t, c ≠ '\\')
    (h : ∀ i, i < t.length → closes q n (t.drop i ++ (q :: List.replicate n '#' ++ rest)) = false) :
    scanInner q n raw fuel (t ++ (q :: List.replicate n '#' ++ rest)) = some (t, rest) := by
  induction t generalizing fuel with
  | nil =>
    cases fuel with
    | zero => omega
    | succ f => unfold scanInner; rw [List.nil_append, if_pos (closes_self q n rest), drop_self]
  | cons c cs ih =>
    cases fuel with
    | zero => omega
    | succ f =>
      have h0 : closes q n (c :: (cs ++ (q :: List.replicate n '#' ++ rest))) = false := h 0 (Nat.zero_lt_succ _)
      have hc : (!raw && decide (c = '\\')) = false := by
        cases raw
        · simpa using hb rfl c (by simp)
        · rfl
      unfold scanInner
      rw [List.cons_append, if_neg (by rw [h0]; exact Bool.false_ne_true)]
      simp only [hc, Bool.false_eq_true, if_false]
      rw [ih f (by simpa using hf) (fun hr d hd => hb hr d (by simp [hd]))
        (fun i hi => h (i + 1) (by simpa using hi))]
      rfl

theorem no_close_of_not_mem (q : Char) (n : Nat) (t tail : List Char) (hq : q ∉ t) :
    ∀ i, i < t.length → closes q n (t.drop i ++ tail) = false := by
  intro i hi
  rw [List.drop_eq_getElem_cons hi]
  simp only [closes, List.cons_append, List.isPrefixOf, Bool.and_eq_false_imp, beq_iff_eq]
  exact fun e => absurd (e ▸ List.getElem_mem hi) hq

theorem no_close_of_fence (q : Char) (hq : isQuote q) (n : Nat) (hn : 1 ≤ n) (t : List Char)
    (h : ∀ i, t[i]? = some q → t[i + 1]? ≠ some '#') :
    ∀ i, i < t.length → closes q n (t.drop i ++ (q :: List.replicate n '#')) = false := by
  have hq' : q ≠ '#' := by rcases hq with rfl | rfl <;> decide
  intro i hi
  obtain ⟨k, rfl⟩ : ∃ k, n = k + 1 := ⟨n - 1, by omega⟩
  rw [List.drop_eq_getElem_cons hi]
  simp only [closes, List.replicate_succ, List.cons_append, List.isPrefixOf, Bool.and_eq_false_imp, beq_iff_eq]
  intro e
  have hnext := h i (by rw [List.getElem?_eq_getElem hi, e])
  -- the character after the quote is not `#`: it is a character of `t`, or the closing quote itself
  by_cases hlast : i + 1 < t.length
  · rw [List.drop_eq_getElem_cons hlast]
    simp only [List.cons_append, List.isPrefixOf, Bool.and_eq_false_imp, beq_iff_eq]
    intro e2
    exact absurd (by rw [List.getElem?_eq_getElem hlast, ← e2]) hnext
  · rw [List.drop_eq_nil_of_le (by omega)]
    simp only [List.nil_append, List.isPrefixOf, Bool.and_eq_false_imp, beq_iff_eq]
    intro e2
    exact absurd e2.symm hq'

/-- `l` is the literal `#…# q t q #…#`, behind the prefix `r` when raw -/
theorem parseLiteral_clean (raw : Bool) (l : List Char) (q : Char) (hq : isQuote q) (n : Nat) (t : List Char)
    (hraw : isRawPrefix l = raw)
    (hl : (if raw then l.drop 1 else l) = List.replicate n '#' ++ q :: (t ++ q :: List.replicate n '#'))
    (hb : raw = false → ∀ c ∈ t, c ≠ '\\')
    (h : ∀ i, i < t.length → closes q n (t.drop i ++ (q :: List.replicate n '#')) = false) :
    parseLiteral l = some (.ok t, []) := by
  have hq' : ¬ decide (q = '#') = true := by rcases hq with rfl | rfl <;> decide
  have hh : ∀ c ∈ List.replicate n '#', decide (c = '#') = true := fun c hc => by simp [List.eq_of_mem_replicate hc]
  have hqq : (q = '"' || q = '\'') = true := by rcases hq with rfl | rfl <;> decide
  have hscan := scanInner_clean q n raw t [] ((t ++ q :: List.replicate n '#').length + 1) (by simp; omega) hb
    (by simpa using h)
  rw [List.append_nil] at hscan
  unfold parseLiteral
  simp only [hraw, hl, List.takeWhile_append_of_pos hh, List.dropWhile_append_of_pos hh,
    List.takeWhile_cons_of_neg (p := (· = '#')) hq', List.dropWhile_cons_of_neg (p := (· = '#')) hq', List.append_nil, List.length_replicate, if_pos hqq,
    hscan, Option.map_some]
  cases raw
  · rw [applyEscapes_plain t (hb rfl)]; rfl
  · rfl

theorem parseLiteral_raw (q : Char) (hq : isQuote q) (n : Nat) (t : List Char)
    (h : ∀ i, i < t.length → closes q n (t.drop i ++ (q :: List.replicate n '#')) = false) :
    parseLiteral ('r' :: (List.replicate n '#' ++ q :: (t ++ q :: List.replicate n '#'))) = some (.ok t, []) :=
  parseLiteral_clean true _ q hq n t rfl rfl (fun h => by cases h) h

theorem parseLiteral_plain (q : Char) (hq : isQuote q) (n : Nat) (t : List Char)
    (hb : ∀ c ∈ t, c ≠ '\\')
    (h : ∀ i, i < t.length → closes q n (t.drop i ++ (q :: List.replicate n '#')) = false) :
    parseLiteral (List.replicate n '#' ++ q :: (t ++ q :: List.replicate n '#')) = some (.ok t, []) := by
  refine parseLiteral_clean false _ q hq n t ?_ rfl (fun _ => hb) h
  -- not a raw prefix: the text starts with `#`, or (no fence) with the quote, which is not `r`
  cases n with
  | zero => rcases hq with rfl | rfl <;> rfl
  | succ k => rfl

end XrayModel.Lex
