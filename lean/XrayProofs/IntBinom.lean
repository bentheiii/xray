/-
The `binom` loop of `int.rs` (`IntB.binom`).  On canonical representations every `LazyBigint` operation is an equation
between `ofInt` values (`Ops.add_ofInt` …), so the fold over `i = 0 … k-1` computes the descending factorial and `k!`
(`fold_mul`, which `multinom` uses too), and the final division is exact because the quotient is `Nat.choose`.
-/
import Mathlib.Data.Nat.Choose.Basic
import XrayProofs.LazyIntOps
namespace XrayModel.Binom
open XrayModel LB

/-- the loop shared by `binom` and `multinom`: over `i = 0 … k-1` a step multiplies the numerator by `g i` and the
denominator by `i + 1`; `G` is the closed form of the product of the `g i` -/
theorem fold_mul (step : Except String (LB × LB) → LB → Except String (LB × LB)) (g G : Nat → Int) (N D : Int)
    (k : Nat) (hG0 : G 0 = 1) (hG : ∀ i < k, G (i + 1) = G i * g i)
    (hstep : ∀ i < k, ∀ N D : Int,
      step (.ok (ofInt N, ofInt D)) (ofInt (Int.ofNat i)) = .ok (ofInt (N * g i), ofInt (D * (i + 1)))) :
    ((List.range k).map (fun i : Nat => ofInt (Int.ofNat i))).foldl step (.ok (ofInt N, ofInt D)) =
      .ok (ofInt (N * G k), ofInt (D * (k.factorial : Nat))) := by
  induction k with
  | zero => simp [hG0]
  | succ k ih =>
    rw [List.range_succ, List.map_append, List.foldl_append,
      ih (fun i hi => hG i (by omega)) (fun i hi => hstep i (by omega))]
    simp only [List.map_cons, List.map_nil, List.foldl_cons, List.foldl_nil, hstep k (Nat.lt_succ_self k),
      hG k (Nat.lt_succ_self k), Nat.factorial_succ]
    push_cast
    simp only [Int.mul_assoc, Int.mul_comm, Int.mul_left_comm]

theorem binomStep_eq (n i N D : Int) :
    IntB.binomStep (ofInt n) (.ok (ofInt N, ofInt D)) (ofInt i) = .ok (ofInt (N * (n - i)), ofInt (D * (i + 1))) := by
  simp only [IntB.binomStep, Ops.rule' Ops.sub_correct, Ops.mulAssign_ofInt, Ops.succ_ofInt]

theorem binom_fold (n k : Nat) (hk : k ≤ n) :
    ((List.range k).map (fun (i : Nat) => LB.ofInt (Int.ofNat i))).foldl (IntB.binomStep (ofInt n))
        (.ok (short 1, short 1)) = .ok (ofInt (n.descFactorial k : Nat), ofInt (k.factorial : Nat)) := by
  have := fold_mul (IntB.binomStep (ofInt n)) (fun i => n - i) (fun k => (n.descFactorial k : Nat)) 1 1 k rfl
    (fun i hi => by rw [Nat.descFactorial_succ]; push_cast [Int.natCast_sub (show i ≤ n by omega)]; exact Int.mul_comm ..)
    (fun i _ N D => binomStep_eq n i N D)
  rwa [Int.one_mul, Int.one_mul] at this

theorem tdiv_desc_fact (n k : Nat) :
    Int.tdiv (n.descFactorial k : Nat) (k.factorial : Nat) = (n.choose k : Nat) := by
  rw [Nat.descFactorial_eq_factorial_mul_choose]
  push_cast
  exact Int.mul_tdiv_cancel_left _ (by exact_mod_cast (Nat.factorial_pos k).ne')

theorem binom_eq (n k : Nat) (hk : k ≤ n) :
    IntB.binom (ofInt n) (ofInt k) = .int (ofInt (n.choose k : Nat)) := by
  unfold IntB.binom IntB.rangeTo
  have h1 : (LB.cmp (ofInt k) (ofInt n) == .gt) = false := by
    rw [Ops.cmp_beq_gt _ _ (ofInt_wf _) (ofInt_wf _), ofInt_den, ofInt_den]
    exact decide_eq_false (by omega)
  have h2 : LB.isNegative (ofInt k) = false := by
    rw [← Bool.not_eq_true, isNegative_iff, ofInt_den]; omega
  rw [h1, h2]
  simp only [Bool.false_eq_true, if_false, ofInt_den, Int.toNat_natCast, binom_fold n k hk]
  rw [Ops.div_ofInt _ _ (by exact_mod_cast (Nat.factorial_pos k).ne'), tdiv_desc_fact]
  rfl

end XrayModel.Binom
