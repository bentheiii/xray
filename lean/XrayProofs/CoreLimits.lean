/-
Helpers for C08 (limits of the core evaluator, XrayModel/Core.lean).  `noViolAt`, `kindAt`, `callsAt` and
`noCountAt` are four instances of `trace` (CoreTrace.lean).  `evalI` is the instrumented evaluator: it counts
user calls, greatest frame height and greatest tail-iteration count, and never stops.  `Rel` … `SimAt` state
relationally that a run of `eval` under limits follows the run of `evalI` until a limit is reached; what is
proved is the functional form of this, `Lock` (CoreLimitsSim.lean).
-/
import XrayProofs.CoreTrace
namespace XrayModel.CoreLimits
open XrayModel.Core

def Res.isViol : Res → Bool
  | .viol _ => true
  | _ => false

def exViol {α : Type} : Except Res α → Bool
  | .error r => Res.isViol r
  | .ok _ => false

end XrayModel.CoreLimits

namespace XrayModel.CoreLimitsSim
open XrayModel.Core XrayModel.CoreLimits

@[simp] theorem isViol_val (v) : Res.isViol (Res.val v) = false := rfl
@[simp] theorem isViol_viol (k) : Res.isViol (Res.viol k) = true := rfl
@[simp] theorem isViol_tail (a) : Res.isViol (Res.tail a) = false := rfl
@[simp] theorem isViol_stuck (s) : Res.isViol (Res.stuck s) = false := rfl
@[simp] theorem isViol_oof : Res.isViol Res.oof = false := rfl
@[simp] theorem exViol_ok {α} (a : α) : exViol (Except.ok a : Except Res α) = false := rfl
@[simp] theorem exViol_error {α} (r : Res) : exViol (Except.error r : Except Res α) = Res.isViol r := rfl

end XrayModel.CoreLimitsSim

namespace XrayModel.CoreLimits
open XrayModel.Core

/-! "Not a violation" is said in three ways: `r.viol? = none` (the index of a `Trace`, CoreTrace.lean),
`Res.isViol r = false` (the structures of the C08 helpers), `∀ k, r ≠ .viol k` (Props/C08.lean). -/

theorem isViol_false_iff {r : Res} : Res.isViol r = false ↔ r.viol? = none := by
  cases r <;> simp [Res.viol?]

theorem exViol_false_iff {α : Type} {x : Except Res α} : exViol x = false ↔ exViol? x = none := by
  cases x
  · exact isViol_false_iff
  · simp [exViol?]

theorem not_viol_iff (r : Res) : Res.isViol r = false ↔ ∀ k, r ≠ .viol k := by
  cases r <;> simp

theorem ex_not_viol_iff {α} (x : Except Res α) : exViol x = false ↔ ∀ k, x ≠ .error (.viol k) := by
  cases x with
  | ok a => simp
  | error r => cases r <;> simp

theorem viol_of_isViol {r : Res} (hv : Res.isViol r = true) : ∃ k, r = .viol k := by
  cases r with
  | viol k => exact ⟨k, rfl⟩
  | _ => cases hv

theorem viol_of_exViol {α} {x : Except Res α} (hv : exViol x = true) : ∃ k, x = .error (.viol k) := by
  cases x with
  | ok a => cases hv
  | error r => exact (viol_of_isViol hv).imp fun _ h => congrArg Except.error h

/-- the ten statements of `C08.no_limit_no_violation`, at one fuel -/
structure NoViolAt (cfg : Cfg) (fuel : Nat) : Prop where
  eval : ∀ fr e tail st, Res.isViol (eval fuel cfg fr e tail st).1 = false ∧ (eval fuel cfg fr e tail st).2.calls = st.calls
  callNamed : ∀ fr f args tail st, Res.isViol (callNamed fuel cfg fr f args tail st).1 = false ∧ (callNamed fuel cfg fr f args tail st).2.calls = st.calls
  callVal : ∀ fr c args tail st, Res.isViol (callVal fuel cfg fr c args tail st).1 = false ∧ (callVal fuel cfg fr c args tail st).2.calls = st.calls
  evalList : ∀ fr es st, exViol (evalList fuel cfg fr es st).1 = false ∧ (evalList fuel cfg fr es st).2.calls = st.calls
  mkClos : ∀ fr f st, Res.isViol (mkClos fuel cfg fr f st).1 = false ∧ (mkClos fuel cfg fr f st).2.calls = st.calls
  evalDflts : ∀ fr ps st, exViol (evalDflts fuel cfg fr ps st).1 = false ∧ (evalDflts fuel cfg fr ps st).2.calls = st.calls
  callUser : ∀ h c args st, Res.isViol (callUser fuel cfg h c args st).1 = false ∧ (callUser fuel cfg h c args st).2.calls = st.calls
  tramp : ∀ h c args rec st, Res.isViol (tramp fuel cfg h c args rec st).1 = false ∧ (tramp fuel cfg h c args rec st).2.calls = st.calls
  evalDecls : ∀ fr ds st, exViol (evalDecls fuel cfg fr ds st).1 = false ∧ (evalDecls fuel cfg fr ds st).2.calls = st.calls
  builtin : ∀ fr f args tail st, Res.isViol (builtin fuel cfg fr f args tail st).1 = false ∧ (builtin fuel cfg fr f args tail st).2.calls = st.calls

theorem noViol_trace {cfg : Cfg} (hc : cfg.depthLimit = none ∧ cfg.callLimit = none ∧ cfg.recLimit = none) :
    Trace cfg (fun st o st' => o = none ∧ st'.calls = st.calls) where
  refl _ := ⟨rfl, rfl⟩
  trans h1 h2 := ⟨h2.1, h2.2.trans h1.2⟩
  display _ _ := ⟨rfl, rfl⟩
  count _ _ hl := by rw [hc.2.1] at hl; cases hl
  calls _ _ hl := by rw [hc.2.1] at hl; cases hl
  depth _ _ hl := by rw [hc.1] at hl; cases hl
  recursion _ _ hl := by rw [hc.2.2] at hl; cases hl

theorem noViolAt (cfg : Cfg) (hc : cfg.depthLimit = none ∧ cfg.callLimit = none ∧ cfg.recLimit = none) (fuel : Nat) :
    NoViolAt cfg fuel :=
  have t := trace (noViol_trace hc) fuel
  { eval := fun _ _ _ _ => (t.eval ..).imp_left isViol_false_iff.2
    callNamed := fun _ _ _ _ _ => (t.callNamed ..).imp_left isViol_false_iff.2
    callVal := fun _ _ _ _ _ => (t.callVal ..).imp_left isViol_false_iff.2
    evalList := fun _ _ _ => (t.evalList ..).imp_left exViol_false_iff.2
    mkClos := fun _ _ _ => (t.mkClos ..).imp_left isViol_false_iff.2
    evalDflts := fun _ _ _ => (t.evalDflts ..).imp_left exViol_false_iff.2
    callUser := fun _ _ _ _ => (t.callUser ..).imp_left isViol_false_iff.2
    tramp := fun _ _ _ _ _ => (t.tramp ..).imp_left isViol_false_iff.2
    evalDecls := fun _ _ _ => (t.evalDecls ..).imp_left exViol_false_iff.2
    builtin := fun _ _ _ _ _ => (t.builtin ..).imp_left isViol_false_iff.2 }


/-- state of the instrumented run: output, number of user calls, greatest frame height created,
greatest tail-iteration count reached by a trampoline -/
structure StI where
  out : List String := []
  calls : Nat := 0
  maxH : Nat := 0
  maxRec : Nat := 0

mutual
  /-- `Core.eval` and its nine companions (XrayModel/Core.lean) arm for arm, on the instrumented state and
  without the three checks: `callUserI` counts every user call (`callUser`: only under a call limit) and
  never refuses one; `trampI` records the height of the frame it creates (`maxH`) and the tail-iteration
  count it reaches (`maxRec`) where `tramp` compares them with the limits.  `tco` stands for `cfg.tco`. -/
  def evalI (fuel : Nat) (tco : Bool) (fr : Frame) (e : Expr) (tail : Bool) (st : StI) : Res × StI :=
    match fuel with
    | 0 => (.oof, st)
    | fuel + 1 =>
      match e with
      | .int n => (.val (.int n), st)
      | .bool b => (.val (.bool b), st)
      | .str s => (.val (.str s), st)
      | .var x => match fr.get x with
          | some v => (.val v, st)
          | none => (.stuck ("unbound " ++ x), st)
      | .tup es => match evalListI fuel tco fr es st with
          | (.ok vs, st') => (.val (.tup vs), st')
          | (.error r, st') => (r, st')
      | .arr es => match evalListI fuel tco fr es st with
          | (.ok vs, st') => (.val (.arr vs), st')
          | (.error r, st') => (r, st')
      | .item e i => match evalI fuel tco fr e false st with
          | (.val (.tup vs), st') => match vs[i]? with
              | some v => (.val v, st')
              | none => (.stuck "item", st')
          | (.val (.err m), st') => (.val (.err m), st')
          | (.val _, st') => (.stuck "item of non-tuple", st')
          | (.tail _, st') => (.stuck "tail escaped", st')
          | r => r
      | .lam f => mkClosI fuel tco fr f st
      | .call f args =>
          match fr.self with
          | some (selfName, selfClos) =>
              if f = selfName && (lookup f fr.env).isNone then
                if tail && tco then
                  match evalListI fuel tco fr args st with
                  | (.ok vs, st') => (.tail vs, st')
                  | (.error r, st') => (r, st')
                else callValI fuel tco fr selfClos args tail st
              else callNamedI fuel tco fr f args tail st
          | none => callNamedI fuel tco fr f args tail st
      | .callE fe args => match evalI fuel tco fr fe false st with
          | (.val (.err m), st') => (.val (.err m), st')
          | (.val c, st') => callValI fuel tco fr c args tail st'
          | (.tail _, st') => (.stuck "tail escaped", st')
          | r => r

  def callNamedI (fuel : Nat) (tco : Bool) (fr : Frame) (f : String) (args : List Expr) (tail : Bool) (st : StI) : Res × StI :=
    match fuel with
    | 0 => (.oof, st)
    | fuel + 1 =>
      match fr.get f with
      | some c => callValI fuel tco fr c args tail st
      | none => builtinI fuel tco fr f args tail st

  def callValI (fuel : Nat) (tco : Bool) (fr : Frame) (c : Val) (args : List Expr) (_tail : Bool) (st : StI) : Res × StI :=
    match fuel with
    | 0 => (.oof, st)
    | fuel + 1 =>
      match c with
      | .clos f dflts env =>
          match evalListI fuel tco fr args st with
          | (.ok vs, st') => callUserI fuel tco fr.height (.clos f dflts env) vs st'
          | (.error r, st') => (r, st')
      | .err m => (.val (.err m), st)
      | _ => (.stuck "call of a non-function", st)

  def evalListI (fuel : Nat) (tco : Bool) (fr : Frame) (es : List Expr) (st : StI) : Except Res (List Val) × StI :=
    match fuel with
    | 0 => (.error .oof, st)
    | fuel + 1 =>
      match es with
      | [] => (.ok [], st)
      | e :: rest => match evalI fuel tco fr e false st with
          | (.val (.err m), st') => (.error (.val (.err m)), st')
          | (.val v, st') => match evalListI fuel tco fr rest st' with
              | (.ok vs, st'') => (.ok (v :: vs), st'')
              | r => r
          | (.tail _, st') => (.error (.stuck "tail escaped"), st')
          | (r, st') => (.error r, st')

  def mkClosI (fuel : Nat) (tco : Bool) (fr : Frame) (f : Func) (st : StI) : Res × StI :=
    match fuel with
    | 0 => (.oof, st)
    | fuel + 1 =>
      match evalDfltsI fuel tco fr f.params st with
      | (.ok ds, st') =>
          let env := match fr.self with
            | some s => fr.env ++ [s]
            | none => fr.env
          (.val (.clos f ds env), st')
      | (.error r, st') => (r, st')

  def evalDfltsI (fuel : Nat) (tco : Bool) (fr : Frame) (ps : List Param) (st : StI) : Except Res (List Val) × StI :=
    match fuel with
    | 0 => (.error .oof, st)
    | fuel + 1 =>
      match ps with
      | [] => (.ok [], st)
      | p :: rest => match p.dflt with
          | none => evalDfltsI fuel tco fr rest st
          | some d => match evalI fuel tco fr d false st with
              | (.val v, st') => match evalDfltsI fuel tco fr rest st' with
                  | (.ok vs, st'') => (.ok (v :: vs), st'')
                  | r => r
              | (.tail _, st') => (.error (.stuck "tail escaped"), st')
              | (r, st') => (.error r, st')

  def callUserI (fuel : Nat) (tco : Bool) (height : Nat) (c : Val) (args : List Val) (st : StI) : Res × StI :=
    match fuel with
    | 0 => (.oof, st)
    | fuel + 1 =>
      match firstErr args with
      | some e => (.val e, st)
      | none =>
        trampI fuel tco height c args 0 { st with calls := st.calls + 1 }

  def trampI (fuel : Nat) (tco : Bool) (height : Nat) (c : Val) (args : List Val) (rec : Nat) (st : StI) : Res × StI :=
    match fuel with
    | 0 => (.oof, st)
    | fuel + 1 =>
      match c with
      | .clos f dflts env =>
          -- where `tramp` has the depth check
          let h := height + 1
          let st := { st with maxH := max st.maxH h }
          match bindParams f.params args dflts with
            | none => (.stuck "arity", st)
            | some ps =>
              let self := match f.name with
                | some n => some (n, c)
                | none => none
              let fr : Frame := { env := ps.reverse ++ env, self := self, height := h }
              match evalDeclsI fuel tco fr f.decls st with
              | (.error r, st') => (r, st')
              | (.ok fr', st') =>
                match evalI fuel tco fr' f.body true st' with
                | (.tail newArgs, st'') =>
                    let rec' := rec + 1
                    trampI fuel tco height c newArgs rec' { st'' with maxRec := max st''.maxRec rec' }
                | r => r
      | _ => (.stuck "tramp of a non-function", st)

  def evalDeclsI (fuel : Nat) (tco : Bool) (fr : Frame) (ds : List Decl) (st : StI) : Except Res Frame × StI :=
    match fuel with
    | 0 => (.error .oof, st)
    | fuel + 1 =>
      match ds with
      | [] => (.ok fr, st)
      | .letD x e :: rest => match evalI fuel tco fr e false st with
          | (.val v, st') => evalDeclsI fuel tco { fr with env := (x, v) :: fr.env } rest st'
          | (.tail _, st') => (.error (.stuck "tail escaped"), st')
          | (r, st') => (.error r, st')
      | .fnD f :: rest => match mkClosI fuel tco fr f st with
          | (.val c, st') => match f.name with
              | some n => evalDeclsI fuel tco { fr with env := (n, c) :: fr.env } rest st'
              | none => (.error (.stuck "anonymous declaration"), st')
          | (.tail _, st') => (.error (.stuck "tail escaped"), st')
          | (r, st') => (.error r, st')

  def builtinI (fuel : Nat) (tco : Bool) (fr : Frame) (f : String) (args : List Expr) (tail : Bool) (st : StI) : Res × StI :=
    match fuel with
    | 0 => (.oof, st)
    | fuel + 1 =>
      match f, args with
      | "if", [c, a, b] => match evalI fuel tco fr c false st with
          | (.val (.bool t), st') => evalI fuel tco fr (if t then a else b) tail st'
          | (.val (.err m), st') => (.val (.err m), st')
          | (.val _, st') => (.stuck "if", st')
          | (.tail _, st') => (.stuck "tail escaped", st')
          | r => r
      | "and", [a, b] => match evalI fuel tco fr a false st with
          | (.val (.bool true), st') => evalI fuel tco fr b tail st'
          | (.val (.bool false), st') => (.val (.bool false), st')
          | (.val (.err m), st') => (.val (.err m), st')
          | (.val _, st') => (.stuck "and", st')
          | (.tail _, st') => (.stuck "tail escaped", st')
          | r => r
      | "or", [a, b] => match evalI fuel tco fr a false st with
          | (.val (.bool false), st') => evalI fuel tco fr b tail st'
          | (.val (.bool true), st') => (.val (.bool true), st')
          | (.val (.err m), st') => (.val (.err m), st')
          | (.val _, st') => (.stuck "or", st')
          | (.tail _, st') => (.stuck "tail escaped", st')
          | r => r
      | "if_error", [a, b] => match evalI fuel tco fr a false st with
          | (.val (.err _), st') => evalI fuel tco fr b tail st'
          | (.val v, st') => (.val v, st')
          | (.tail _, st') => (.stuck "tail escaped", st')
          | r => r
      | "is_error", [a] => match evalI fuel tco fr a false st with
          | (.val v, st') => (.val (.bool v.isErr), st')
          | (.tail _, st') => (.stuck "tail escaped", st')
          | r => r
      | "display", [a] => match evalI fuel tco fr a false st with
          | (.val (.err m), st') => (.val (.err m), st')
          | (.val v, st') => match toStr v with
              | some s => (.val v, { st' with out := st'.out ++ [s] })
              | none => (.stuck "display", st')
          | (.tail _, st') => (.stuck "tail escaped", st')
          | r => r
      | _, _ =>
          if isStrictPrim f then
            match evalListI fuel tco fr args st with
            | (.ok vs, st') => (prim f vs, st')
            | (.error r, st') => (r, st')
          else (.stuck ("unknown function " ++ f), st)
end


def StI.le (a b : StI) : Prop := a.calls ≤ b.calls ∧ a.maxH ≤ b.maxH ∧ a.maxRec ≤ b.maxRec

structure MonoAt (tco : Bool) (fuel : Nat) : Prop where
  eval : ∀ fr e tail st, StI.le st (evalI fuel tco fr e tail st).2
  callNamed : ∀ fr f args tail st, StI.le st (callNamedI fuel tco fr f args tail st).2
  callVal : ∀ fr c args tail st, StI.le st (callValI fuel tco fr c args tail st).2
  evalList : ∀ fr es st, StI.le st (evalListI fuel tco fr es st).2
  mkClos : ∀ fr f st, StI.le st (mkClosI fuel tco fr f st).2
  evalDflts : ∀ fr ps st, StI.le st (evalDfltsI fuel tco fr ps st).2
  callUser : ∀ h c args st, StI.le st (callUserI fuel tco h c args st).2
  tramp : ∀ h c args rec st, StI.le st (trampI fuel tco h c args rec st).2
  evalDecls : ∀ fr ds st, StI.le st (evalDeclsI fuel tco fr ds st).2
  builtin : ∀ fr f args tail st, StI.le st (builtinI fuel tco fr f args tail st).2

theorem StI.le.refl (s : StI) : StI.le s s := ⟨Nat.le_refl _, Nat.le_refl _, Nat.le_refl _⟩

theorem StI.le.trans {a b c : StI} (h1 : StI.le a b) (h2 : StI.le b c) : StI.le a c :=
  ⟨Nat.le_trans h1.1 h2.1, Nat.le_trans h1.2.1 h2.2.1, Nat.le_trans h1.2.2 h2.2.2⟩

theorem StI.le_calls (s : StI) : StI.le s { s with calls := s.calls + 1 } :=
  ⟨Nat.le_succ _, Nat.le_refl _, Nat.le_refl _⟩

theorem StI.le_maxH (s : StI) (h : Nat) : StI.le s { s with maxH := max s.maxH h } :=
  ⟨Nat.le_refl _, Nat.le_max_left .., Nat.le_refl _⟩

theorem StI.le_maxRec (s : StI) (r : Nat) : StI.le s { s with maxRec := max s.maxRec r } :=
  ⟨Nat.le_refl _, Nat.le_refl _, Nat.le_max_left ..⟩


/-- `c0`: the counter at the start of the run under `cfg`, which counts only under a call limit -/
def Rel (cfg : Cfg) (c0 : Nat) (st : St) (sI : StI) : Prop :=
  st.out = sI.out ∧ ∀ l, cfg.callLimit = some l → st.calls = c0 + sI.calls

/-- `0 < maxH`, `0 < calls`: a frame has been created, a call made; the root frame at height 0 and the start
value `c0` of the counter are never checked -/
def Reached (cfg : Cfg) (c0 : Nat) (sI : StI) (k : Viol) : Prop :=
  (k = .depth ∧ ∃ l, cfg.depthLimit = some l ∧ l ≤ sI.maxH ∧ 0 < sI.maxH) ∨
  (k = .calls ∧ ∃ l, cfg.callLimit = some l ∧ l ≤ c0 + sI.calls ∧ 0 < sI.calls) ∨
  (k = .recursion ∧ ∃ l, cfg.recLimit = some l ∧ l < sI.maxRec)

def Within (cfg : Cfg) (c0 : Nat) (sI : StI) : Prop :=
  (∀ l, cfg.depthLimit = some l → sI.maxH < l ∨ sI.maxH = 0) ∧
  (∀ l, cfg.callLimit = some l → c0 + sI.calls < l ∨ sI.calls = 0) ∧
  (∀ l, cfg.recLimit = some l → sI.maxRec ≤ l)

def Sim (cfg : Cfg) (c0 : Nat) (sI : StI) (p : Res × St) (q : Res × StI) : Prop :=
  match p.1 with
  | .viol k => Reached cfg c0 q.2 k
  | r => r = q.1 ∧ Rel cfg c0 p.2 q.2 ∧ (Within cfg c0 sI → Within cfg c0 q.2)

def SimE {α : Type} (cfg : Cfg) (c0 : Nat) (sI : StI) (p : Except Res α × St) (q : Except Res α × StI) : Prop :=
  match p.1 with
  | .error (.viol k) => Reached cfg c0 q.2 k
  | r => r = q.1 ∧ Rel cfg c0 p.2 q.2 ∧ (Within cfg c0 sI → Within cfg c0 q.2)

structure SimAt (cfg : Cfg) (c0 : Nat) (fuel : Nat) : Prop where
  eval : ∀ fr e tail st sI, Rel cfg c0 st sI → Sim cfg c0 sI (eval fuel cfg fr e tail st) (evalI fuel cfg.tco fr e tail sI)
  callNamed : ∀ fr f args tail st sI, Rel cfg c0 st sI → Sim cfg c0 sI (callNamed fuel cfg fr f args tail st) (callNamedI fuel cfg.tco fr f args tail sI)
  callVal : ∀ fr c args tail st sI, Rel cfg c0 st sI → Sim cfg c0 sI (callVal fuel cfg fr c args tail st) (callValI fuel cfg.tco fr c args tail sI)
  evalList : ∀ fr es st sI, Rel cfg c0 st sI → SimE cfg c0 sI (evalList fuel cfg fr es st) (evalListI fuel cfg.tco fr es sI)
  mkClos : ∀ fr f st sI, Rel cfg c0 st sI → Sim cfg c0 sI (mkClos fuel cfg fr f st) (mkClosI fuel cfg.tco fr f sI)
  evalDflts : ∀ fr ps st sI, Rel cfg c0 st sI → SimE cfg c0 sI (evalDflts fuel cfg fr ps st) (evalDfltsI fuel cfg.tco fr ps sI)
  callUser : ∀ h c args st sI, Rel cfg c0 st sI → Sim cfg c0 sI (callUser fuel cfg h c args st) (callUserI fuel cfg.tco h c args sI)
  tramp : ∀ h c args rec st sI, Rel cfg c0 st sI → Sim cfg c0 sI (tramp fuel cfg h c args rec st) (trampI fuel cfg.tco h c args rec sI)
  evalDecls : ∀ fr ds st sI, Rel cfg c0 st sI → SimE cfg c0 sI (evalDecls fuel cfg fr ds st) (evalDeclsI fuel cfg.tco fr ds sI)
  builtin : ∀ fr f args tail st sI, Rel cfg c0 st sI → Sim cfg c0 sI (builtin fuel cfg fr f args tail st) (builtinI fuel cfg.tco fr f args tail sI)

/-- `SimAt` and `MonoAt` with the outcomes of the runs named -/
structure SimAt' (cfg : Cfg) (c0 : Nat) (fuel : Nat) : Prop where
  eval : ∀ {fr e tail st sI r st1 rI sI1}, eval fuel cfg fr e tail st = (r, st1) → evalI fuel cfg.tco fr e tail sI = (rI, sI1) → Rel cfg c0 st sI → Sim cfg c0 sI (r, st1) (rI, sI1)
  evalM : ∀ {fr e tail sI rI sI1}, evalI fuel cfg.tco fr e tail sI = (rI, sI1) → StI.le sI sI1
  callNamed : ∀ {fr f args tail st sI r st1 rI sI1}, callNamed fuel cfg fr f args tail st = (r, st1) → callNamedI fuel cfg.tco fr f args tail sI = (rI, sI1) → Rel cfg c0 st sI → Sim cfg c0 sI (r, st1) (rI, sI1)
  callNamedM : ∀ {fr f args tail sI rI sI1}, callNamedI fuel cfg.tco fr f args tail sI = (rI, sI1) → StI.le sI sI1
  callVal : ∀ {fr c args tail st sI r st1 rI sI1}, callVal fuel cfg fr c args tail st = (r, st1) → callValI fuel cfg.tco fr c args tail sI = (rI, sI1) → Rel cfg c0 st sI → Sim cfg c0 sI (r, st1) (rI, sI1)
  callValM : ∀ {fr c args tail sI rI sI1}, callValI fuel cfg.tco fr c args tail sI = (rI, sI1) → StI.le sI sI1
  evalList : ∀ {fr es st sI r st1 rI sI1}, evalList fuel cfg fr es st = (r, st1) → evalListI fuel cfg.tco fr es sI = (rI, sI1) → Rel cfg c0 st sI → SimE cfg c0 sI (r, st1) (rI, sI1)
  evalListM : ∀ {fr es sI rI sI1}, evalListI fuel cfg.tco fr es sI = (rI, sI1) → StI.le sI sI1
  mkClos : ∀ {fr f st sI r st1 rI sI1}, mkClos fuel cfg fr f st = (r, st1) → mkClosI fuel cfg.tco fr f sI = (rI, sI1) → Rel cfg c0 st sI → Sim cfg c0 sI (r, st1) (rI, sI1)
  mkClosM : ∀ {fr f sI rI sI1}, mkClosI fuel cfg.tco fr f sI = (rI, sI1) → StI.le sI sI1
  evalDflts : ∀ {fr ps st sI r st1 rI sI1}, evalDflts fuel cfg fr ps st = (r, st1) → evalDfltsI fuel cfg.tco fr ps sI = (rI, sI1) → Rel cfg c0 st sI → SimE cfg c0 sI (r, st1) (rI, sI1)
  evalDfltsM : ∀ {fr ps sI rI sI1}, evalDfltsI fuel cfg.tco fr ps sI = (rI, sI1) → StI.le sI sI1
  callUser : ∀ {h c args st sI r st1 rI sI1}, callUser fuel cfg h c args st = (r, st1) → callUserI fuel cfg.tco h c args sI = (rI, sI1) → Rel cfg c0 st sI → Sim cfg c0 sI (r, st1) (rI, sI1)
  callUserM : ∀ {h c args sI rI sI1}, callUserI fuel cfg.tco h c args sI = (rI, sI1) → StI.le sI sI1
  tramp : ∀ {h c args rec st sI r st1 rI sI1}, tramp fuel cfg h c args rec st = (r, st1) → trampI fuel cfg.tco h c args rec sI = (rI, sI1) → Rel cfg c0 st sI → Sim cfg c0 sI (r, st1) (rI, sI1)
  trampM : ∀ {h c args rec sI rI sI1}, trampI fuel cfg.tco h c args rec sI = (rI, sI1) → StI.le sI sI1
  evalDecls : ∀ {fr ds st sI r st1 rI sI1}, evalDecls fuel cfg fr ds st = (r, st1) → evalDeclsI fuel cfg.tco fr ds sI = (rI, sI1) → Rel cfg c0 st sI → SimE cfg c0 sI (r, st1) (rI, sI1)
  evalDeclsM : ∀ {fr ds sI rI sI1}, evalDeclsI fuel cfg.tco fr ds sI = (rI, sI1) → StI.le sI sI1
  builtin : ∀ {fr f args tail st sI r st1 rI sI1}, builtin fuel cfg fr f args tail st = (r, st1) → builtinI fuel cfg.tco fr f args tail sI = (rI, sI1) → Rel cfg c0 st sI → Sim cfg c0 sI (r, st1) (rI, sI1)
  builtinM : ∀ {fr f args tail sI rI sI1}, builtinI fuel cfg.tco fr f args tail sI = (rI, sI1) → StI.le sI sI1

/-! ### a violation of kind `k` needs limit `k` to be configured -/

structure KindAt (cfg : Cfg) (fuel : Nat) : Prop where
  eval : ∀ fr e tail st, ((eval fuel cfg fr e tail st).1 = .viol .depth → cfg.depthLimit ≠ none) ∧ ((eval fuel cfg fr e tail st).1 = .viol .calls → cfg.callLimit ≠ none) ∧ ((eval fuel cfg fr e tail st).1 = .viol .recursion → cfg.recLimit ≠ none)
  callNamed : ∀ fr f args tail st, ((callNamed fuel cfg fr f args tail st).1 = .viol .depth → cfg.depthLimit ≠ none) ∧ ((callNamed fuel cfg fr f args tail st).1 = .viol .calls → cfg.callLimit ≠ none) ∧ ((callNamed fuel cfg fr f args tail st).1 = .viol .recursion → cfg.recLimit ≠ none)
  callVal : ∀ fr c args tail st, ((callVal fuel cfg fr c args tail st).1 = .viol .depth → cfg.depthLimit ≠ none) ∧ ((callVal fuel cfg fr c args tail st).1 = .viol .calls → cfg.callLimit ≠ none) ∧ ((callVal fuel cfg fr c args tail st).1 = .viol .recursion → cfg.recLimit ≠ none)
  evalList : ∀ fr es st, ((evalList fuel cfg fr es st).1 = .error (.viol .depth) → cfg.depthLimit ≠ none) ∧ ((evalList fuel cfg fr es st).1 = .error (.viol .calls) → cfg.callLimit ≠ none) ∧ ((evalList fuel cfg fr es st).1 = .error (.viol .recursion) → cfg.recLimit ≠ none)
  mkClos : ∀ fr f st, ((mkClos fuel cfg fr f st).1 = .viol .depth → cfg.depthLimit ≠ none) ∧ ((mkClos fuel cfg fr f st).1 = .viol .calls → cfg.callLimit ≠ none) ∧ ((mkClos fuel cfg fr f st).1 = .viol .recursion → cfg.recLimit ≠ none)
  evalDflts : ∀ fr ps st, ((evalDflts fuel cfg fr ps st).1 = .error (.viol .depth) → cfg.depthLimit ≠ none) ∧ ((evalDflts fuel cfg fr ps st).1 = .error (.viol .calls) → cfg.callLimit ≠ none) ∧ ((evalDflts fuel cfg fr ps st).1 = .error (.viol .recursion) → cfg.recLimit ≠ none)
  callUser : ∀ h c args st, ((callUser fuel cfg h c args st).1 = .viol .depth → cfg.depthLimit ≠ none) ∧ ((callUser fuel cfg h c args st).1 = .viol .calls → cfg.callLimit ≠ none) ∧ ((callUser fuel cfg h c args st).1 = .viol .recursion → cfg.recLimit ≠ none)
  tramp : ∀ h c args rec st, ((tramp fuel cfg h c args rec st).1 = .viol .depth → cfg.depthLimit ≠ none) ∧ ((tramp fuel cfg h c args rec st).1 = .viol .calls → cfg.callLimit ≠ none) ∧ ((tramp fuel cfg h c args rec st).1 = .viol .recursion → cfg.recLimit ≠ none)
  evalDecls : ∀ fr ds st, ((evalDecls fuel cfg fr ds st).1 = .error (.viol .depth) → cfg.depthLimit ≠ none) ∧ ((evalDecls fuel cfg fr ds st).1 = .error (.viol .calls) → cfg.callLimit ≠ none) ∧ ((evalDecls fuel cfg fr ds st).1 = .error (.viol .recursion) → cfg.recLimit ≠ none)
  builtin : ∀ fr f args tail st, ((builtin fuel cfg fr f args tail st).1 = .viol .depth → cfg.depthLimit ≠ none) ∧ ((builtin fuel cfg fr f args tail st).1 = .viol .calls → cfg.callLimit ≠ none) ∧ ((builtin fuel cfg fr f args tail st).1 = .viol .recursion → cfg.recLimit ≠ none)

theorem kind_trace (cfg : Cfg) :
    Trace cfg (fun _ o _ => (o = some .depth → cfg.depthLimit ≠ none) ∧ (o = some .calls → cfg.callLimit ≠ none) ∧
      (o = some .recursion → cfg.recLimit ≠ none)) where
  refl _ := ⟨nofun, nofun, nofun⟩
  trans _ h2 := h2
  display _ _ := ⟨nofun, nofun, nofun⟩
  count _ _ _ _ := ⟨nofun, nofun, nofun⟩
  calls _ _ hl _ := ⟨nofun, (fun _ h => by rw [hl] at h; cases h), nofun⟩
  depth _ _ hl := ⟨(fun _ h => by rw [hl] at h; cases h), nofun, nofun⟩
  recursion _ _ hl := ⟨nofun, nofun, (fun _ h => by rw [hl] at h; cases h)⟩

theorem kindAt (cfg : Cfg)  (fuel : Nat) : KindAt cfg fuel :=
  have t := trace (kind_trace cfg) fuel
  { eval := fun _ _ _ _ => by simpa only [Ran, ne_eq, viol?_eq_some] using t.eval ..
    callNamed := fun _ _ _ _ _ => by simpa only [Ran, ne_eq, viol?_eq_some] using t.callNamed ..
    callVal := fun _ _ _ _ _ => by simpa only [Ran, ne_eq, viol?_eq_some] using t.callVal ..
    evalList := fun _ _ _ => by simpa only [RanE, ne_eq, exViol?_eq_some] using t.evalList ..
    mkClos := fun _ _ _ => by simpa only [Ran, ne_eq, viol?_eq_some] using t.mkClos ..
    evalDflts := fun _ _ _ => by simpa only [RanE, ne_eq, exViol?_eq_some] using t.evalDflts ..
    callUser := fun _ _ _ _ => by simpa only [Ran, ne_eq, viol?_eq_some] using t.callUser ..
    tramp := fun _ _ _ _ _ => by simpa only [Ran, ne_eq, viol?_eq_some] using t.tramp ..
    evalDecls := fun _ _ _ => by simpa only [RanE, ne_eq, exViol?_eq_some] using t.evalDecls ..
    builtin := fun _ _ _ _ _ => by simpa only [Ran, ne_eq, viol?_eq_some] using t.builtin .. }

/-! ### the call counter under a call limit `l`: it never decreases; started below `l`, the run ends
in the call violation exactly when the counter reaches `l` (and then it is exactly `l`) -/

structure CallsAt (cfg : Cfg) (l : Nat) (fuel : Nat) : Prop where
  eval : ∀ fr e tail st, st.calls ≤ (eval fuel cfg fr e tail st).2.calls ∧ (st.calls < l → ((eval fuel cfg fr e tail st).1 = .viol .calls → (eval fuel cfg fr e tail st).2.calls = l) ∧ ((eval fuel cfg fr e tail st).1 ≠ .viol .calls → (eval fuel cfg fr e tail st).2.calls < l))
  callNamed : ∀ fr f args tail st, st.calls ≤ (callNamed fuel cfg fr f args tail st).2.calls ∧ (st.calls < l → ((callNamed fuel cfg fr f args tail st).1 = .viol .calls → (callNamed fuel cfg fr f args tail st).2.calls = l) ∧ ((callNamed fuel cfg fr f args tail st).1 ≠ .viol .calls → (callNamed fuel cfg fr f args tail st).2.calls < l))
  callVal : ∀ fr c args tail st, st.calls ≤ (callVal fuel cfg fr c args tail st).2.calls ∧ (st.calls < l → ((callVal fuel cfg fr c args tail st).1 = .viol .calls → (callVal fuel cfg fr c args tail st).2.calls = l) ∧ ((callVal fuel cfg fr c args tail st).1 ≠ .viol .calls → (callVal fuel cfg fr c args tail st).2.calls < l))
  evalList : ∀ fr es st, st.calls ≤ (evalList fuel cfg fr es st).2.calls ∧ (st.calls < l → ((evalList fuel cfg fr es st).1 = .error (.viol .calls) → (evalList fuel cfg fr es st).2.calls = l) ∧ ((evalList fuel cfg fr es st).1 ≠ .error (.viol .calls) → (evalList fuel cfg fr es st).2.calls < l))
  mkClos : ∀ fr f st, st.calls ≤ (mkClos fuel cfg fr f st).2.calls ∧ (st.calls < l → ((mkClos fuel cfg fr f st).1 = .viol .calls → (mkClos fuel cfg fr f st).2.calls = l) ∧ ((mkClos fuel cfg fr f st).1 ≠ .viol .calls → (mkClos fuel cfg fr f st).2.calls < l))
  evalDflts : ∀ fr ps st, st.calls ≤ (evalDflts fuel cfg fr ps st).2.calls ∧ (st.calls < l → ((evalDflts fuel cfg fr ps st).1 = .error (.viol .calls) → (evalDflts fuel cfg fr ps st).2.calls = l) ∧ ((evalDflts fuel cfg fr ps st).1 ≠ .error (.viol .calls) → (evalDflts fuel cfg fr ps st).2.calls < l))
  callUser : ∀ h c args st, st.calls ≤ (callUser fuel cfg h c args st).2.calls ∧ (st.calls < l → ((callUser fuel cfg h c args st).1 = .viol .calls → (callUser fuel cfg h c args st).2.calls = l) ∧ ((callUser fuel cfg h c args st).1 ≠ .viol .calls → (callUser fuel cfg h c args st).2.calls < l))
  tramp : ∀ h c args rec st, st.calls ≤ (tramp fuel cfg h c args rec st).2.calls ∧ (st.calls < l → ((tramp fuel cfg h c args rec st).1 = .viol .calls → (tramp fuel cfg h c args rec st).2.calls = l) ∧ ((tramp fuel cfg h c args rec st).1 ≠ .viol .calls → (tramp fuel cfg h c args rec st).2.calls < l))
  evalDecls : ∀ fr ds st, st.calls ≤ (evalDecls fuel cfg fr ds st).2.calls ∧ (st.calls < l → ((evalDecls fuel cfg fr ds st).1 = .error (.viol .calls) → (evalDecls fuel cfg fr ds st).2.calls = l) ∧ ((evalDecls fuel cfg fr ds st).1 ≠ .error (.viol .calls) → (evalDecls fuel cfg fr ds st).2.calls < l))
  builtin : ∀ fr f args tail st, st.calls ≤ (builtin fuel cfg fr f args tail st).2.calls ∧ (st.calls < l → ((builtin fuel cfg fr f args tail st).1 = .viol .calls → (builtin fuel cfg fr f args tail st).2.calls = l) ∧ ((builtin fuel cfg fr f args tail st).1 ≠ .viol .calls → (builtin fuel cfg fr f args tail st).2.calls < l))

theorem calls_trace {cfg : Cfg} {l : Nat} (hl : cfg.callLimit = some l) :
    Trace cfg (fun st o st' => st.calls ≤ st'.calls ∧
      (st.calls < l → (o = some .calls → st'.calls = l) ∧ (o ≠ some .calls → st'.calls < l))) where
  refl _ := ⟨Nat.le_refl _, fun h => ⟨nofun, fun _ => h⟩⟩
  trans h1 h2 := ⟨Nat.le_trans h1.1 h2.1, fun h => h2.2 ((h1.2 h).2 nofun)⟩
  display _ _ := ⟨Nat.le_refl _, fun h => ⟨nofun, fun _ => h⟩⟩
  count st l' hl' hlt := by
    cases hl.symm.trans hl'
    exact ⟨Nat.le_succ _, fun _ => ⟨nofun, fun _ => hlt⟩⟩
  calls st l' hl' hge := by
    cases hl.symm.trans hl'
    exact ⟨Nat.le_succ _, fun h => ⟨fun _ => Nat.le_antisymm h hge, fun hne => absurd rfl hne⟩⟩
  depth _ _ _ := ⟨Nat.le_refl _, fun h => ⟨nofun, fun _ => h⟩⟩
  recursion _ _ _ := ⟨Nat.le_refl _, fun h => ⟨nofun, fun _ => h⟩⟩

theorem callsAt (cfg : Cfg) (l : Nat) (hl : cfg.callLimit = some l) (fuel : Nat) : CallsAt cfg l fuel :=
  have t := trace (calls_trace hl) fuel
  { eval := fun _ _ _ _ => by simpa only [Ran, ne_eq, viol?_eq_some] using t.eval ..
    callNamed := fun _ _ _ _ _ => by simpa only [Ran, ne_eq, viol?_eq_some] using t.callNamed ..
    callVal := fun _ _ _ _ _ => by simpa only [Ran, ne_eq, viol?_eq_some] using t.callVal ..
    evalList := fun _ _ _ => by simpa only [RanE, ne_eq, exViol?_eq_some] using t.evalList ..
    mkClos := fun _ _ _ => by simpa only [Ran, ne_eq, viol?_eq_some] using t.mkClos ..
    evalDflts := fun _ _ _ => by simpa only [RanE, ne_eq, exViol?_eq_some] using t.evalDflts ..
    callUser := fun _ _ _ _ => by simpa only [Ran, ne_eq, viol?_eq_some] using t.callUser ..
    tramp := fun _ _ _ _ _ => by simpa only [Ran, ne_eq, viol?_eq_some] using t.tramp ..
    evalDecls := fun _ _ _ => by simpa only [RanE, ne_eq, exViol?_eq_some] using t.evalDecls ..
    builtin := fun _ _ _ _ _ => by simpa only [Ran, ne_eq, viol?_eq_some] using t.builtin .. }

/-- `c = l` and `c < l` exclude each other, so the two implications in a field of `CallsAt` are equivalences -/
theorem iff_eq_iff_lt {p : Prop} {c l : Nat} (h : (p → c = l) ∧ (¬ p → c < l)) : (p ↔ c = l) ∧ (¬ p ↔ c < l) :=
  ⟨⟨h.1, fun e => Classical.byContradiction fun np => Nat.lt_irrefl l (e ▸ h.2 np)⟩,
   ⟨h.2, fun lt hp => Nat.ne_of_lt lt (h.1 hp)⟩⟩

/-! ### without a call limit the counter is never touched (whatever the other limits) -/

structure NoCountAt (cfg : Cfg) (fuel : Nat) : Prop where
  eval : ∀ fr e tail st, (eval fuel cfg fr e tail st).2.calls = st.calls
  callNamed : ∀ fr f args tail st, (callNamed fuel cfg fr f args tail st).2.calls = st.calls
  callVal : ∀ fr c args tail st, (callVal fuel cfg fr c args tail st).2.calls = st.calls
  evalList : ∀ fr es st, (evalList fuel cfg fr es st).2.calls = st.calls
  mkClos : ∀ fr f st, (mkClos fuel cfg fr f st).2.calls = st.calls
  evalDflts : ∀ fr ps st, (evalDflts fuel cfg fr ps st).2.calls = st.calls
  callUser : ∀ h c args st, (callUser fuel cfg h c args st).2.calls = st.calls
  tramp : ∀ h c args rec st, (tramp fuel cfg h c args rec st).2.calls = st.calls
  evalDecls : ∀ fr ds st, (evalDecls fuel cfg fr ds st).2.calls = st.calls
  builtin : ∀ fr f args tail st, (builtin fuel cfg fr f args tail st).2.calls = st.calls

theorem noCount_trace {cfg : Cfg} (hl : cfg.callLimit = none) :
    Trace cfg (fun st _ st' => st'.calls = st.calls) where
  refl _ := rfl
  trans h1 h2 := h2.trans h1
  display _ _ := rfl
  count _ _ hl' := by rw [hl] at hl'; cases hl'
  calls _ _ hl' := by rw [hl] at hl'; cases hl'
  depth _ _ _ := rfl
  recursion _ _ _ := rfl

theorem noCountAt (cfg : Cfg) (hl : cfg.callLimit = none) (fuel : Nat) : NoCountAt cfg fuel :=
  have t := trace (noCount_trace hl) fuel
  ⟨t.eval, t.callNamed, t.callVal, t.evalList, t.mkClos, t.evalDflts, t.callUser, t.tramp, t.evalDecls,
    t.builtin⟩

end XrayModel.CoreLimits
