/-
Helper lemmas for C01 (type soundness of the core fragment): assignability, value typing,
the signature table of the strict natives.
-/
import XrayModel.CoreTyping
namespace XrayModel.CoreTyping
open XrayModel.Core

/- `Ty.beq`, `Ty.beqList`, `sub`, `subList` are structural recursions: on constructor applications they
unfold by definition, which is how the hypotheses below are read. -/

theorem Ty.beq_eq : ∀ (a b : Ty), Ty.beq a b = true → a = b := by
  intro a
  -- `Ty` is nested through `List`: structural induction on the type, with the list version alongside
  refine Ty.rec (motive_1 := fun a => ∀ b, Ty.beq a b = true → a = b)
    (motive_2 := fun as => ∀ bs, Ty.beqList as bs = true → as = bs) ?_ ?_ ?_ ?_ ?_ ?_ ?_ ?_ ?_ a
  · intro b h; cases b <;> first | rfl | cases h
  · intro b h; cases b <;> first | rfl | cases h
  · intro b h; cases b <;> first | rfl | cases h
  · intro b h; cases b <;> first | rfl | cases h
  · intro as ih b h
    cases b <;> first | cases h | skip
    rw [ih _ h]
  · intro a ih b h
    cases b <;> first | cases h | skip
    rw [ih _ h]
  · intro r o t ihr iho iht b h
    cases b <;> first | cases h | skip
    obtain ⟨hro, ht⟩ := Bool.and_eq_true_iff.mp h
    obtain ⟨hr, ho⟩ := Bool.and_eq_true_iff.mp hro
    rw [ihr _ hr, iho _ ho, iht _ ht]
  · intro bs h; cases bs <;> first | rfl | cases h
  · intro a as iha ihas bs h
    cases bs with
    | nil => cases h
    | cons b bs =>
      obtain ⟨ha, has⟩ := Bool.and_eq_true_iff.mp h
      rw [iha _ ha, ihas _ has]

theorem Ty.beqList_eq (as bs : List Ty) (h : Ty.beqList as bs = true) : as = bs :=
  Ty.tup.inj (Ty.beq_eq (.tup as) (.tup bs) h)

theorem sub_refl : ∀ a : Ty, sub a a = true := by
  intro a
  -- between function types `sub` compares with `Ty.beq`, so its reflexivity is proved alongside
  refine Ty.rec (motive_1 := fun a => sub a a = true ∧ Ty.beq a a = true)
    (motive_2 := fun as => subList as as = true ∧ Ty.beqList as as = true)
    ?_ ?_ ?_ ?_ ?_ ?_ ?_ ?_ ?_ a |>.1
  · exact ⟨rfl, rfl⟩
  · exact ⟨rfl, rfl⟩
  · exact ⟨rfl, rfl⟩
  · exact ⟨rfl, rfl⟩
  · intro ts ih; exact ih
  · intro t ih; exact ih
  · intro r o t ihr iho iht
    have : (Ty.beqList r r && Ty.beqList o o && Ty.beq t t) = true := by rw [ihr.2, iho.2, iht.2]; rfl
    exact ⟨this, this⟩
  · exact ⟨rfl, rfl⟩
  · intro a as iha ihas
    exact ⟨by show (sub a a && subList as as) = true; rw [iha.1, ihas.1]; rfl,
      by show (Ty.beq a a && Ty.beqList as as) = true; rw [iha.2, ihas.2]; rfl⟩

/-- rule induction on assignability: `sub a b = true` was derived by one of these rules -/
theorem sub_ind {M : Ty → Ty → Prop} {Ms : List Ty → List Ty → Prop}
    (unk : ∀ b, M .unk b) (int : M .int .int) (bool : M .bool .bool) (str : M .str .str)
    (tup : ∀ as bs, Ms as bs → M (.tup as) (.tup bs)) (arr : ∀ a b, M a b → M (.arr a) (.arr b))
    (fn : ∀ r o t, M (.fn r o t) (.fn r o t))
    (nil : Ms [] []) (cons : ∀ a as b bs, M a b → Ms as bs → Ms (a :: as) (b :: bs)) :
    ∀ a b, sub a b = true → M a b := by
  intro a
  refine Ty.rec (motive_1 := fun a => ∀ b, sub a b = true → M a b)
    (motive_2 := fun as => ∀ bs, subList as bs = true → Ms as bs) ?_ ?_ ?_ ?_ ?_ ?_ ?_ ?_ ?_ a
  · intro b h; cases b <;> first | exact int | cases h
  · intro b h; cases b <;> first | exact bool | cases h
  · intro b h; cases b <;> first | exact str | cases h
  · intro b _; exact unk b
  · intro as ih b h; cases b <;> first | cases h | exact tup _ _ (ih _ h)
  · intro a ih b h; cases b <;> first | cases h | exact arr _ _ (ih _ h)
  · intro r o t _ _ _ b h
    cases b <;> first | cases h | skip
    obtain ⟨hro, ht⟩ := Bool.and_eq_true_iff.mp h
    obtain ⟨hr, ho⟩ := Bool.and_eq_true_iff.mp hro
    rw [← Ty.beqList_eq r _ hr, ← Ty.beqList_eq o _ ho, ← Ty.beq_eq t _ ht]; exact fn r o t
  · intro bs h; cases bs <;> first | exact nil | cases h
  · intro a as iha ihas bs h
    cases bs with
    | nil => cases h
    | cons b bs =>
      obtain ⟨ha, has⟩ := Bool.and_eq_true_iff.mp h
      exact cons _ _ _ _ (iha _ ha) (ihas _ has)

theorem sub_trans : ∀ a b c : Ty, sub a b = true → sub b c = true → sub a c = true := by
  intro a b c h
  revert c
  refine sub_ind (M := fun a b => ∀ c, sub b c = true → sub a c = true)
    (Ms := fun as bs => ∀ cs, subList bs cs = true → subList as cs = true) ?_ ?_ ?_ ?_ ?_ ?_ ?_ ?_ ?_ a b h
  · intro _ _ _; rfl
  · intro c h; exact h
  · intro c h; exact h
  · intro c h; exact h
  · intro as bs ih c h; cases c <;> first | cases h | exact ih _ h
  · intro a b ih c h; cases c <;> first | cases h | exact ih _ h
  · intro r o t c h; exact h
  · intro cs h; exact h
  · intro a as b bs iha ihas cs h
    cases cs with
    | nil => cases h
    | cons c cs =>
      obtain ⟨hbc, h⟩ := Bool.and_eq_true_iff.mp h
      show (sub a c && subList as cs) = true
      rw [iha c hbc, ihas cs h]; rfl

theorem HasTy.mono : ∀ (a b : Ty) {v : Val}, sub a b = true → HasTy v a → HasTy v b := by
  intro a b v h
  revert v
  refine sub_ind (M := fun a b => ∀ {v}, HasTy v a → HasTy v b)
    (Ms := fun as bs => ∀ {vs}, HasTys vs as → HasTys vs bs) ?_ ?_ ?_ ?_ ?_ ?_ ?_ ?_ ?_ a b h
  · intro b v hv; cases hv; exact .err _ _
  · exact id
  · exact id
  · exact id
  · intro as bs ih v hv
    cases hv with
    | err m => exact .err _ _
    | tup hvs => exact .tup (ih hvs)
  · intro a b ih v hv
    cases hv with
    | err m => exact .err _ _
    | @arr vs _ hvs =>
      refine .arr ?_
      induction vs with
      | nil => exact .nil
      | cons x xs ihx => cases hvs with | cons h1 h2 => exact .cons (ih h1) (ihx h2)
  · intro r o t v; exact id
  · exact id
  · intro a as b bs iha ihas vs hvs
    cases hvs with
    | cons h1 h2 => exact .cons (iha h1) (ihas h2)

theorem join_sound {a b j : Ty} (h : join a b = some j) : sub a j = true ∧ sub b j = true := by
  unfold join at h
  split at h
  · cases h; exact ⟨by assumption, sub_refl _⟩
  · obtain ⟨hba, rfl⟩ := Option.ite_some_none_eq_some.mp h
    exact ⟨sub_refl _, hba⟩

theorem joinAll_sound : ∀ (ts : List Ty) (acc t : Ty) (vs : List Val), joinAll acc ts = some t → HasTys vs ts →
    sub acc t = true ∧ AllTy vs t
  | [], acc, t, vs, h, hv => by
      cases hv
      cases h
      exact ⟨sub_refl _, .nil⟩
  | t1 :: ts, acc, t, vs, h, hv => by
      cases hv with
      | cons h1 hr =>
        simp only [joinAll] at h
        split at h
        · rename_i j hj
          obtain ⟨ha, hb⟩ := join_sound hj
          obtain ⟨hjt, hall⟩ := joinAll_sound ts j t _ h hr
          exact ⟨sub_trans _ _ _ ha hjt, .cons (HasTy.mono _ _ (sub_trans _ _ _ hb hjt) h1) hall⟩
        · cases h

theorem firstErr_cons {v : Val} {vs : List Val} :
    firstErr (v :: vs) = none ↔ v.isErr = false ∧ firstErr vs = none := by
  show (if v.isErr then some v else firstErr vs) = none ↔ _
  cases v.isErr <;> simp

theorem canon_int {a : Ty} {v : Val} (h : sub a .int = true) (hv : HasTy v a) (he : v.isErr = false) : ∃ n, v = .int n := by
  cases HasTy.mono _ _ h hv with
  | int n => exact ⟨n, rfl⟩
  | err m => cases he

theorem canon_bool {a : Ty} {v : Val} (h : sub a .bool = true) (hv : HasTy v a) (he : v.isErr = false) : ∃ b, v = .bool b := by
  cases HasTy.mono _ _ h hv with
  | bool b => exact ⟨b, rfl⟩
  | err m => cases he

theorem canon_str {a : Ty} {v : Val} (h : sub a .str = true) (hv : HasTy v a) (he : v.isErr = false) : ∃ s, v = .str s := by
  cases HasTy.mono _ _ h hv with
  | str s => exact ⟨s, rfl⟩
  | err m => cases he

theorem printable_toStr {a : Ty} {v : Val} (h : printable a = true) (hv : HasTy v a) (he : v.isErr = false) : ∃ s, toStr v = some s := by
  cases hv with
  | int _ | bool _ | str _ => exact ⟨_, rfl⟩
  | err _ _ => cases he
  | tup _ | arr _ | clos _ _ _ _ => cases h

theorem HasTys.get {vs : List Val} {ts : List Ty} (i : Nat) {τ : Ty} (h : HasTys vs ts) (hi : ts[i]? = some τ) :
    ∃ v, vs[i]? = some v ∧ HasTy v τ := by
  induction i generalizing vs ts with
  | zero => cases h with
    | nil => cases hi
    | cons hv _ => cases hi; exact ⟨_, rfl, hv⟩
  | succ i ih => cases h with
    | nil => cases hi
    | cons _ hr => exact ih hr hi

theorem HasTys.cons_inv {vs : List Val} {a : Ty} {ats : List Ty} (h : HasTys vs (a :: ats)) (he : firstErr vs = none) :
    ∃ v vs', vs = v :: vs' ∧ HasTy v a ∧ v.isErr = false ∧ HasTys vs' ats ∧ firstErr vs' = none := by
  cases h with
  | cons hv hr => exact ⟨_, _, rfl, hv, (firstErr_cons.mp he).1, hr, (firstErr_cons.mp he).2⟩

/-- a row `c → ρ` of the signature table, for a base type `c` whose error-free values are the `mk x` -/
theorem row1 {α : Type} {mk : α → Val} {c ρ a : Ty} {f : String} {vs : List Val}
    (canon : ∀ {a v}, sub a c = true → HasTy v a → v.isErr = false → ∃ x, v = mk x)
    (run : ∀ x, ∃ v, prim f [mk x] = .val v ∧ HasTy v ρ)
    (hc : sub a c = true) (hvs : HasTys vs [a]) (he : firstErr vs = none) :
    ∃ v, prim f vs = .val v ∧ HasTy v ρ := by
  obtain ⟨v, _, rfl, hv, e, hn, _⟩ := hvs.cons_inv he
  cases hn
  obtain ⟨x, rfl⟩ := canon hc hv e
  exact run x

/-- a row `c × c → ρ` of the signature table -/
theorem row2 {α : Type} {mk : α → Val} {c ρ a b : Ty} {f : String} {vs : List Val}
    (canon : ∀ {a v}, sub a c = true → HasTy v a → v.isErr = false → ∃ x, v = mk x)
    (run : ∀ x y, ∃ v, prim f [mk x, mk y] = .val v ∧ HasTy v ρ)
    (hc : (sub a c && sub b c) = true) (hvs : HasTys vs [a, b]) (he : firstErr vs = none) :
    ∃ v, prim f vs = .val v ∧ HasTy v ρ := by
  obtain ⟨hca, hcb⟩ := Bool.and_eq_true_iff.mp hc
  obtain ⟨v, _, rfl, hv, ev, hr, he⟩ := hvs.cons_inv he
  obtain ⟨w, _, rfl, hw, ew, hn, _⟩ := hr.cons_inv he
  cases hn
  obtain ⟨x, rfl⟩ := canon hca hv ev
  obtain ⟨y, rfl⟩ := canon hcb hw ew
  exact run x y

theorem prim_sound {f : String} {ats : List Ty} {vs : List Val} {τ : Ty}
    (h : primTy f ats = some τ) (hvs : HasTys vs ats) (he : firstErr vs = none) :
    ∃ v, prim f vs = .val v ∧ HasTy v τ := by
  unfold primTy at h
  split at h
  · -- add
    split at h
    · cases h
      exact row2 canon_int (fun _ _ => ⟨_, by rw [prim], .int _⟩) ‹_› hvs he
    · obtain ⟨hc, rfl⟩ := Option.ite_some_none_eq_some.mp h
      exact row2 canon_str (fun _ _ => ⟨_, by rw [prim], .str _⟩) hc hvs he
  · -- sub
    obtain ⟨hc, rfl⟩ := Option.ite_some_none_eq_some.mp h
    exact row2 canon_int (fun _ _ => ⟨_, by rw [prim], .int _⟩) hc hvs he
  · -- mul
    obtain ⟨hc, rfl⟩ := Option.ite_some_none_eq_some.mp h
    exact row2 canon_int (fun _ _ => ⟨_, by rw [prim], .int _⟩) hc hvs he
  · -- mod: by zero an error value
    obtain ⟨hc, rfl⟩ := Option.ite_some_none_eq_some.mp h
    refine row2 canon_int (fun x y => ?_) hc hvs he
    rw [prim]; split
    · exact ⟨_, rfl, .err _ _⟩
    · exact ⟨_, rfl, .int _⟩
  · -- div_floor: likewise
    obtain ⟨hc, rfl⟩ := Option.ite_some_none_eq_some.mp h
    refine row2 canon_int (fun x y => ?_) hc hvs he
    rw [prim]; split
    · exact ⟨_, rfl, .err _ _⟩
    · exact ⟨_, rfl, .int _⟩
  · -- neg
    obtain ⟨hc, rfl⟩ := Option.ite_some_none_eq_some.mp h
    exact row1 canon_int (fun _ => ⟨_, by rw [prim], .int _⟩) hc hvs he
  · -- lt, le, gt, ge, ne
    obtain ⟨hc, rfl⟩ := Option.ite_some_none_eq_some.mp h
    exact row2 canon_int (fun _ _ => ⟨_, by rw [prim], .bool _⟩) hc hvs he
  · obtain ⟨hc, rfl⟩ := Option.ite_some_none_eq_some.mp h
    exact row2 canon_int (fun _ _ => ⟨_, by rw [prim], .bool _⟩) hc hvs he
  · obtain ⟨hc, rfl⟩ := Option.ite_some_none_eq_some.mp h
    exact row2 canon_int (fun _ _ => ⟨_, by rw [prim], .bool _⟩) hc hvs he
  · obtain ⟨hc, rfl⟩ := Option.ite_some_none_eq_some.mp h
    exact row2 canon_int (fun _ _ => ⟨_, by rw [prim], .bool _⟩) hc hvs he
  · obtain ⟨hc, rfl⟩ := Option.ite_some_none_eq_some.mp h
    exact row2 canon_int (fun _ _ => ⟨_, by rw [prim], .bool _⟩) hc hvs he
  · -- eq
    obtain ⟨hc, rfl⟩ := Option.ite_some_none_eq_some.mp h
    rcases (by simpa only [Bool.or_eq_true] using hc) with (hc | hc) | hc
    · exact row2 canon_int (fun _ _ => ⟨_, by rw [prim], .bool _⟩) hc hvs he
    · exact row2 canon_bool (fun _ _ => ⟨_, by rw [prim], .bool _⟩) hc hvs he
    · exact row2 canon_str (fun _ _ => ⟨_, by rw [prim], .bool _⟩) hc hvs he
  · -- not
    obtain ⟨hc, rfl⟩ := Option.ite_some_none_eq_some.mp h
    exact row1 canon_bool (fun _ => ⟨_, by rw [prim], .bool _⟩) hc hvs he
  · -- to_str
    obtain ⟨hp, rfl⟩ := Option.ite_some_none_eq_some.mp h
    obtain ⟨v, _, rfl, hv, e, hn, _⟩ := hvs.cons_inv he
    cases hn
    obtain ⟨s, hs⟩ := printable_toStr hp hv e
    exact ⟨_, by rw [prim, hs], .str _⟩
  · -- len of a sequence
    obtain ⟨v, _, rfl, hv, e, hn, _⟩ := hvs.cons_inv he
    cases hn; cases h
    cases hv with
    | arr _ => exact ⟨_, by rw [prim], .int _⟩
    | err m => cases e
  · -- len of an error: no error-free argument has the bottom type
    obtain ⟨v, _, rfl, hv, e, _⟩ := hvs.cons_inv he
    cases hv
    cases e
  · -- error
    obtain ⟨hc, rfl⟩ := Option.ite_some_none_eq_some.mp h
    exact row1 canon_str (fun _ => ⟨_, by rw [prim], .err _ _⟩) hc hvs he
  · cases h

end XrayModel.CoreTyping
