/- the unary adaptors as frames: one step of the adaptor as a function of its own state and of the shape of one
step of its source.  The agreement lemmas (C16) and the work bounds (C10) are read off these equations. -/
import XrayProofs.Gen
namespace XrayModel.Gen

/-- the shape of one step of the source, and what an adaptor answers to it -/
inductive Sh where
  | done | skip | yld (x : Item)

inductive TO (α : Type) where
  | done
  | skip (a : α)
  | yld (y : Item) (a : α)

def TO.toOut {α : Type} (C : α → It) : TO α → Out
  | .done => .done
  | .skip a => .skip (C a)
  | .yld y a => .yield y (C a)

/-- when the source is done its state is kept -/
def Frame {α : Type} (L : Option Nat) (C : α → It → It) (T : α → Sh → TO α) : Prop :=
  ∀ a it, step L (C a it) =
    match step L it with
    | .done => (T a .done).toOut (fun a' => C a' it)
    | .skip s => (T a .skip).toOut (fun a' => C a' s)
    | .yield x s => (T a (.yld x)).toOut (fun a' => C a' s)

def tMap (f : F) : Unit → Sh → TO Unit
  | _, .done => .done
  | _, .skip => .skip ()
  | _, .yld x => .yld (mapItem f x) ()

theorem frame_map (L : Option Nat) (f : F) : Frame L (fun (_ : Unit) it => .map it f) (tMap f) := by
  intro _ it
  rw [step_map]
  cases step L it <;> rfl

def tTakeWhile (p : P) : Unit → Sh → TO Unit
  | _, .done => .done
  | _, .skip => .skip ()
  | _, .yld x =>
    match x with
    | .viol => .yld .viol ()
    | x =>
      match p x with
      | .viol => .yld .viol ()
      | .err => .yld .err ()
      | .t => .yld x ()
      | .f => .done

theorem frame_takeWhile (L : Option Nat) (p : P) : Frame L (fun (_ : Unit) it => .takeWhile it p) (tTakeWhile p) := by
  intro _ it
  rw [step]
  cases step L it with
  | done => rfl
  | skip s => rfl
  | «yield» x s =>
    simp only [tTakeWhile]
    cases x with
    | viol => rfl
    | err => dsimp only; generalize p Item.err = r; cases r <;> rfl
    | val v => dsimp only; generalize p (Item.val v) = r; cases r <;> rfl

def tAggregate (f : F2) : Item → Sh → TO Item
  | _, .done => .done
  | st, .skip => .skip st
  | st, .yld x =>
    match x with
    | .viol => .yld .viol st
    | x =>
      match f st x with
      | .viol => .yld .viol st
      | r => .yld r r

/-- `aggregate` once the initial state has been yielded -/
theorem frame_aggregate (L : Option Nat) (f : F2) :
    Frame L (fun (st : Item) it => .aggregate it st f false) (tAggregate f) := by
  intro st it
  rw [step]
  simp only [Bool.false_eq_true, ↓reduceIte]
  cases step L it with
  | done => rfl
  | skip s => rfl
  | «yield» x s =>
    simp only [tAggregate]
    cases x with
    | viol => rfl
    | err => dsimp only; generalize f st Item.err = r; cases r <;> rfl
    | val v => dsimp only; generalize f st (Item.val v) = r; cases r <;> rfl

def tWithCount (eq : V → V → Bool) : List (V × Nat) → Sh → TO (List (V × Nat))
  | _, .done => .done
  | seen, .skip => .skip seen
  | seen, .yld x =>
    match x with
    | .viol => .yld .viol seen
    | .err => .yld .err seen
    | .val v => .yld (.val (.tup [v, .int (bump eq v seen).1])) (bump eq v seen).2

theorem frame_withCount (L : Option Nat) (eq : V → V → Bool) :
    Frame L (fun (seen : List (V × Nat)) it => .withCount it eq seen) (tWithCount eq) := by
  intro seen it
  rw [step]
  cases step L it with
  | done => rfl
  | skip s => rfl
  | «yield» x s => cases x <;> rfl

def tBudget : Permits → Sh → TO Permits
  | _, .done => .done
  | perm, .skip => .skip perm
  | perm, .yld x =>
    match perm.next with
    | (.none, _) => .done
    | (.viol, q) => .yld .viol q
    | (.ok, q) => .yld x q

theorem frame_budget (L : Option Nat) : Frame L (fun (perm : Permits) it => .budget it perm) tBudget := by
  intro perm it
  rw [step]
  cases step L it with
  | done => rfl
  | skip s => rfl
  | «yield» x s =>
    simp only [tBudget]
    generalize perm.next = r
    obtain ⟨t, q⟩ := r
    cases t <;> rfl

/-! the adaptors with a loop of their own: the search permits are the second component of the state, also where
there is no other state (`Unit × Permits` for `filter`), and every answer that takes a permit goes through `gate`, so
that what an answer does to the permits is said once for all of them (`gate_takes`, `PermitT` in GenBound) -/

def TO.withPerm {β : Type} (q : Permits) : TO β → TO (β × Permits)
  | .done => .done
  | .skip b => .skip (b, q)
  | .yld y b => .yld y (b, q)

/-- take a search permit, then answer `U`; at the limit the violation (own state `bv`); once the permits are dead the
end (`strict`: the loops written `.zip(search_iter())`) or the violation again -/
def gate {β : Type} (perm : Permits) (strict : Bool) (bv : β) (U : TO β) : TO (β × Permits) :=
  match perm.next with
  | (.ok, q) => U.withPerm q
  | (.viol, q) => .yld .viol (bv, q)
  | (.none, q) => if strict then .done else .yld .viol (bv, q)

def tFilter (p : P) : Unit × Permits → Sh → TO (Unit × Permits)
  | _, .done => .done
  | a, .skip => .skip a
  | (_, perm), .yld x => gate perm true () (match filt p x with | some y => .yld y () | none => .skip ())

theorem frame_filter (L : Option Nat) (p : P) :
    Frame L (fun (a : Unit × Permits) it => .filter it p a.2) (tFilter p) := by
  intro ⟨_, perm⟩ it
  rw [step]
  cases step L it with
  | done => rfl
  | skip s => rfl
  | «yield» x s =>
    simp only [tFilter, gate]
    generalize perm.next = r
    obtain ⟨t, q⟩ := r
    cases t with
    | none => rfl
    | viol => rfl
    | ok =>
      cases x with
      | viol => rfl
      | err => simp only [filt]; generalize p Item.err = r; cases r <;> rfl
      | val v => simp only [filt]; generalize p (Item.val v) = r; cases r <;> rfl

def tSkipUntil (p : P) : Bool × Permits → Sh → TO (Bool × Permits)
  | _, .done => .done
  | a, .skip => .skip a
  | (true, perm), .yld x => .yld x (true, perm)
  | (false, perm), .yld x =>
    gate perm false false
      (match x with
       | .viol => .yld .viol false
       | x =>
         match p x with
         | .viol => .yld .viol false
         | .err => .yld .err false
         | .t => .yld x true
         | .f => .skip false)

theorem frame_skipUntil (L : Option Nat) (p : P) :
    Frame L (fun (a : Bool × Permits) it => .skipUntil it p a.1 a.2) (tSkipUntil p) := by
  intro ⟨found, perm⟩ it
  rw [step]
  cases step L it with
  | done => rfl
  | skip s => rfl
  | «yield» x s =>
    cases found with
    | true => rfl
    | false =>
      simp only [tSkipUntil, gate, Bool.false_eq_true, ↓reduceIte]
      generalize perm.next = r
      obtain ⟨t, q⟩ := r
      cases t with
      | none => rfl
      | viol => rfl
      | ok =>
        cases x with
        | viol => rfl
        | err => dsimp only; generalize p Item.err = r; cases r <;> rfl
        | val v => dsimp only; generalize p (Item.val v) = r; cases r <;> rfl

def tSlice : (Nat × Option Nat) × Permits → Sh → TO ((Nat × Option Nat) × Permits)
  | ((k, t), perm), sh =>
    if t = some 0 then .done
    else
      match sh with
      | .done => .done
      | .skip => .skip ((k, t), perm)
      | .yld x =>
        match k with
        | 0 => .yld x ((0, decTake t), perm)
        | k' + 1 =>
          gate perm false (k' + 1, decTake t)
            (match x with
             | .viol => .yld .viol (k', decTake t)
             | _ => .skip (k', t))

theorem tSlice_done (a : (Nat × Option Nat) × Permits) : tSlice a .done = .done := by
  obtain ⟨⟨k, t⟩, perm⟩ := a
  simp only [tSlice, ite_self]

theorem frame_slice (L : Option Nat) :
    Frame L (fun (a : (Nat × Option Nat) × Permits) it => .slice it a.1.1 a.2 a.1.2) tSlice := by
  intro ⟨⟨k, t⟩, perm⟩ it
  by_cases ht : t = some 0
  · subst ht
    rw [step_slice_zero]
    cases step L it <;> rfl
  · rw [step_slice L it k perm ht]
    simp only [tSlice, ht, ↓reduceIte]
    cases step L it with
    | done => rfl
    | skip s => rfl
    | «yield» x s =>
      cases k with
      | zero => rfl
      | succ k =>
        simp only [gate]
        generalize perm.next = r
        obtain ⟨tk, q⟩ := r
        cases tk with
        | ok => cases x <;> rfl
        | _ => rfl

def tWindows (size : Nat) : List V × Permits → Sh → TO (List V × Permits)
  | _, .done => .done
  | a, .skip => .skip a
  | (mem, perm), .yld x =>
    gate perm true mem
      (match x with
       | .val v =>
         if (mem ++ [v]).length == size then .yld (.val (.seq (mem ++ [v]))) (mem ++ [v]).tail
         else .skip (mem ++ [v])
       | x => .yld x mem)

theorem frame_windows (L : Option Nat) (size : Nat) :
    Frame L (fun (a : List V × Permits) it => .windows it size a.1 a.2) (tWindows size) := by
  intro ⟨mem, perm⟩ it
  rw [step]
  cases step L it with
  | done => rfl
  | skip s => rfl
  | «yield» x s =>
    simp only [tWindows, gate]
    generalize perm.next = r
    obtain ⟨t, q⟩ := r
    cases t with
    | ok =>
      cases x with
      | val v => dsimp only; cases (mem ++ [v]).length == size <;> rfl
      | _ => rfl
    | _ => rfl

def tGroup (eq : P2) : (List V × Bool) × Permits → Sh → TO ((List V × Bool) × Permits)
  | ((_, true), _), _ => .done
  | a@((_, false), _), .skip => .skip a
  | ((cur, false), perm), .done =>
    gate perm true (cur, true)
      (match cur with
       | [] => .done
       | c :: cs => .yld (.val (.seq (c :: cs))) ([], true))
  | ((cur, false), perm), .yld x =>
    gate perm true (cur, false)
      (match x with
       | .val v =>
         match cur with
         | [] => .skip ([v], false)
         | k :: ks =>
           match eq (.val k) (.val v) with
           | .t => .skip (k :: ks ++ [v], false)
           | .f => .yld (.val (.seq (k :: ks))) ([v], false)
           | .err => .yld .err (k :: ks, false)
           | .viol => .yld .viol (k :: ks, false)
       | x => .yld x (cur, false))

theorem frame_group (L : Option Nat) (eq : P2) :
    Frame L (fun (a : (List V × Bool) × Permits) it => .group it eq a.1.1 a.2 a.1.2) (tGroup eq) := by
  intro ⟨⟨cur, flushed⟩, perm⟩ it
  rw [step]
  cases flushed with
  | true => cases step L it <;> rfl
  | false =>
    simp only [Bool.false_eq_true, ↓reduceIte]
    cases step L it with
    | skip s => rfl
    | done =>
      simp only [tGroup, gate]
      generalize perm.next = r
      obtain ⟨t, q⟩ := r
      cases t with
      | ok => cases cur <;> rfl
      | _ => rfl
    | «yield» x s =>
      simp only [tGroup, gate]
      generalize perm.next = r
      obtain ⟨t, q⟩ := r
      cases t with
      | ok =>
        cases x with
        | val v =>
          cases cur with
          | nil => rfl
          | cons k ks => dsimp only; generalize eq (Item.val k) (Item.val v) = r; cases r <;> rfl
        | _ => rfl
      | _ => rfl

theorem Frame.after_none {α : Type} {L : Option Nat} {C : α → It → It} {T : α → Sh → TO α} (hT : Frame L C T)
    (hd : ∀ a, T a .done = .done) {n : Nat} {it : It} (h : after L n it = none) (a : α) :
    after L n (C a it) = none := by
  induction n generalizing it a with
  | zero => simp [after] at h
  | succ n ih =>
    rw [after] at h ⊢
    rw [hT]
    cases hs : step L it with
    | done => rw [hd]; rfl
    | skip s => rw [hs] at h; dsimp only; cases T a .skip <;> first | rfl | exact ih h _
    | «yield» x s => rw [hs] at h; dsimp only; cases T a (.yld x) <;> first | rfl | exact ih h _

end XrayModel.Gen
