/-
Pure integer facts used by the proofs about `LazyBigint` (C14, and the digit loops of IntDigits.lean): the nonlinear ones (`omega` treats products and quotients with a
variable divisor as atoms) and the tests on the result of `compare` read as order facts.  Nothing here mentions
the model.
-/
-- not used by name: with these two, `^` on `Int` and `Nat` in the statements of this file and of the files that
-- import it is the monoid power
import Mathlib.Algebra.Group.Int.Defs
import Mathlib.Algebra.Group.Nat.Defs
namespace XrayModel.Arith

theorem mul_big (a b : Int)
    (ha : a < -9223372036854775808 ∨ 9223372036854775807 < a)
    (hb : b < -9223372036854775808 ∨ 9223372036854775807 < b) :
    a * b < -9223372036854775808 ∨ 9223372036854775807 < a * b := by
  have h := Int.natAbs_mul a b
  have : 9223372036854775808 * 9223372036854775808 ≤ a.natAbs * b.natAbs :=
    Nat.mul_le_mul (by omega) (by omega)
  omega

theorem tdiv_bound2 (a b : Int) (hb : 2 ≤ b.natAbs) : (a.tdiv b).natAbs ≤ a.natAbs / 2 := by
  rw [Int.natAbs_tdiv]; exact Nat.div_le_div_left hb (by decide)

/-- a quotient that is the identity for divisor 1 and at most halves (up to one) otherwise stays an `i64`; the
divisor `-1` is the one that overflows (`i64::MIN / -1`) -/
theorem quot_fits (q : Int → Int → Int) (hq1 : ∀ a, q a 1 = a)
    (hq : ∀ a b, 2 ≤ b.natAbs → (q a b).natAbs ≤ a.natAbs / 2 + 1)
    (a b : Int) (ha : -9223372036854775808 ≤ a ∧ a ≤ 9223372036854775807) (h0 : b ≠ 0) (h1 : b ≠ -1) :
    -9223372036854775808 ≤ q a b ∧ q a b ≤ 9223372036854775807 := by
  by_cases h2 : b = 1
  · subst h2; rw [hq1]; exact ha
  · have := hq a b (by omega)
    omega

theorem tdiv_fits (a b : Int) (ha : -9223372036854775808 ≤ a ∧ a ≤ 9223372036854775807)
    (h0 : b ≠ 0) (h1 : b ≠ -1) :
    -9223372036854775808 ≤ a.tdiv b ∧ a.tdiv b ≤ 9223372036854775807 :=
  quot_fits Int.tdiv Int.tdiv_one (fun a b hb => Nat.le_succ_of_le (tdiv_bound2 a b hb)) a b ha h0 h1

theorem natAbs_tdiv_le (a b : Int) : (a.tdiv b).natAbs ≤ a.natAbs := by
  rw [Int.natAbs_tdiv]; exact Nat.div_le_self _ _

theorem fdiv_tdiv (a b : Int) : a.fdiv b = a.tdiv b ∨ a.fdiv b = a.tdiv b - 1 := by
  rw [Int.fdiv_eq_tdiv]
  have hs : b < 0 → b.sign = -1 := fun h => Int.sign_eq_neg_one_iff_neg.mpr h
  have hp : 0 < b → b.sign = 1 := fun h => Int.sign_eq_one_iff_pos.mpr h
  by_cases hb0 : b = 0
  · subst hb0; simp
  split
  · left; omega
  · split <;> split
    · left; omega
    · right; omega
    · right; have := hp (by omega); omega
    · left; have := hs (by omega); omega

theorem fdiv_natAbs_le (a b : Int) (hb : 2 ≤ b.natAbs) : (a.fdiv b).natAbs ≤ a.natAbs / 2 + 1 := by
  have := tdiv_bound2 a b hb
  rcases fdiv_tdiv a b with h | h <;> omega

theorem fdiv_fits (a b : Int) (ha : -9223372036854775808 ≤ a ∧ a ≤ 9223372036854775807)
    (h0 : b ≠ 0) (h1 : b ≠ -1) :
    -9223372036854775808 ≤ a.fdiv b ∧ a.fdiv b ≤ 9223372036854775807 :=
  quot_fits Int.fdiv Int.fdiv_one fdiv_natAbs_le a b ha h0 h1

theorem cdiv_fits (a b : Int) (ha : -9223372036854775808 ≤ a ∧ a ≤ 9223372036854775807)
    (h0 : b ≠ 0) (h1 : b ≠ -1) :
    -9223372036854775808 ≤ -((-a).fdiv b) ∧ -((-a).fdiv b) ≤ 9223372036854775807 :=
  quot_fits (fun a b => -((-a).fdiv b)) (fun a => by rw [Int.fdiv_one, Int.neg_neg])
    (fun a b hb => by rw [Int.natAbs_neg, ← Int.natAbs_neg a]; exact fdiv_natAbs_le (-a) b hb) a b ha h0 h1

theorem tmod_fits (a b : Int) (hb : -9223372036854775808 ≤ b ∧ b ≤ 9223372036854775807) (h0 : b ≠ 0) :
    -9223372036854775808 ≤ a.tmod b ∧ a.tmod b ≤ 9223372036854775807 := by
  have h := Int.natAbs_tmod a b
  have h2 : a.natAbs % b.natAbs < b.natAbs := Nat.mod_lt _ (by omega)
  omega

theorem tmod_neg_one (a : Int) : a.tmod (-1) = 0 := by
  rw [Int.tmod_neg, Int.tmod_one]

theorem tdiv_neg_one (a : Int) : a.tdiv (-1) = -a := by
  rw [Int.tdiv_neg, Int.tdiv_one]

theorem fdiv_neg_one (a : Int) : a.fdiv (-1) = -a := by
  rw [Int.fdiv_eq_ediv_of_dvd ⟨-a, by omega⟩]; omega

theorem cdiv_neg_one (a : Int) : -((-a).fdiv (-1)) = -a := by
  rw [fdiv_neg_one]; omega

/-- the floored modulo obtained from the truncated remainder the way `int.rs` does it -/
theorem fmod_of_tmod (a b : Int) :
    a.fmod b = if a.tmod b ≠ 0 ∧ (decide (a.tmod b < 0) != decide (b < 0)) = true
      then a.tmod b + b else a.tmod b := by
  rw [Int.fmod_eq_tmod]
  have hs := Int.sign_tmod a b
  have hd : b ∣ a ↔ a.tmod b = 0 := Int.dvd_iff_tmod_eq_zero
  by_cases hdv : b ∣ a
  · have := hd.mp hdv; simp [hdv, this]
  · have hne : a.tmod b ≠ 0 := fun h => hdv (hd.mpr h)
    rw [if_neg hdv] at hs
    simp only [if_neg hdv, hne, ne_eq, not_false_eq_true, true_and, bne_iff_ne, decide_eq_decide]
    have hsgn : (a.tmod b < 0 ↔ a < 0) := by
      rw [← Int.sign_eq_neg_one_iff_neg, hs, Int.sign_eq_neg_one_iff_neg]
    -- the remainder has the sign of `a`: `b` is added exactly when the signs of `a` and `b` differ
    by_cases ha : 0 ≤ a <;> by_cases hb : 0 ≤ b
    · rw [if_pos ha, if_pos hb, if_neg (by omega)]; omega
    · rw [if_pos ha, if_neg hb, if_pos (by omega)]
    · rw [if_neg ha, if_pos hb, if_pos (by omega)]; omega
    · rw [if_neg ha, if_neg hb, if_neg (by omega)]; omega

/-- for `b = 0` both bounds are vacuous and `r = a` -/
theorem fdiv_char (a b : Int) :
    ∃ r, a = (a.fdiv b) * b + r ∧ (0 < b → 0 ≤ r ∧ r < b) ∧ (b < 0 → b < r ∧ r ≤ 0) :=
  ⟨a.fmod b, (Int.fdiv_mul_add_fmod a b).symm, fun h => ((Int.fdiv_fmod_unique h).mp ⟨rfl, rfl⟩).2,
    fun h => ((Int.fdiv_fmod_unique' h).mp ⟨rfl, rfl⟩).2⟩

theorem cdiv_char (a b : Int) (hb : b ≠ 0) :
    ∃ r, a = (-((-a).fdiv b)) * b - r ∧ (0 < b → 0 ≤ r ∧ r < b) ∧ (b < 0 → b < r ∧ r ≤ 0) := by
  have _ := hb  -- names the hypothesis, which is not needed: for `b = 0` both bounds are vacuous
  obtain ⟨r, h1, h2⟩ := fdiv_char (-a) b
  exact ⟨r, by rw [Int.neg_mul]; omega, h2⟩

theorem tmod_range (n b : Int) (hb : 2 ≤ b) :
    (0 ≤ n → 0 ≤ n.tmod b ∧ n.tmod b < b) ∧ (n ≤ 0 → -b < n.tmod b ∧ n.tmod b ≤ 0) := by
  constructor
  · intro h; exact ⟨Int.tmod_nonneg _ h, Int.tmod_lt_of_pos _ (by omega)⟩
  · intro h
    have e : n.tmod b = -((-n).tmod b) := by rw [Int.neg_tmod]; omega
    have h1 := Int.tmod_nonneg b (show 0 ≤ -n by omega)
    have h2 := Int.tmod_lt_of_pos (-n) (show 0 < b by omega)
    omega

theorem tdiv_sign (n b : Int) (hb : 2 ≤ b) : (0 ≤ n → 0 ≤ n.tdiv b) ∧ (n ≤ 0 → n.tdiv b ≤ 0) := by
  constructor
  · intro h; exact Int.tdiv_nonneg h (by omega)
  · intro h
    have e : n.tdiv b = -((-n).tdiv b) := by rw [Int.neg_tdiv]; omega
    have := Int.tdiv_nonneg (show 0 ≤ -n by omega) (show 0 ≤ b by omega)
    omega

theorem pow_big (b : Int) (e : Nat) (he : e ≠ 0)
    (hb : b < -9223372036854775808 ∨ 9223372036854775807 < b) :
    b ^ e < -9223372036854775808 ∨ 9223372036854775807 < b ^ e := by
  have h1 := Int.natAbs_pow b e
  have h2 : b.natAbs ≤ b.natAbs ^ e := Nat.le_self_pow he _
  rcases hb with hb | hb
  · omega
  · have : 0 < b ^ e := Int.pow_pos (by omega)
    omega

theorem neg_one_pow (e : Nat) : (-1 : Int) ^ e = if e % 2 = 0 then 1 else -1 := by
  induction e with
  | zero => rfl
  | succ e ih => rw [Int.pow_succ, ih]; split <;> split <;> omega

/-- in each case the remainder (`x` resp. `x + b`) is exhibited -/
theorem fdiv_of_abs_lt (x b : Int) (h : (-b ≤ x ∧ x < b) ∨ (b < x ∧ x ≤ -b)) :
    x.fdiv b = if x = 0 ∨ (x < 0 ↔ b < 0) then 0 else -1 := by
  rcases h with h | h
  · have hb : 0 < b := by omega
    by_cases h0 : 0 ≤ x
    · rw [if_pos (by omega)]
      exact ((Int.fdiv_fmod_unique (r := x) hb).mpr ⟨by omega, h0, h.2⟩).1
    · rw [if_neg (by omega)]
      exact ((Int.fdiv_fmod_unique (r := x + b) hb).mpr ⟨by omega, by omega, by omega⟩).1
  · have hb : b < 0 := by omega
    by_cases h0 : x ≤ 0
    · rw [if_pos (by omega)]
      exact ((Int.fdiv_fmod_unique' (r := x) hb).mpr ⟨by omega, h.1, h0⟩).1
    · rw [if_neg (by omega)]
      exact ((Int.fdiv_fmod_unique' (r := x + b) hb).mpr ⟨by omega, by omega, by omega⟩).1

theorem cdiv_of_abs_lt (x b : Int) (h : (-b ≤ -x ∧ -x < b) ∨ (b < -x ∧ -x ≤ -b)) :
    -((-x).fdiv b) = if x = 0 ∨ ¬ (x < 0 ↔ b < 0) then 0 else 1 := by
  rw [fdiv_of_abs_lt (-x) b h]
  by_cases hc : x = 0 ∨ ¬ (x < 0 ↔ b < 0)
  · rw [if_pos hc, if_pos (by omega)]; rfl
  · rw [if_neg hc, if_neg (by omega)]; rfl

theorem compare_beq_lt (x y : Int) : (compare x y == .lt) = decide (x < y) := by
  rw [Bool.eq_iff_iff, beq_iff_eq, decide_eq_true_iff, Int.compare_eq_lt]

theorem compare_beq_gt (x y : Int) : (compare x y == .gt) = decide (x > y) := by
  rw [Bool.eq_iff_iff, beq_iff_eq, decide_eq_true_iff, Int.compare_eq_gt]

theorem compare_bne_gt (x y : Int) : (compare x y != .gt) = decide (x ≤ y) := by
  rw [bne, compare_beq_gt, ← decide_not]; exact decide_eq_decide.mpr Int.not_lt

theorem compare_bne_lt (x y : Int) : (compare x y != .lt) = decide (x ≥ y) := by
  rw [bne, compare_beq_lt, ← decide_not]; exact decide_eq_decide.mpr Int.not_lt

end XrayModel.Arith
