/-
The limits of the core evaluator (C08): two runs of one computation, with the same fuel, compared.

`Lock`: the run under an arbitrary configuration `cfg` against the instrumented run `evalI`. As long as every
check has passed (`Below`) the two are in lockstep; when the counters leave the limits the limited run
is stopped. This is the one induction over the ten functions of the evaluator; a step walks a function
body sub-run by sub-run, `Lockstep.bindR`/`bindE` reducing it to the cases of the `match` that
consumes a sub-run's outcome, `Lockstep.event` treating the three checks.

Read off it: `MonoAt` (the counters only grow), `SimI` (all limits set), `NoViolI` (no limits: the
instrumented run is the run, and that has no violation), in CoreLimitsConv `SimO`/`VioO` (no call limit), and
for whole runs `Lockstep.run`/`Lockstep.follow`: a run that is not stopped under `cfg` is reproduced under any
weaker `cfg'`, because both are the same instrumented run, whose counters pass the checks of `cfg` and hence
those of `cfg'` (`Below.weaken`).
-/
import XrayProofs.CoreLimits
namespace XrayModel.CoreLimitsSim
open XrayModel.Core XrayModel.CoreLimits

/-- `a ≤ b` for limits, `none` = no limit = ∞ -/
def optLe : Option Nat → Option Nat → Prop
  | _, none => True
  | some x, some y => x ≤ y
  | none, some _ => False

theorem optLe_none (a : Option Nat) : optLe a none := by cases a <;> trivial
theorem optLe_refl (a : Option Nat) : optLe a a := by cases a <;> simp [optLe]

def optLt (a : Nat) : Option Nat → Prop
  | none => True
  | some l => a < l
def optLeN (a : Nat) : Option Nat → Prop
  | none => True
  | some l => a ≤ l

theorem optLt_of_le {a b : Nat} {L : Option Nat} (hab : a ≤ b) (h : optLt b L) : optLt a L := by
  cases L with
  | none => trivial
  | some l => exact Nat.lt_of_le_of_lt hab h

theorem optLeN_of_le {a b : Nat} {L : Option Nat} (hab : a ≤ b) (h : optLeN b L) : optLeN a L := by
  cases L with
  | none => trivial
  | some l => exact Nat.le_trans hab h

theorem optLt_iff {a : Nat} {L : Option Nat} : optLt a L ↔ ∀ l, L = some l → a < l := by
  cases L with
  | none => exact ⟨fun _ _ h => (nomatch h), fun _ => trivial⟩
  | some l => exact ⟨fun h _ e => Option.some.inj e ▸ h, fun h => h l rfl⟩

theorem optLeN_iff {a : Nat} {L : Option Nat} : optLeN a L ↔ ∀ l, L = some l → a ≤ l := by
  cases L with
  | none => exact ⟨fun _ _ h => (nomatch h), fun _ => trivial⟩
  | some l => exact ⟨fun h _ e => Option.some.inj e ▸ h, fun h => h l rfl⟩

theorem optLt_max {a b : Nat} {L : Option Nat} (ha : optLt a L) (hb : optLt b L) : optLt (max a b) L := by
  cases L with
  | none => trivial
  | some l => exact Nat.max_lt.mpr ⟨ha, hb⟩

theorem optLeN_max {a b : Nat} {L : Option Nat} (ha : optLeN a L) (hb : optLeN b L) : optLeN (max a b) L := by
  cases L with
  | none => trivial
  | some l => exact Nat.max_le.mpr ⟨ha, hb⟩

theorem optLt_weaker {L L' : Option Nat} (hle : optLe L L') {a : Nat} (h : optLt a L) : optLt a L' := by
  cases L' with
  | none => trivial
  | some l' =>
    cases L with
    | none => exact hle.elim
    | some l => exact Nat.lt_of_lt_of_le h hle

theorem optLeN_weaker {L L' : Option Nat} (hle : optLe L L') {a : Nat} (h : optLeN a L) : optLeN a L' := by
  cases L' with
  | none => trivial
  | some l' =>
    cases L with
    | none => exact hle.elim
    | some l => exact Nat.le_trans h hle

theorem Cfg.tooDeep_eq_false_iff {cfg : Cfg} {h : Nat} : cfg.tooDeep h = false ↔ optLt h cfg.depthLimit := by
  unfold Cfg.tooDeep
  cases cfg.depthLimit with
  | none => exact ⟨fun _ => trivial, fun _ => rfl⟩
  | some l => exact decide_eq_false_iff_not.trans Nat.not_le

theorem Cfg.recOver_eq_false_iff {cfg : Cfg} {r : Nat} : cfg.recOver r = false ↔ optLeN r cfg.recLimit := by
  unfold Cfg.recOver
  cases cfg.recLimit with
  | none => exact ⟨fun _ => trivial, fun _ => rfl⟩
  | some l => exact decide_eq_false_iff_not.trans Nat.not_lt

/-- the counterpart of `tramp_succ` -/
theorem trampI_clos (n tco height f dflts env args rec) (st : StI) :
    trampI (n + 1) tco height (.clos f dflts env) args rec st =
      match bindParams f.params args dflts with
      | none => (.stuck "arity", { st with maxH := max st.maxH (height + 1) })
      | some ps =>
        match evalDeclsI n tco (callFrame height f dflts env ps) f.decls { st with maxH := max st.maxH (height + 1) } with
        | (.error r, st') => (r, st')
        | (.ok fr', st') =>
          match evalI n tco fr' f.body true st' with
          | (.tail newArgs, st'') =>
              trampI n tco height (.clos f dflts env) newArgs (rec + 1) { st'' with maxRec := max st''.maxRec (rec + 1) }
          | r => r := by
  rw [trampI]; rfl

/-- every check the run under `cfg` has made so far has passed: a frame height is checked (`<` the
depth limit) when the frame is created, the calls on top of `c0` (`<` the call limit) when a call is
made — `maxH = 0`, `calls = 0`: not yet —, a tail-iteration count (`≤` the recursion limit) when reached -/
def Below (cfg : Cfg) (c0 : Nat) (s : StI) : Prop :=
  (s.maxH = 0 ∨ optLt s.maxH cfg.depthLimit) ∧ (s.calls = 0 ∨ optLt (c0 + s.calls) cfg.callLimit) ∧
    optLeN s.maxRec cfg.recLimit

theorem below_of_le {cfg : Cfg} {c0 : Nat} {s s' : StI} (hle : StI.le s s') (h : Below cfg c0 s') : Below cfg c0 s :=
  ⟨h.1.imp (fun h0 : s'.maxH = 0 => Nat.eq_zero_of_le_zero (h0 ▸ hle.2.1)) (optLt_of_le hle.2.1),
   h.2.1.imp (fun h0 : s'.calls = 0 => Nat.eq_zero_of_le_zero (h0 ▸ hle.1)) (optLt_of_le (Nat.add_le_add_left hle.1 c0)),
   optLeN_of_le hle.2.2 h.2.2⟩

/-- the state of the run under `cfg` as a function of the instrumented state: the counter (`c0` at the
start) moves only under a call limit -/
def TC (cfg : Cfg) (c0 : Nat) (s : StI) : St :=
  { out := s.out, calls := match cfg.callLimit with | none => c0 | some _ => c0 + s.calls }

def mapTC {α : Type} (cfg : Cfg) (c0 : Nat) (p : α × StI) : α × St := (p.1, TC cfg c0 p.2)

theorem TC_start (cfg : Cfg) (st : St) : TC cfg st.calls { out := st.out } = st := by
  unfold TC; cases cfg.callLimit <;> rfl

theorem below_maxH {cfg : Cfg} {c0 : Nat} {s : StI} {h : Nat} :
    Below cfg c0 { s with maxH := max s.maxH (h + 1) } ↔ Below cfg c0 s ∧ ¬ cfg.tooDeep (h + 1) = true := by
  rw [Bool.not_eq_true, Cfg.tooDeep_eq_false_iff]
  refine ⟨fun hb => ?_, fun hb => ⟨.inr (optLt_max (hb.1.1.elim (fun h0 => ?_) id) hb.2), hb.1.2⟩⟩
  · have hm := hb.1.resolve_left (Nat.ne_of_gt (Nat.lt_of_lt_of_le (Nat.succ_pos h) (Nat.le_max_right _ _)))
    exact ⟨⟨.inr (optLt_of_le (Nat.le_max_left _ _) hm), hb.2⟩, optLt_of_le (Nat.le_max_right _ _) hm⟩
  · rw [h0]; exact optLt_of_le (Nat.zero_le _) hb.2

theorem below_maxRec {cfg : Cfg} {c0 : Nat} {s : StI} {r : Nat} :
    Below cfg c0 { s with maxRec := max s.maxRec r } ↔ Below cfg c0 s ∧ ¬ cfg.recOver r = true := by
  rw [Bool.not_eq_true, Cfg.recOver_eq_false_iff]
  exact ⟨fun hb => ⟨⟨hb.1, hb.2.1, optLeN_of_le (Nat.le_max_left _ _) hb.2.2⟩, optLeN_of_le (Nat.le_max_right _ _) hb.2.2⟩,
    fun hb => ⟨hb.1.1, hb.1.2.1, optLeN_max hb.1.2.2 hb.2⟩⟩

theorem below_calls {cfg : Cfg} {c0 l : Nat} {s : StI} (hl : cfg.callLimit = some l) :
    Below cfg c0 { s with calls := s.calls + 1 } ↔ Below cfg c0 s ∧ ¬ c0 + s.calls + 1 ≥ l := by
  unfold Below
  rw [hl]
  refine ⟨fun hb => ?_, fun hb => ⟨hb.1.1, .inr (Nat.not_le.mp hb.2), hb.1.2.2⟩⟩
  have hc : c0 + (s.calls + 1) < l := hb.2.1.resolve_left (Nat.succ_ne_zero _)
  exact ⟨⟨hb.1, .inr (Nat.lt_of_succ_lt hc), hb.2.2⟩, Nat.not_le.mpr hc⟩

/-- a sub-run of the instrumented run (from `s`, outcome `q`) and of the run under `cfg` (outcome `p`):
the counters only grow, and started below the limits the two either stay in lockstep to the end, or
the counters leave the limits and the limited run is stopped -/
def Lockstep {α : Type} (viol : α → Bool) (cfg : Cfg) (c0 : Nat) (s : StI) (q : α × StI) (p : α × St) : Prop :=
  StI.le s q.2 ∧ (Below cfg c0 s →
    (Below cfg c0 q.2 ∧ p = mapTC cfg c0 q) ∨ (¬ Below cfg c0 q.2 ∧ viol p.1 = true))

section lockstep
variable {α β : Type} {viol : α → Bool} {violβ : β → Bool} {cfg : Cfg} {c0 : Nat} {s s' : StI}
  {q : α × StI} {p : α × St}

theorem Lockstep.sim (d : Lockstep viol cfg c0 s q p) (h : Below cfg c0 q.2) : p = mapTC cfg c0 q :=
  ((d.2 (below_of_le d.1 h)).resolve_right fun x => x.1 h).2

theorem Lockstep.vio (d : Lockstep viol cfg c0 s q p) (hs : Below cfg c0 s) (h : ¬ Below cfg c0 q.2) :
    viol p.1 = true :=
  ((d.2 hs).resolve_left fun x => h x.1).2

/-- name the two sub-runs that `d` relates, wherever the goal mentions them -/
@[elab_as_elim]
theorem Lockstep.elim {motive : α × StI → α × St → Prop} (d : Lockstep viol cfg c0 s q p)
    (h : ∀ q p, Lockstep viol cfg c0 s q p → motive q p) : motive q p := h q p d

/-- `o`: the output, which `display` extends -/
theorem Lockstep.done {b : α} (o : List String) :
    Lockstep viol cfg c0 s (b, { s with out := o }) (b, TC cfg c0 { s with out := o }) :=
  ⟨.refl s, fun hs => .inl ⟨hs, rfl⟩⟩

theorem Lockstep.same {b : α} : Lockstep viol cfg c0 s (b, s) (b, TC cfg c0 s) := .done s.out

/-- the outcome of the two sub-runs is consumed by `KI` / `K`, which pass a violation on -/
theorem Lockstep.bind (d : Lockstep viol cfg c0 s q p) {KI : α × StI → β × StI} {K : α × St → β × St}
    (stop : ∀ a st, viol a = true → violβ (K (a, st)).1 = true)
    (cont : ∀ a s1, Lockstep violβ cfg c0 s1 (KI (a, s1)) (K (a, TC cfg c0 s1))) :
    Lockstep violβ cfg c0 s (KI q) (K p) := by
  obtain ⟨a, s1⟩ := q
  have c := cont a s1
  refine ⟨StI.le.trans d.1 c.1, fun hs => ?_⟩
  rcases d.2 hs with ⟨hw, e⟩ | ⟨hn, v⟩
  · rw [e]; exact c.2 hw
  · exact .inr ⟨fun hb => hn (below_of_le c.1 hb), stop _ _ v⟩

/- That the consumer passes a violation on (`stop`) is seen by evaluating it: every `match` on an outcome in
the evaluator has the violation in its catch-all arm. -/

theorem Lockstep.bindR {KI : Res × StI → β × StI} {K : Res × St → β × St}
    (cont : ∀ a s1, Lockstep violβ cfg c0 s1 (KI (a, s1)) (K (a, TC cfg c0 s1)))
    (stop : ∀ k st, violβ (K (.viol k, st)).1 = true := by exact fun _ _ => rfl) :
    ∀ q p, Lockstep Res.isViol cfg c0 s q p → Lockstep violβ cfg c0 s (KI q) (K p) :=
  fun _ _ d => d.bind (fun _ st v => by obtain ⟨k, rfl⟩ := viol_of_isViol v; exact stop k st) cont

theorem Lockstep.bindE {KI : Except Res α × StI → β × StI} {K : Except Res α × St → β × St}
    (cont : ∀ a s1, Lockstep violβ cfg c0 s1 (KI (a, s1)) (K (a, TC cfg c0 s1)))
    (stop : ∀ k st, violβ (K (.error (.viol k), st)).1 = true := by exact fun _ _ => rfl) :
    ∀ q p, Lockstep exViol cfg c0 s q p → Lockstep violβ cfg c0 s (KI q) (K p) :=
  fun _ _ d => d.bind (fun _ st v => by obtain ⟨k, rfl⟩ := viol_of_exViol v; exact stop k st) cont

theorem Lockstep.start (d : Lockstep viol cfg c0 s' q p) (m : StI.le s s')
    (hb : Below cfg c0 s → Below cfg c0 s') : Lockstep viol cfg c0 s q p :=
  ⟨StI.le.trans m d.1, fun hs => d.2 (hb hs)⟩

/-- a check of the limited run (`c`: it fails) where the instrumented run moves its counters from `s`
to `s'`: the check fails exactly when the new counters are not below the limits -/
theorem Lockstep.event {c : Prop} [Decidable c] {pstop : α × St} (d : Lockstep viol cfg c0 s' q p)
    (m : StI.le s s') (hiff : Below cfg c0 s' ↔ Below cfg c0 s ∧ ¬ c) (v : viol pstop.1 = true) :
    Lockstep viol cfg c0 s q (if c then pstop else p) := by
  by_cases hc : c
  · rw [if_pos hc]
    exact ⟨StI.le.trans m d.1, fun _ => .inr ⟨fun h => (hiff.mp (below_of_le d.1 h)).2 hc, v⟩⟩
  · rw [if_neg hc]
    exact d.start m fun hs => hiff.mpr ⟨hs, hc⟩
end lockstep

structure Lock (cfg : Cfg) (c0 n : Nat) : Prop where
  eval : ∀ fr e tail s, Lockstep Res.isViol cfg c0 s (evalI n cfg.tco fr e tail s) (eval n cfg fr e tail (TC cfg c0 s))
  callNamed : ∀ fr f args tail s, Lockstep Res.isViol cfg c0 s (callNamedI n cfg.tco fr f args tail s)
    (callNamed n cfg fr f args tail (TC cfg c0 s))
  builtin : ∀ fr f args tail s, Lockstep Res.isViol cfg c0 s (builtinI n cfg.tco fr f args tail s)
    (builtin n cfg fr f args tail (TC cfg c0 s))
  callVal : ∀ fr c args tail s, Lockstep Res.isViol cfg c0 s (callValI n cfg.tco fr c args tail s)
    (callVal n cfg fr c args tail (TC cfg c0 s))
  evalList : ∀ fr es s, Lockstep exViol cfg c0 s (evalListI n cfg.tco fr es s) (evalList n cfg fr es (TC cfg c0 s))
  mkClos : ∀ fr f s, Lockstep Res.isViol cfg c0 s (mkClosI n cfg.tco fr f s) (mkClos n cfg fr f (TC cfg c0 s))
  evalDflts : ∀ fr ps s, Lockstep exViol cfg c0 s (evalDfltsI n cfg.tco fr ps s) (evalDflts n cfg fr ps (TC cfg c0 s))
  callUser : ∀ h c args s, Lockstep Res.isViol cfg c0 s (callUserI n cfg.tco h c args s) (callUser n cfg h c args (TC cfg c0 s))
  tramp : ∀ h c args rec s, Lockstep Res.isViol cfg c0 s (trampI n cfg.tco h c args rec s)
    (tramp n cfg h c args rec (TC cfg c0 s))
  evalDecls : ∀ fr ds s, Lockstep exViol cfg c0 s (evalDeclsI n cfg.tco fr ds s) (evalDecls n cfg fr ds (TC cfg c0 s))

/- `(ih.… ).elim (Lockstep.bindR ?_)` names the two sub-runs that the induction hypothesis relates and goes on
with their consumer, for an arbitrary common outcome and instrumented state `s1`; an arm of the split outcome
is a further sub-run or the end of both runs (`.same`). -/
theorem lock_succ {cfg c0 n} (ih : Lock cfg c0 n) : Lock cfg c0 (n + 1) := by
  constructor
  case eval =>
    intro fr e tail s
    cases e with
    | int _ | bool _ | str _ => exact .same
    | var x => rw [eval, evalI]; cases fr.get x <;> exact .same
    | tup es | arr es =>
      rw [eval, evalI]
      refine (ih.evalList fr es s).elim (Lockstep.bindE ?_)
      rintro (_ | _) s1 <;> exact .same
    | item e i =>
      rw [eval, evalI]
      refine (ih.eval fr e false s).elim (Lockstep.bindR ?_)
      rintro (v | _ | _ | _ | _) s1
      · cases v with
        | tup vs => dsimp only; cases vs[i]? <;> exact .same
        | _ => exact .same
      all_goals exact .same
    | lam f => rw [eval, evalI]; exact ih.mkClos fr f s
    | callE fe args =>
      rw [eval, evalI]
      refine (ih.eval fr fe false s).elim (Lockstep.bindR ?_)
      rintro (v | _ | _ | _ | _) s1
      · cases v <;> first | exact .same | exact ih.callVal fr _ args tail s1
      all_goals exact .same
    | call f args =>
      rw [eval, evalI]
      rcases fr.self with _ | ⟨name, c⟩
      · exact ih.callNamed fr f args tail s
      · dsimp only
        split
        · split
          · refine (ih.evalList fr args s).elim (Lockstep.bindE ?_)
            rintro (_ | _) s1 <;> exact .same
          · exact ih.callVal fr c args tail s
        · exact ih.callNamed fr f args tail s
  case callNamed =>
    intro fr f args tail s
    rw [callNamed, callNamedI]
    cases fr.get f
    · exact ih.builtin fr f args tail s
    · exact ih.callVal fr _ args tail s
  case builtin =>
    intro fr f args tail s
    -- the arms of `builtinI` (`rw [builtinI]` would select the last one); in each, `rw [builtin]` selects the
    -- same arm of `builtin`
    unfold builtinI
    split
    next c a b => -- `if`
      rw [builtin]
      refine (ih.eval fr c false s).elim (Lockstep.bindR ?_)
      rintro (v | _ | _ | _ | _) s1
      · cases v <;> first | exact .same | exact ih.eval fr _ tail s1
      all_goals exact .same
    next a b => -- `and`
      rw [builtin]
      refine (ih.eval fr a false s).elim (Lockstep.bindR ?_)
      rintro (v | _ | _ | _ | _) s1
      · cases v with
        | bool t => cases t <;> first | exact .same | exact ih.eval fr b tail s1
        | _ => exact .same
      all_goals exact .same
    next a b => -- `or`
      rw [builtin]
      refine (ih.eval fr a false s).elim (Lockstep.bindR ?_)
      rintro (v | _ | _ | _ | _) s1
      · cases v with
        | bool t => cases t <;> first | exact .same | exact ih.eval fr b tail s1
        | _ => exact .same
      all_goals exact .same
    next a b => -- `if_error`
      rw [builtin]
      refine (ih.eval fr a false s).elim (Lockstep.bindR ?_)
      rintro (v | _ | _ | _ | _) s1
      · cases v <;> first | exact .same | exact ih.eval fr b tail s1
      all_goals exact .same
    next a => -- `is_error`
      rw [builtin]
      refine (ih.eval fr a false s).elim (Lockstep.bindR ?_)
      rintro (_ | _ | _ | _ | _) s1 <;> exact .same
    next a => -- `display`
      rw [builtin]
      refine (ih.eval fr a false s).elim (Lockstep.bindR ?_)
      rintro (v | _ | _ | _ | _) s1
      · cases v <;> first | exact .same | (dsimp only; cases toStr _ <;> first | exact .same | exact .done _)
      all_goals exact .same
    next => -- the strict natives: the side conditions of this arm (none of the patterns above) are in the context
      rw [builtin] <;> try assumption
      split
      · refine (ih.evalList fr args s).elim (Lockstep.bindE ?_)
        rintro (_ | _) s1 <;> exact .same
      · exact .same
  case callVal =>
    intro fr c args tail s
    cases c with
    | clos f d env =>
      rw [callVal, callValI]
      refine (ih.evalList fr args s).elim (Lockstep.bindE ?_)
      rintro (_ | vs) s1
      · exact .same
      · exact ih.callUser fr.height _ vs s1
    | _ => exact .same
  case evalList =>
    intro fr es s
    cases es with
    | nil => exact .same
    | cons e rest =>
      rw [evalList, evalListI]
      refine (ih.eval fr e false s).elim (Lockstep.bindR ?_)
      rintro (v | _ | _ | _ | _) s1
      · cases v
        case err => exact .same
        all_goals
          dsimp only
          refine (ih.evalList fr rest s1).elim (Lockstep.bindE ?_)
          rintro (_ | _) s2 <;> exact .same
      all_goals exact .same
  case mkClos =>
    intro fr f s
    rw [mkClos, mkClosI]
    refine (ih.evalDflts fr f.params s).elim (Lockstep.bindE ?_)
    rintro (_ | _) s1 <;> exact .same
  case evalDflts =>
    intro fr ps s
    cases ps with
    | nil => exact .same
    | cons p rest =>
      rw [evalDflts, evalDfltsI]
      cases p.dflt with
      | none => exact ih.evalDflts fr rest s
      | some d =>
        dsimp only
        refine (ih.eval fr d false s).elim (Lockstep.bindR ?_)
        rintro (v | _ | _ | _ | _) s1
        · dsimp only
          refine (ih.evalDflts fr rest s1).elim (Lockstep.bindE ?_)
          rintro (_ | _) s2 <;> exact .same
        all_goals exact .same
  case evalDecls =>
    intro fr ds s
    cases ds with
    | nil => exact .same
    | cons d rest =>
      cases d with
      | letD x e =>
        rw [evalDecls, evalDeclsI]
        refine (ih.eval fr e false s).elim (Lockstep.bindR ?_)
        rintro (v | _ | _ | _ | _) s1
        · exact ih.evalDecls _ rest s1
        all_goals exact .same
      | fnD f =>
        rw [evalDecls, evalDeclsI]
        refine (ih.mkClos fr f s).elim (Lockstep.bindR ?_)
        rintro (v | _ | _ | _ | _) s1
        · dsimp only
          cases f.name
          · exact .same
          · exact ih.evalDecls _ rest s1
        all_goals exact .same
  case callUser =>
    intro hh c args s
    rw [callUser, callUserI]
    cases firstErr args with
    | some e => exact .same
    | none =>
      have d := ih.tramp hh c args 0 { s with calls := s.calls + 1 }
      cases hl : cfg.callLimit with
      | none =>
        simp only [TC, hl] at d ⊢
        exact d.start s.le_calls fun hs => ⟨hs.1, .inr (hl ▸ trivial), hs.2.2⟩
      | some l =>
        simp only [TC, hl] at d ⊢
        exact d.event s.le_calls (below_calls hl) rfl
  case tramp =>
    intro hh c args rec s
    cases c with
    | clos f d env =>
      rw [tramp_succ, trampI_clos, show TC cfg c0 s = TC cfg c0 { s with maxH := max s.maxH (hh + 1) } from rfl]
      refine Lockstep.event (s' := { s with maxH := max s.maxH (hh + 1) }) ?_ (s.le_maxH _) below_maxH rfl
      cases bindParams f.params args d with
      | none => exact .same
      | some ps =>
        dsimp only
        refine (ih.evalDecls (callFrame hh f d env ps) f.decls { s with maxH := max s.maxH (hh + 1) }).elim (Lockstep.bindE ?_)
        rintro (_ | fr') s1
        · exact .same
        dsimp only [onOk]
        refine (ih.eval fr' f.body true s1).elim (Lockstep.bindR ?_)
        rintro (_ | _ | newArgs | _ | _) s2
        case tail =>
          exact (ih.tramp hh _ newArgs (rec + 1) { s2 with maxRec := max s2.maxRec (rec + 1) }).event
            (s2.le_maxRec _) below_maxRec rfl
        all_goals exact .same
    | _ => exact .same

theorem lock (cfg : Cfg) (c0 n : Nat) : Lock cfg c0 n := by
  induction n with
  | zero => constructor <;> intros <;> exact .same
  | succ n ih => exact lock_succ ih

end XrayModel.CoreLimitsSim

namespace XrayModel.CoreLimits
open XrayModel.Core

/-- the first half of `Lockstep`, whatever the configuration -/
theorem monoAt (tco : Bool) (fuel : Nat) : MonoAt tco fuel :=
  have L := CoreLimitsSim.lock { tco := tco } 0 fuel
  { eval := fun fr e tail st => (L.eval fr e tail st).1
    callNamed := fun fr f args tail st => (L.callNamed fr f args tail st).1
    callVal := fun fr c args tail st => (L.callVal fr c args tail st).1
    evalList := fun fr es st => (L.evalList fr es st).1
    mkClos := fun fr f st => (L.mkClos fr f st).1
    evalDflts := fun fr ps st => (L.evalDflts fr ps st).1
    callUser := fun h c args st => (L.callUser h c args st).1
    tramp := fun h c args rec st => (L.tramp h c args rec st).1
    evalDecls := fun fr ds st => (L.evalDecls fr ds st).1
    builtin := fun fr f args tail st => (L.builtin fr f args tail st).1 }

theorem SimAt.prime {cfg : Cfg} {c0 fuel : Nat} (hS : SimAt cfg c0 fuel) : SimAt' cfg c0 fuel :=
  have m := monoAt cfg.tco fuel
  { eval := fun h1 h2 h3 => h1 ▸ h2 ▸ hS.eval _ _ _ _ _ h3
    evalM := fun h2 => (h2 ▸ m.eval .. : StI.le _ (_, _).2)
    callNamed := fun h1 h2 h3 => h1 ▸ h2 ▸ hS.callNamed _ _ _ _ _ _ h3
    callNamedM := fun h2 => (h2 ▸ m.callNamed .. : StI.le _ (_, _).2)
    callVal := fun h1 h2 h3 => h1 ▸ h2 ▸ hS.callVal _ _ _ _ _ _ h3
    callValM := fun h2 => (h2 ▸ m.callVal .. : StI.le _ (_, _).2)
    evalList := fun h1 h2 h3 => h1 ▸ h2 ▸ hS.evalList _ _ _ _ h3
    evalListM := fun h2 => (h2 ▸ m.evalList .. : StI.le _ (_, _).2)
    mkClos := fun h1 h2 h3 => h1 ▸ h2 ▸ hS.mkClos _ _ _ _ h3
    mkClosM := fun h2 => (h2 ▸ m.mkClos .. : StI.le _ (_, _).2)
    evalDflts := fun h1 h2 h3 => h1 ▸ h2 ▸ hS.evalDflts _ _ _ _ h3
    evalDfltsM := fun h2 => (h2 ▸ m.evalDflts .. : StI.le _ (_, _).2)
    callUser := fun h1 h2 h3 => h1 ▸ h2 ▸ hS.callUser _ _ _ _ _ h3
    callUserM := fun h2 => (h2 ▸ m.callUser .. : StI.le _ (_, _).2)
    tramp := fun h1 h2 h3 => h1 ▸ h2 ▸ hS.tramp _ _ _ _ _ _ h3
    trampM := fun h2 => (h2 ▸ m.tramp .. : StI.le _ (_, _).2)
    evalDecls := fun h1 h2 h3 => h1 ▸ h2 ▸ hS.evalDecls _ _ _ _ h3
    evalDeclsM := fun h2 => (h2 ▸ m.evalDecls .. : StI.le _ (_, _).2)
    builtin := fun h1 h2 h3 => h1 ▸ h2 ▸ hS.builtin _ _ _ _ _ _ h3
    builtinM := fun h2 => (h2 ▸ m.builtin .. : StI.le _ (_, _).2) }

end XrayModel.CoreLimits

namespace XrayModel.CoreLimitsSim
open XrayModel.Core XrayModel.CoreLimits

def cfgL (tco : Bool) (Ld Lc Lr : Nat) : Cfg :=
  { depthLimit := some Ld, callLimit := some Lc, recLimit := some Lr, tco := tco }

@[simp] theorem cfgL_tco (tco Ld Lc Lr) : (cfgL tco Ld Lc Lr).tco = tco := rfl
@[simp] theorem cfgL_depth (tco Ld Lc Lr) : (cfgL tco Ld Lc Lr).depthLimit = some Ld := rfl
@[simp] theorem cfgL_call (tco Ld Lc Lr) : (cfgL tco Ld Lc Lr).callLimit = some Lc := rfl
@[simp] theorem cfgL_rec (tco Ld Lc Lr) : (cfgL tco Ld Lc Lr).recLimit = some Lr := rfl

def TI (c0 : Nat) (s : StI) : St := { out := s.out, calls := c0 + s.calls }

@[simp] theorem TI_out (c0 s) : (TI c0 s).out = s.out := rfl
@[simp] theorem TI_calls (c0 s) : (TI c0 s).calls = c0 + s.calls := rfl
theorem TI_mk (c0 o c h r) : TI c0 { out := o, calls := c, maxH := h, maxRec := r } = { out := o, calls := c0 + c } := rfl

def mapTI (c0 : Nat) (p : Res × StI) : Res × St := (p.1, TI c0 p.2)
def mapTIE {α : Type} (c0 : Nat) (p : Except Res α × StI) : Except Res α × St := (p.1, TI c0 p.2)
@[simp] theorem mapTI_mk (c0 r s) : mapTI c0 (r, s) = (r, TI c0 s) := rfl
@[simp] theorem mapTIE_mk {α} (c0) (r : Except Res α) (s) : mapTIE c0 (r, s) = (r, TI c0 s) := rfl

def WithinL (Ld Lc Lr c0 : Nat) (s : StI) : Prop := s.maxH < Ld ∧ c0 + s.calls < Lc ∧ s.maxRec ≤ Lr

structure SimI (tco : Bool) (Ld Lc Lr c0 : Nat) (n : Nat) : Prop where
  eval : ∀ fr e tail s, WithinL Ld Lc Lr c0 (evalI n tco fr e tail s).2 →
    eval n (cfgL tco Ld Lc Lr) fr e tail (TI c0 s) = mapTI c0 (evalI n tco fr e tail s)
  callNamed : ∀ fr f args tail s, WithinL Ld Lc Lr c0 (callNamedI n tco fr f args tail s).2 →
    callNamed n (cfgL tco Ld Lc Lr) fr f args tail (TI c0 s) = mapTI c0 (callNamedI n tco fr f args tail s)
  builtin : ∀ fr f args tail s, WithinL Ld Lc Lr c0 (builtinI n tco fr f args tail s).2 →
    builtin n (cfgL tco Ld Lc Lr) fr f args tail (TI c0 s) = mapTI c0 (builtinI n tco fr f args tail s)
  callVal : ∀ fr c args tail s, WithinL Ld Lc Lr c0 (callValI n tco fr c args tail s).2 →
    callVal n (cfgL tco Ld Lc Lr) fr c args tail (TI c0 s) = mapTI c0 (callValI n tco fr c args tail s)
  evalList : ∀ fr es s, WithinL Ld Lc Lr c0 (evalListI n tco fr es s).2 →
    evalList n (cfgL tco Ld Lc Lr) fr es (TI c0 s) = mapTIE c0 (evalListI n tco fr es s)
  mkClos : ∀ fr f s, WithinL Ld Lc Lr c0 (mkClosI n tco fr f s).2 →
    mkClos n (cfgL tco Ld Lc Lr) fr f (TI c0 s) = mapTI c0 (mkClosI n tco fr f s)
  evalDflts : ∀ fr ps s, WithinL Ld Lc Lr c0 (evalDfltsI n tco fr ps s).2 →
    evalDflts n (cfgL tco Ld Lc Lr) fr ps (TI c0 s) = mapTIE c0 (evalDfltsI n tco fr ps s)
  callUser : ∀ h c args s, WithinL Ld Lc Lr c0 (callUserI n tco h c args s).2 →
    callUser n (cfgL tco Ld Lc Lr) h c args (TI c0 s) = mapTI c0 (callUserI n tco h c args s)
  tramp : ∀ h c args rec s, WithinL Ld Lc Lr c0 (trampI n tco h c args rec s).2 →
    tramp n (cfgL tco Ld Lc Lr) h c args rec (TI c0 s) = mapTI c0 (trampI n tco h c args rec s)
  evalDecls : ∀ fr ds s, WithinL Ld Lc Lr c0 (evalDeclsI n tco fr ds s).2 →
    evalDecls n (cfgL tco Ld Lc Lr) fr ds (TI c0 s) = mapTIE c0 (evalDeclsI n tco fr ds s)

section mono
variable {n : Nat} {tco : Bool}
theorem mI_callNamed {fr f args tail s r s'} (h : callNamedI n tco fr f args tail s = (r, s')) :
    s.calls ≤ s'.calls ∧ s.maxH ≤ s'.maxH ∧ s.maxRec ≤ s'.maxRec := by
  have := (monoAt tco n).callNamed fr f args tail s; rw [h] at this; exact this
theorem mI_builtin {fr f args tail s r s'} (h : builtinI n tco fr f args tail s = (r, s')) :
    s.calls ≤ s'.calls ∧ s.maxH ≤ s'.maxH ∧ s.maxRec ≤ s'.maxRec := by
  have := (monoAt tco n).builtin fr f args tail s; rw [h] at this; exact this
theorem mI_callVal {fr c args tail s r s'} (h : callValI n tco fr c args tail s = (r, s')) :
    s.calls ≤ s'.calls ∧ s.maxH ≤ s'.maxH ∧ s.maxRec ≤ s'.maxRec := by
  have := (monoAt tco n).callVal fr c args tail s; rw [h] at this; exact this
theorem mI_mkClos {fr f s r s'} (h : mkClosI n tco fr f s = (r, s')) :
    s.calls ≤ s'.calls ∧ s.maxH ≤ s'.maxH ∧ s.maxRec ≤ s'.maxRec := by
  have := (monoAt tco n).mkClos fr f s; rw [h] at this; exact this
theorem within_of_le {Ld Lc Lr c0 : Nat} {s s' : StI} (hle : StI.le s s') (h : WithinL Ld Lc Lr c0 s') :
    WithinL Ld Lc Lr c0 s := by
  unfold WithinL StI.le at *; omega
variable {Ld Lc Lr c0 : Nat}
theorem mW_callNamed {fr f args tail s} (h : WithinL Ld Lc Lr c0 (callNamedI n tco fr f args tail s).2) : WithinL Ld Lc Lr c0 s :=
  within_of_le ((monoAt tco n).callNamed fr f args tail s) h
theorem mW_builtin {fr f args tail s} (h : WithinL Ld Lc Lr c0 (builtinI n tco fr f args tail s).2) : WithinL Ld Lc Lr c0 s :=
  within_of_le ((monoAt tco n).builtin fr f args tail s) h
theorem mW_mkClos {fr f s} (h : WithinL Ld Lc Lr c0 (mkClosI n tco fr f s).2) : WithinL Ld Lc Lr c0 s :=
  within_of_le ((monoAt tco n).mkClos fr f s) h
end mono

theorem simI (tco Ld Lc Lr c0) (n : Nat) : SimI tco Ld Lc Lr c0 n :=
  have L := lock (cfgL tco Ld Lc Lr) c0 n
  have B {s : StI} (h : WithinL Ld Lc Lr c0 s) : Below (cfgL tco Ld Lc Lr) c0 s := ⟨.inr h.1, .inr h.2.1, h.2.2⟩
  ⟨fun fr e tail s h => (L.eval fr e tail s).sim (B h), fun fr f args tail s h => (L.callNamed fr f args tail s).sim (B h),
   fun fr f args tail s h => (L.builtin fr f args tail s).sim (B h), fun fr c args tail s h => (L.callVal fr c args tail s).sim (B h),
   fun fr es s h => (L.evalList fr es s).sim (B h), fun fr f s h => (L.mkClos fr f s).sim (B h),
   fun fr ps s h => (L.evalDflts fr ps s).sim (B h), fun hh c args s h => (L.callUser hh c args s).sim (B h),
   fun hh c args rec s h => (L.tramp hh c args rec s).sim (B h), fun fr ds s h => (L.evalDecls fr ds s).sim (B h)⟩

structure NoViolI (tco : Bool) (n : Nat) : Prop where
  eval : ∀ fr e tail s, Res.isViol (evalI n tco fr e tail s).1 = false
  callNamed : ∀ fr f args tail s, Res.isViol (callNamedI n tco fr f args tail s).1 = false
  builtin : ∀ fr f args tail s, Res.isViol (builtinI n tco fr f args tail s).1 = false
  callVal : ∀ fr c args tail s, Res.isViol (callValI n tco fr c args tail s).1 = false
  evalList : ∀ fr es s, exViol (evalListI n tco fr es s).1 = false
  mkClos : ∀ fr f s, Res.isViol (mkClosI n tco fr f s).1 = false
  evalDflts : ∀ fr ps s, exViol (evalDfltsI n tco fr ps s).1 = false
  callUser : ∀ h c args s, Res.isViol (callUserI n tco h c args s).1 = false
  tramp : ∀ h c args rec s, Res.isViol (trampI n tco h c args rec s).1 = false
  evalDecls : ∀ fr ds s, exViol (evalDeclsI n tco fr ds s).1 = false

theorem isViol_of_ne {x : Res × StI} (h : ∀ k s, x = (Res.viol k, s) → False) : Res.isViol x.1 = false := by
  obtain ⟨r, s⟩ := x
  cases r <;> simp_all

/-- not by a walk through `evalI` of its own: without limits the run is the instrumented run (`Lock`), and it
has no violation (`noViolAt`) -/
theorem noViolI (tco : Bool) (n : Nat) : NoViolI tco n :=
  have L := lock { tco := tco } 0 n
  have N := noViolAt { tco := tco } ⟨rfl, rfl, rfl⟩ n
  have B (s : StI) : Below { tco := tco } 0 s := ⟨.inr trivial, .inr trivial, trivial⟩
  have R {α} {viol : α → Bool} {q : α × StI} {p : α × St} {s} (d : Lockstep viol { tco := tco } 0 s q p)
      (h : viol p.1 = false) : viol q.1 = false := by rw [d.sim (B _)] at h; exact h
  ⟨fun fr e tail s => R (L.eval fr e tail s) (N.eval fr e tail _).1,
   fun fr f args tail s => R (L.callNamed fr f args tail s) (N.callNamed fr f args tail _).1,
   fun fr f args tail s => R (L.builtin fr f args tail s) (N.builtin fr f args tail _).1,
   fun fr c args tail s => R (L.callVal fr c args tail s) (N.callVal fr c args tail _).1,
   fun fr es s => R (L.evalList fr es s) (N.evalList fr es _).1,
   fun fr f s => R (L.mkClos fr f s) (N.mkClos fr f _).1,
   fun fr ps s => R (L.evalDflts fr ps s) (N.evalDflts fr ps _).1,
   fun h c args s => R (L.callUser h c args s) (N.callUser h c args _).1,
   fun h c args rec s => R (L.tramp h c args rec s) (N.tramp h c args rec _).1,
   fun fr ds s => R (L.evalDecls fr ds s) (N.evalDecls fr ds _).1⟩

def T (κ : Nat → Nat) (s : St) : St := { out := s.out, calls := κ s.calls }

@[simp] theorem T_out (κ s) : (T κ s).out = s.out := rfl
@[simp] theorem T_calls (κ s) : (T κ s).calls = κ s.calls := rfl
@[simp] theorem T_append (κ) (s : St) (line : String) :
    ({ T κ s with out := (T κ s).out ++ [line] } : St) = T κ { s with out := s.out ++ [line] } := rfl

@[simp] theorem T_mk (κ o c) : T κ { out := o, calls := c } = { out := o, calls := κ c } := rfl

def mapSt (κ : Nat → Nat) (p : Res × St) : Res × St := (p.1, T κ p.2)
def mapStE {α : Type} (κ : Nat → Nat) (p : Except Res α × St) : Except Res α × St := (p.1, T κ p.2)
@[simp] theorem mapSt_mk (κ r s) : mapSt κ (r, s) = (r, T κ s) := rfl
@[simp] theorem mapStE_mk {α} (κ) (r : Except Res α) (s) : mapStE κ (r, s) = (r, T κ s) := rfl

/-- Two runs, the state of the second a function `T κ` of the state of the first. No `κ` is shown to satisfy it
here: C08 compares two runs through `Lockstep.follow`, which needs no translation of the counter. -/
structure SimL (cfg cfg' : Cfg) (κ : Nat → Nat) (n : Nat) : Prop where
  eval : ∀ fr e tail st, Res.isViol (eval n cfg fr e tail st).1 = false →
    eval n cfg' fr e tail (T κ st) = mapSt κ (eval n cfg fr e tail st)
  callNamed : ∀ fr f args tail st, Res.isViol (callNamed n cfg fr f args tail st).1 = false →
    callNamed n cfg' fr f args tail (T κ st) = mapSt κ (callNamed n cfg fr f args tail st)
  builtin : ∀ fr f args tail st, Res.isViol (builtin n cfg fr f args tail st).1 = false →
    builtin n cfg' fr f args tail (T κ st) = mapSt κ (builtin n cfg fr f args tail st)
  callVal : ∀ fr c args tail st, Res.isViol (callVal n cfg fr c args tail st).1 = false →
    callVal n cfg' fr c args tail (T κ st) = mapSt κ (callVal n cfg fr c args tail st)
  evalList : ∀ fr es st, exViol (evalList n cfg fr es st).1 = false →
    evalList n cfg' fr es (T κ st) = mapStE κ (evalList n cfg fr es st)
  mkClos : ∀ fr f st, Res.isViol (mkClos n cfg fr f st).1 = false →
    mkClos n cfg' fr f (T κ st) = mapSt κ (mkClos n cfg fr f st)
  evalDflts : ∀ fr ps st, exViol (evalDflts n cfg fr ps st).1 = false →
    evalDflts n cfg' fr ps (T κ st) = mapStE κ (evalDflts n cfg fr ps st)
  callUser : ∀ h c args st, Res.isViol (callUser n cfg h c args st).1 = false →
    callUser n cfg' h c args (T κ st) = mapSt κ (callUser n cfg h c args st)
  tramp : ∀ h c args rec st, Res.isViol (tramp n cfg h c args rec st).1 = false →
    tramp n cfg' h c args rec (T κ st) = mapSt κ (tramp n cfg h c args rec st)
  evalDecls : ∀ fr ds st, exViol (evalDecls n cfg fr ds st).1 = false →
    evalDecls n cfg' fr ds (T κ st) = mapStE κ (evalDecls n cfg fr ds st)

def noLimits (cfg : Cfg) : Cfg := { cfg with depthLimit := none, callLimit := none, recLimit := none }

structure CfgLe (cfg cfg' : Cfg) : Prop where
  tco : cfg'.tco = cfg.tco
  depth : optLe cfg.depthLimit cfg'.depthLimit
  recur : optLe cfg.recLimit cfg'.recLimit
  call : optLe cfg.callLimit cfg'.callLimit

theorem cfgLe_noLimits (cfg : Cfg) : CfgLe cfg (noLimits cfg) := ⟨rfl, optLe_none _, optLe_none _, optLe_none _⟩

section whole_runs
variable {α : Type} {viol : α → Bool} {cfg cfg' : Cfg}

theorem below_start (cfg : Cfg) (c0 : Nat) (o : List String) : Below cfg c0 { out := o } :=
  ⟨.inl rfl, .inl rfl, optLeN_iff.mpr fun _ _ => Nat.zero_le _⟩

/-- a whole run `F` under `cfg` from `st` against the instrumented run `q` from the same output, all counters
zero: it is `q` if the counters of `q` pass every check, and a violation if they do not -/
theorem Lockstep.run {st : St} {F : St → α × St} {q : α × StI}
    (d : Lockstep viol cfg st.calls { out := st.out } q (F (TC cfg st.calls { out := st.out }))) :
    (Below cfg st.calls q.2 ∧ F st = (q.1, TC cfg st.calls q.2)) ∨ (¬ Below cfg st.calls q.2 ∧ viol (F st).1 = true) := by
  rw [TC_start] at d
  exact d.2 (below_start ..)

/-- counters that pass every check of `cfg`, the calls counted from `c0`, pass every check of a weaker `cfg'`
counting from `c0'`, if the call budget left at `c0'` is not the smaller one -/
theorem Below.weaken (hle : CfgLe cfg cfg') {c0 c0' : Nat}
    (hb : ∀ l l', cfg.callLimit = some l → cfg'.callLimit = some l' → c0' + l ≤ c0 + l') {s : StI}
    (h : Below cfg c0 s) : Below cfg' c0' s := by
  refine ⟨h.1.imp_right (optLt_weaker hle.depth), h.2.1.imp_right fun hc => ?_, optLeN_weaker hle.recur h.2.2⟩
  have hc' := hle.call
  cases hl' : cfg'.callLimit with
  | none => trivial
  | some l' =>
    cases hl : cfg.callLimit with
    | none => rw [hl, hl'] at hc'; exact hc'.elim
    | some l =>
      rw [hl] at hc
      have := hb l l' hl hl'
      show c0' + s.calls < l'
      have : c0 + s.calls < l := hc
      omega

/-- two runs against one instrumented run `q`: the first, ending in `(a, s)`, is not stopped, so the counters
of `q` pass the checks of `cfg`, hence (`W`) those of `cfg'`, and both runs are `q` -/
theorem Lockstep.follow {st st' : St} {F F' : St → α × St} {q : α × StI}
    (d : Lockstep viol cfg st.calls { out := st.out } q (F (TC cfg st.calls { out := st.out })))
    (d' : Lockstep viol cfg' st'.calls { out := st.out } q (F' (TC cfg' st'.calls { out := st.out })))
    (ho : st'.out = st.out) (W : Below cfg st.calls q.2 → Below cfg' st'.calls q.2)
    {a : α} {s : St} (h : F st = (a, s)) (hv : viol a = false) :
    F' st' = (a, { out := s.out, calls := (TC cfg' st'.calls q.2).calls }) := by
  rw [← ho] at d'
  rcases d.run with ⟨hb, e⟩ | ⟨_, v⟩
  · obtain ⟨rfl, rfl⟩ := Prod.mk.inj (h.symm.trans e)
    exact (d'.run.resolve_right fun hn => hn.1 (W hb)).2
  · rw [h, hv] at v; cases v
end whole_runs

end XrayModel.CoreLimitsSim
