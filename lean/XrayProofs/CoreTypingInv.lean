/-
C01: the invariants of the soundness proof (typing of frames, outcomes, the invariant `Inv n` of
the ten evaluator functions) and the lemmas about environments, lookups, the checker and parameter
binding that do not involve evaluation.
-/
import XrayProofs.CoreTyping
import XrayProofs.Closure
namespace XrayModel.CoreTyping
open XrayModel.Core

/-- the bindings a frame can see, nearest first: its cells, then the function it runs (recursion cell) -/
def _root_.XrayModel.Core.Frame.eff (fr : Frame) : List (String × Val) :=
  fr.env ++ (match fr.self with | some s => [s] | none => [])

def FrameTy (fr : Frame) (Γ : TyEnv) : Prop := EnvTy fr.eff Γ

def lastTy : TyEnv → Option (String × Ty)
  | [] => none
  | [a] => some a
  | _ :: b :: r => lastTy (b :: r)

def ArgsTy (vs : List Val) (req opt : List Ty) : Prop :=
  ∃ ats, HasTys vs ats ∧ checkArgs req opt ats = true

/-- a tail self-call handed back to the trampoline: the frame runs a function whose type is the
outermost entry of the context, and the new arguments fit it -/
def TailOk (Γ : TyEnv) (fr : Frame) (vs : List Val) : Prop :=
  ∃ n c req opt ret, fr.self = some (n, c) ∧ lastTy Γ = some (n, .fn req opt ret) ∧ ArgsTy vs req opt

def ResOk (Γ : TyEnv) (fr : Frame) (tail : Bool) (τ : Ty) : Res → Prop
  | .val v => HasTy v τ
  | .tail vs => tail = true ∧ TailOk Γ fr vs
  | .stuck _ => False
  | .viol _ => True
  | .oof => True

def ValOk (τ : Ty) : Res → Prop
  | .val v => HasTy v τ
  | .tail _ => False
  | .stuck _ => False
  | .viol _ => True
  | .oof => True

def ErrOk : Res → Prop
  | .val v => v.isErr = true
  | .tail _ => False
  | .stuck _ => False
  | .viol _ => True
  | .oof => True

def ListOk (ts : List Ty) : Except Res (List Val) → Prop
  | .ok vs => HasTys vs ts ∧ firstErr vs = none
  | .error r => ErrOk r

def DfltsOk (ts : List Ty) : Except Res (List Val) → Prop
  | .ok vs => HasTys vs ts
  | .error r => ErrOk r

def DeclsOk (fr : Frame) (Γ' : TyEnv) : Except Res Frame → Prop
  | .ok fr' => FrameTy fr' Γ' ∧ fr'.self = fr.self ∧ fr'.height = fr.height
  | .error r => ErrOk r

/- Of the outcome predicates `ErrOk` is the strongest, `ResOk` the weakest; on every outcome but `tail`
and an error-free value the three say the same. -/

theorem ValOk.resOk {Γ fr tail τ r} (h : ValOk τ r) : ResOk Γ fr tail τ r := by
  cases r with
  | tail _ => cases h
  | _ => exact h

theorem ResOk.valOk {Γ fr τ r} (h : ResOk Γ fr false τ r) : ValOk τ r := by
  cases r with
  | tail _ => cases h.1
  | _ => exact h

theorem ErrOk.valOk {τ r} (h : ErrOk r) : ValOk τ r := by
  cases r with
  | val v => cases v with
    | err m => exact .err m τ
    | _ => cases h
  | _ => exact h

theorem ErrOk.resOk {Γ fr tail τ r} (h : ErrOk r) : ResOk Γ fr tail τ r := h.valOk.resOk

theorem ValOk.mono {a b r} (hs : sub a b = true) (h : ValOk a r) : ValOk b r := by
  cases r with
  | val v => exact HasTy.mono _ _ hs h
  | _ => exact h

theorem ResOk.mono {Γ fr tail a b r} (hs : sub a b = true) (h : ResOk Γ fr tail a r) : ResOk Γ fr tail b r := by
  cases r with
  | val v => exact HasTy.mono _ _ hs h
  | _ => exact h

/-- what a sub-evaluation outside a tail position hands to its caller (`motive`: the caller's claim about the
rest of its body): a value of the type, or one of the two outcomes that end the run -/
@[elab_as_elim]
theorem ValOk.cases {τ : Ty} {motive : Res × St → Prop} {p : Res × St} (h : ValOk τ p.1)
    (val : ∀ v st', HasTy v τ → motive (.val v, st')) (viol : ∀ k st', motive (.viol k, st'))
    (oof : ∀ st', motive (.oof, st')) : motive p := by
  obtain ⟨r, st'⟩ := p
  cases r with
  | val v => exact val v st' h
  | tail _ | stuck _ => cases h
  | viol k => exact viol k st'
  | oof => exact oof st'

/-- a limit check in front of a step: the violation, or the step's outcome -/
theorem ValOk.ite {τ : Ty} {c : Prop} [Decidable c] {a b : Res × St} (ha : c → ValOk τ a.1) (hb : ¬c → ValOk τ b.1) :
    ValOk τ (if c then a else b).1 := by
  split
  · exact ha ‹_›
  · exact hb ‹_›

theorem DeclsOk.of_ext {fr fr1 : Frame} {Γ' : TyEnv} {r : Except Res Frame} (hs : fr1.self = fr.self) (hh : fr1.height = fr.height)
    (h : DeclsOk fr1 Γ' r) : DeclsOk fr Γ' r := by
  cases r with
  | ok fr' => exact ⟨h.1, h.2.1.trans hs, h.2.2.trans hh⟩
  | error x => exact h

theorem lookup_envTy {env : List (String × Val)} {Γ : TyEnv} (x : String) (h : EnvTy env Γ) :
    (lookup x env = none ∧ lookupTy x Γ = none) ∨
    (∃ v t, lookup x env = some v ∧ lookupTy x Γ = some t ∧ HasTy v t) := by
  induction env generalizing Γ with
  | nil => cases h; exact .inl ⟨rfl, rfl⟩
  | cons p env ih =>
    cases h with
    | @cons y v t _ Γ hv hr =>
      by_cases hxy : x = y
      · exact .inr ⟨v, t, if_pos hxy, if_pos hxy, hv⟩
      · have e1 : lookup x ((y, v) :: env) = lookup x env := if_neg hxy
        have e2 : lookupTy x ((y, t) :: Γ) = lookupTy x Γ := if_neg hxy
        rw [e1, e2]; exact ih hr

theorem EnvTy.lookup_none {env : List (String × Val)} {Γ : TyEnv} {x : String} (h : EnvTy env Γ)
    (hn : lookup x env = none) : lookupTy x Γ = none := by
  rcases lookup_envTy x h with ⟨_, h2⟩ | ⟨v, t, h1, _, _⟩
  · exact h2
  · rw [hn] at h1; cases h1

theorem lookupTy_append_none (x : String) (a b : TyEnv) (h : lookupTy x a = none) :
    lookupTy x (a ++ b) = lookupTy x b := by
  induction a with
  | nil => rfl
  | cons p a ih =>
    by_cases hxy : x = p.1
    · rw [show lookupTy x (p :: a) = some p.2 from if_pos hxy] at h; cases h
    · rw [show lookupTy x (p :: a) = lookupTy x a from if_neg hxy] at h
      exact (if_neg hxy).trans (ih h)

theorem lookupTy_last {f : String} {Γe : TyEnv} {σ : Ty} (h : lookupTy f Γe = none) :
    lookupTy f (Γe ++ [(f, σ)]) = some σ :=
  (lookupTy_append_none f _ _ h).trans (if_pos rfl)

theorem _root_.XrayModel.Core.Frame.get_eq (fr : Frame) (x : String) : fr.get x = lookup x fr.eff := by
  unfold Frame.get Frame.eff
  rw [lookup_append_or]
  cases lookup x fr.env with
  | some v => rfl
  | none =>
    cases fr.self with
    | none => rfl
    | some s =>
      show (if s.1 = x then some s.2 else none) = if x = s.1 then some s.2 else none
      by_cases hx : x = s.1
      · rw [if_pos hx, if_pos hx.symm]
      · rw [if_neg hx, if_neg (Ne.symm hx)]

theorem EnvTy.append {a : List (String × Val)} {Γa : TyEnv} {b : List (String × Val)} {Γb : TyEnv}
    (ha : EnvTy a Γa) (hb : EnvTy b Γb) : EnvTy (a ++ b) (Γa ++ Γb) := by
  induction a generalizing Γa with
  | nil => cases ha; exact hb
  | cons p a ih => cases ha with
    | cons hv hr => exact .cons hv (ih hr)

theorem EnvTy.snoc {a : List (String × Val)} {Γa : TyEnv} {x : String} {v : Val} {t : Ty}
    (ha : EnvTy a Γa) (hv : HasTy v t) : EnvTy (a ++ [(x, v)]) (Γa ++ [(x, t)]) :=
  ha.append (.cons hv .nil)

theorem EnvTy.split_last {env : List (String × Val)} {Γ : TyEnv} {n : String} {c : Val}
    (h : EnvTy (env ++ [(n, c)]) Γ) : ∃ Γe σ, Γ = Γe ++ [(n, σ)] ∧ EnvTy env Γe ∧ HasTy c σ := by
  induction env generalizing Γ with
  | nil => cases h with
    | cons hv hr => cases hr; exact ⟨[], _, rfl, .nil, hv⟩
  | cons p env ih => cases h with
    | cons hv hr =>
      obtain ⟨Γe, σ, rfl, he, hc⟩ := ih hr
      exact ⟨_ :: Γe, σ, rfl, .cons hv he, hc⟩

theorem FrameTy.self_none {fr : Frame} {Γ : TyEnv} (hs : fr.self = none) : FrameTy fr Γ ↔ EnvTy fr.env Γ := by
  unfold FrameTy Frame.eff
  rw [hs, List.append_nil]

theorem FrameTy.self_some {fr : Frame} {Γ : TyEnv} {s : String × Val} (hs : fr.self = some s) :
    FrameTy fr Γ ↔ EnvTy (fr.env ++ [s]) Γ := by
  unfold FrameTy Frame.eff
  rw [hs]

/-- the bindings a closure created in a typed frame captures (`mkClos`) -/
theorem FrameTy.captured {fr : Frame} {Γ : TyEnv} (h : FrameTy fr Γ) :
    EnvTy (match fr.self with | some s => fr.env ++ [s] | none => fr.env) Γ := by
  cases hs : fr.self with
  | none => exact (FrameTy.self_none hs).mp h
  | some s => exact (FrameTy.self_some hs).mp h

theorem lastTy_append_ne (Δ Γ : TyEnv) (h : Γ ≠ []) : lastTy (Δ ++ Γ) = lastTy Γ := by
  induction Δ with
  | nil => rfl
  | cons a Δ ih =>
    rw [← ih]
    show lastTy (a :: (Δ ++ Γ)) = _
    cases hΔ : Δ ++ Γ with
    | nil => exact absurd (List.append_eq_nil_iff.mp hΔ).2 h
    | cons b r => rfl

theorem lastTy_snoc (Γ : TyEnv) (x : String × Ty) : lastTy (Γ ++ [x]) = some x :=
  lastTy_append_ne Γ [x] (List.cons_ne_nil _ _)

theorem TailOk.argsTy {Γ : TyEnv} {fr : Frame} {vs : List Val} (h : TailOk Γ fr vs) {n : String}
    {req opt : List Ty} {ret : Ty} (hlast : lastTy Γ = some (n, .fn req opt ret)) : ArgsTy vs req opt := by
  obtain ⟨_, _, _, _, _, _, hl, hargs⟩ := h
  cases hl.symm.trans hlast
  exact hargs

theorem TailOk.self_ne_none {Γ : TyEnv} {fr : Frame} {vs : List Val} (h : TailOk Γ fr vs) : fr.self ≠ none := by
  obtain ⟨_, _, _, _, _, hs, _⟩ := h
  rw [hs]; exact Option.some_ne_none _

theorem checkList_cons {Γ : TyEnv} {e : TExpr} {es : List TExpr} {ts : List Ty} (h : checkList Γ (e :: es) = some ts) :
    ∃ t ts', ts = t :: ts' ∧ check Γ e = some t ∧ checkList Γ es = some ts' := by
  simp only [checkList] at h
  split at h
  · rename_i h1 h2
    cases h
    exact ⟨_, _, rfl, h1, h2⟩
  · cases h

theorem checkList_nil_inv {Γ : TyEnv} {es : List TExpr} (h : checkList Γ es = some []) : es = [] := by
  cases es with
  | nil => rfl
  | cons e es => obtain ⟨_, _, h, _⟩ := checkList_cons h; cases h

theorem checkList_cons_inv {Γ : TyEnv} {es : List TExpr} {t : Ty} {ts : List Ty} (h : checkList Γ es = some (t :: ts)) :
    ∃ e es', es = e :: es' ∧ check Γ e = some t ∧ checkList Γ es' = some ts := by
  cases es with
  | nil => cases h
  | cons e es =>
    obtain ⟨_, _, hts, h1, h2⟩ := checkList_cons h
    cases hts
    exact ⟨e, es, rfl, h1, h2⟩

theorem checkParams_req {Γ : TyEnv} {n : String} {t : Ty} {ps : List TParam} {req opt : List Ty}
    (h : checkParams Γ (.mk n t none :: ps) = some (req, opt)) :
    ∃ req', req = t :: req' ∧ checkParams Γ ps = some (req', opt) := by
  simp only [checkParams] at h
  split at h
  · rename_i hps
    cases h
    exact ⟨_, rfl, hps⟩
  · cases h

theorem checkParams_opt {Γ : TyEnv} {n : String} {t : Ty} {d : TExpr} {ps : List TParam} {req opt : List Ty}
    (h : checkParams Γ (.mk n t (some d) :: ps) = some (req, opt)) :
    ∃ dt opt', req = [] ∧ opt = t :: opt' ∧ check Γ d = some dt ∧ sub dt t = true ∧
      checkParams Γ ps = some ([], opt') := by
  simp only [checkParams] at h
  split at h
  · rename_i hd hps
    obtain ⟨hs, h⟩ := Option.ite_some_none_eq_some.mp h
    cases h
    exact ⟨_, _, rfl, rfl, hd, hs, hps⟩
  · cases h

theorem checkDecls_let {Γ Γ' : TyEnv} {x : String} {ann : Option Ty} {e : TExpr} {ds : List TDecl}
    (h : checkDecls Γ (.letD x ann e :: ds) = some Γ') :
    ∃ τ α, check Γ e = some τ ∧ sub τ α = true ∧ checkDecls ((x, α) :: Γ) ds = some Γ' := by
  simp only [checkDecls] at h
  split at h
  · cases h
  · rename_i τ he
    cases ann with
    | none => exact ⟨τ, τ, he, sub_refl τ, h⟩
    | some α =>
      obtain ⟨hs, h⟩ := Option.ite_none_right_eq_some.mp h
      exact ⟨τ, α, he, hs, h⟩

theorem checkDecls_fn {Γ Γ' : TyEnv} {name : Option String} {ps : List TParam} {ret : Option Ty} {dd : List TDecl}
    {body : TExpr} {ds : List TDecl} (h : checkDecls Γ (.fnD (.mk name ps ret dd body) :: ds) = some Γ') :
    ∃ n σ, name = some n ∧ checkFunc Γ (.mk name ps ret dd body) = some σ ∧ checkDecls ((n, σ) :: Γ) ds = some Γ' := by
  cases name with
  | none => cases h
  | some n =>
    simp only [checkDecls] at h
    split at h
    · rename_i σ hf
      exact ⟨n, σ, rfl, hf, h⟩
    · cases h

theorem checkDecls_suffix : ∀ (ds : List TDecl) (Γ Γ' : TyEnv), checkDecls Γ ds = some Γ' → ∃ Δ, Γ' = Δ ++ Γ := by
  intro ds
  induction ds with
  | nil => intro Γ Γ' h; cases h; exact ⟨[], rfl⟩
  | cons d ds ih =>
    intro Γ Γ' h
    -- every declaration that checks puts one entry in front of the context
    have ⟨b, hb⟩ : ∃ b, checkDecls (b :: Γ) ds = some Γ' := by
      cases d with
      | letD x ann e => obtain ⟨_, α, _, _, h⟩ := checkDecls_let h; exact ⟨_, h⟩
      | fnD f => obtain ⟨name, ps, ret, dd, body⟩ := f; obtain ⟨n, σ, _, _, h⟩ := checkDecls_fn h; exact ⟨_, h⟩
    obtain ⟨Δ, rfl⟩ := ih _ _ hb
    exact ⟨Δ ++ [b], (List.append_assoc Δ [b] Γ).symm⟩

theorem checkFunc_inv {Γ : TyEnv} {name : Option String} {ps : List TParam} {ret : Option Ty} {ds : List TDecl}
    {body : TExpr} {σ : Ty} (h : checkFunc Γ (.mk name ps ret ds body) = some σ) :
    ∃ req opt ρ, σ = .fn req opt ρ ∧ checkParams Γ ps = some (req, opt) ∧
      ∃ Γ' τ, checkDecls (paramEnv ps ++ Γ ++ (match name with | some n => [(n, Ty.fn req opt ρ)] | none => [])) ds = some Γ'
        ∧ check Γ' body = some τ ∧ sub τ ρ = true := by
  simp only [checkFunc] at h
  split at h
  · cases h
  · rename_i req opt hps
    split at h
    · -- named, declared result
      split at h
      · cases h
      · rename_i Γ' hds
        split at h
        · rename_i τ hb
          obtain ⟨hs, h⟩ := Option.ite_some_none_eq_some.mp h
          cases h
          exact ⟨req, opt, _, rfl, hps, Γ', τ, hds, hb, hs⟩
        · cases h
    · cases h
    · -- lambda with a declared result
      split at h
      · cases h
      · rename_i Γ' hds
        split at h
        · rename_i τ hb
          obtain ⟨hs, h⟩ := Option.ite_some_none_eq_some.mp h
          cases h
          exact ⟨req, opt, _, rfl, hps, Γ', τ, by rwa [List.append_nil], hb, hs⟩
        · cases h
    · -- lambda: the result type is the body's
      split at h
      · cases h
      · rename_i Γ' hds
        obtain ⟨τ, hb, h⟩ := Option.map_eq_some_iff.mp h
        cases h
        exact ⟨req, opt, τ, rfl, hps, Γ', τ, by rwa [List.append_nil], hb, sub_refl τ⟩

@[simp] theorem Param.name_mk (n : String) (d : Option Expr) : (Param.mk n d).name = n := rfl
@[simp] theorem Param.dflt_mk (n : String) (d : Option Expr) : (Param.mk n d).dflt = d := rfl

theorem checkArgs_nil_inv {req opt : List Ty} (h : checkArgs req opt [] = true) : req = [] := by
  cases req with
  | nil => rfl
  | cons r rs => cases h

theorem bindParams_ok : ∀ (ps : List TParam) (Γ : TyEnv) (req opt : List Ty) (args : List Val) (ats : List Ty) (dflts : List Val),
    checkParams Γ ps = some (req, opt) → HasTys args ats → checkArgs req opt ats = true → HasTys dflts opt →
    ∃ bs, bindParams (erasePs ps) args dflts = some bs ∧ EnvTy bs.reverse (paramEnv ps) := by
  intro ps
  induction ps with
  | nil =>
    intro Γ req opt args ats dflts hp ha hc hd
    cases hp
    cases ha with
    | nil => exact ⟨[], rfl, .nil⟩
    | cons _ _ => cases hc
  | cons p ps ih =>
    intro Γ req opt args ats dflts hp ha hc hd
    obtain ⟨n, t, d⟩ := p
    -- one more binding in front of those of the remaining parameters
    have bind {v : Val} {args' dflts' : List Val} {req' opt' ats'} (hv : HasTy v t)
        (hp' : checkParams Γ ps = some (req', opt')) (ha' : HasTys args' ats')
        (hc' : checkArgs req' opt' ats' = true) (hd' : HasTys dflts' opt') :
        ∃ bs, (bindParams (erasePs ps) args' dflts').map (fun r => (n, v) :: r) = some bs ∧
          EnvTy bs.reverse (paramEnv (.mk n t d :: ps)) := by
      obtain ⟨bs, hb, he⟩ := ih Γ req' opt' args' ats' dflts' hp' ha' hc' hd'
      exact ⟨(n, v) :: bs, by rw [hb]; rfl, by rw [List.reverse_cons]; exact he.snoc hv⟩
    cases d with
    | none =>
      obtain ⟨req', rfl, hps⟩ := checkParams_req hp
      cases ha with
      | nil => cases hc
      | cons hv hvs =>
        obtain ⟨hs, hc⟩ := Bool.and_eq_true_iff.mp hc
        exact bind (HasTy.mono _ _ hs hv) hps hvs hc hd
    | some d =>
      obtain ⟨dt, opt', rfl, rfl, _, _, hps⟩ := checkParams_opt hp
      cases hd with
      | cons hdv hdvs =>
        cases ha with
        | nil => exact bind hdv hps .nil (by cases opt' <;> rfl) hdvs
        | cons hv hvs =>
          obtain ⟨hs, hc⟩ := Bool.and_eq_true_iff.mp hc
          exact bind (HasTy.mono _ _ hs hv) hps hvs hc hdvs

structure Inv (n : Nat) : Prop where
  eval : ∀ cfg fr e tail st Γ τ, FrameTy fr Γ → check Γ e = some τ →
    ResOk Γ fr tail τ (eval n cfg fr (eraseE e) tail st).1
  callNamed : ∀ cfg fr f args tail st Γ τ, FrameTy fr Γ → check Γ (.call f args) = some τ →
    ResOk Γ fr tail τ (callNamed n cfg fr f (eraseEs args) tail st).1
  callVal : ∀ cfg fr c args tail st Γ req opt ret ats, FrameTy fr Γ → HasTy c (.fn req opt ret) →
    checkList Γ args = some ats → checkArgs req opt ats = true →
    ValOk ret (callVal n cfg fr c (eraseEs args) tail st).1
  evalList : ∀ cfg fr es st Γ ts, FrameTy fr Γ → checkList Γ es = some ts →
    ListOk ts (evalList n cfg fr (eraseEs es) st).1
  mkClos : ∀ cfg fr f st Γ σ, FrameTy fr Γ → checkFunc Γ f = some σ →
    ValOk σ (mkClos n cfg fr (eraseF f) st).1
  evalDflts : ∀ cfg fr ps st Γ req opt, FrameTy fr Γ → checkParams Γ ps = some (req, opt) →
    DfltsOk opt (evalDflts n cfg fr (erasePs ps) st).1
  callUser : ∀ cfg h f dflts env args st req opt ret, HasTy (.clos f dflts env) (.fn req opt ret) → ArgsTy args req opt →
    ValOk ret (callUser n cfg h (.clos f dflts env) args st).1
  tramp : ∀ cfg h f dflts env args rec st req opt ret, HasTy (.clos f dflts env) (.fn req opt ret) → ArgsTy args req opt →
    ValOk ret (tramp n cfg h (.clos f dflts env) args rec st).1
  evalDecls : ∀ cfg fr ds st Γ Γ', FrameTy fr Γ → checkDecls Γ ds = some Γ' →
    DeclsOk fr Γ' (evalDecls n cfg fr (eraseDs ds) st).1
  builtin : ∀ cfg fr f args tail st Γ ats τ, FrameTy fr Γ → checkList Γ args = some ats → builtinTy f ats = some τ →
    ResOk Γ fr tail τ (builtin n cfg fr f (eraseEs args) tail st).1

/-- without fuel every function answers `oof`, which every outcome predicate accepts -/
theorem inv_zero : Inv 0 := by
  constructor <;> intros <;> trivial

theorem Inv.evalV {n : Nat} (ih : Inv n) {fr : Frame} {Γ : TyEnv} {e : TExpr} {τ : Ty} (hfr : FrameTy fr Γ)
    (he : check Γ e = some τ) (cfg : Cfg) (st : St) : ValOk τ (Core.eval n cfg fr (eraseE e) false st).1 :=
  (ih.eval cfg fr e false st Γ τ hfr he).valOk

end XrayModel.CoreTyping
