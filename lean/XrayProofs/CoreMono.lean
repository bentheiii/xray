/-
Fuel monotonicity of the core evaluator (XrayModel/Core.lean): whatever `n` units of fuel answer, short of
"out of fuel", `m ≥ n` units answer too, for each of the ten mutually recursive functions (`FuelLe`; one
induction on the fuel in the shape of CoreShape.lean, where each combinator repeats its outcome when the
sub-evaluation it consumes does: `onVal_congr` …).  `MonoAt` is the step from `n` to `n + 1` in relational
form, and a finished answer does not depend on the fuel (`*_det`).  Also the case split of `builtin` on name
and arity (`builtin_shape`).
-/
import XrayProofs.Core
import XrayProofs.CoreSteps
namespace XrayModel.Core

structure MonoAt (n : Nat) : Prop where
  eval : ∀ {cfg fr e tail st r st'}, eval n cfg fr e tail st = (r, st') → r ≠ .oof → eval (n + 1) cfg fr e tail st = (r, st')
  callNamed : ∀ {cfg fr f args tail st r st'}, callNamed n cfg fr f args tail st = (r, st') → r ≠ .oof → callNamed (n + 1) cfg fr f args tail st = (r, st')
  callVal : ∀ {cfg fr c args tail st r st'}, callVal n cfg fr c args tail st = (r, st') → r ≠ .oof → callVal (n + 1) cfg fr c args tail st = (r, st')
  evalList : ∀ {cfg fr es st x st'}, evalList n cfg fr es st = (x, st') → x ≠ .error .oof → evalList (n + 1) cfg fr es st = (x, st')
  mkClos : ∀ {cfg fr f st r st'}, mkClos n cfg fr f st = (r, st') → r ≠ .oof → mkClos (n + 1) cfg fr f st = (r, st')
  evalDflts : ∀ {cfg fr ps st x st'}, evalDflts n cfg fr ps st = (x, st') → x ≠ .error .oof → evalDflts (n + 1) cfg fr ps st = (x, st')
  callUser : ∀ {cfg ht c args st r st'}, callUser n cfg ht c args st = (r, st') → r ≠ .oof → callUser (n + 1) cfg ht c args st = (r, st')
  tramp : ∀ {cfg ht c args rec st r st'}, tramp n cfg ht c args rec st = (r, st') → r ≠ .oof → tramp (n + 1) cfg ht c args rec st = (r, st')
  evalDecls : ∀ {cfg fr ds st x st'}, evalDecls n cfg fr ds st = (x, st') → x ≠ .error .oof → evalDecls (n + 1) cfg fr ds st = (x, st')
  builtin : ∀ {cfg fr f args tail st r st'}, builtin n cfg fr f args tail st = (r, st') → r ≠ .oof → builtin (n + 1) cfg fr f args tail st = (r, st')

-- for a walk over the raw definitions, as CoreXMono.lean does for the extended evaluator; `fuelLe_succ` below goes
-- through the combinators of CoreShape.lean instead
set_option hygiene false in
/-- name the outcome of a sub-evaluation; if it ran out of fuel so did the whole (contradiction),
otherwise replace the sub-evaluation with one more unit of fuel by the same outcome -/
macro "mono_sub " t:term " => " ihx:term : tactic => `(tactic|
  (rcases hs : $t with ⟨r1, s1⟩
   rw [hs] at h
   by_cases h1 : r1 = Res.oof
   · subst h1; simp_all
   rw [$ihx hs h1]))

set_option hygiene false in
macro "mono_subE " t:term " => " ihx:term : tactic => `(tactic|
  (rcases hs : $t with ⟨r1, s1⟩
   rw [hs] at h
   by_cases h1 : r1 = Except.error Res.oof
   · subst h1; simp_all
   rw [$ihx hs h1]))

/-- the generic arm of `builtin` -/
def strictCall (n : Nat) (cfg : Cfg) (fr : Frame) (f : String) (args : List Expr) (st : St) : Res × St :=
  if isStrictPrim f then
    match evalList n cfg fr args st with
    | (.ok vs, st') => (prim f vs, st')
    | (.error r, st') => (r, st')
  else (.stuck ("unknown function " ++ f), st)

theorem builtin_shape (f : String) (args : List Expr) :
    (∃ c a b, f = "if" ∧ args = [c, a, b]) ∨ (∃ a b, f = "and" ∧ args = [a, b]) ∨
    (∃ a b, f = "or" ∧ args = [a, b]) ∨ (∃ a b, f = "if_error" ∧ args = [a, b]) ∨
    (∃ a, f = "is_error" ∧ args = [a]) ∨ (∃ a, f = "display" ∧ args = [a]) ∨
    (∀ n cfg fr tail st, builtin (n + 1) cfg fr f args tail st = strictCall n cfg fr f args st) := by
  -- the six patterns are those of `lazySel`; where it answers `none`, `builtin_succ` is `strictCall`
  have hs : lazySel f args = none → ∀ n cfg fr tail st,
      builtin (n + 1) cfg fr f args tail st = strictCall n cfg fr f args st := by
    intro h n cfg fr tail st
    rw [builtin_succ, h, strictCall]
    dsimp only; split
    · rcases evalList n cfg fr args st with ⟨_ | _, _⟩ <;> rfl
    · rfl
  unfold lazySel at hs
  split at hs
  · exact .inl ⟨_, _, _, rfl, rfl⟩
  · exact .inr (.inl ⟨_, _, rfl, rfl⟩)
  · exact .inr (.inr (.inl ⟨_, _, rfl, rfl⟩))
  · exact .inr (.inr (.inr (.inl ⟨_, _, rfl, rfl⟩)))
  · exact .inr (.inr (.inr (.inr (.inl ⟨_, rfl, rfl⟩))))
  · exact .inr (.inr (.inr (.inr (.inr (.inl ⟨_, rfl, rfl⟩)))))
  · exact .inr (.inr (.inr (.inr (.inr (.inr (hs rfl))))))

theorem builtin_strict {f : String} (hf : isStrictPrim f = true) (n : Nat) (cfg : Cfg) (fr : Frame)
    (args : List Expr) (tail : Bool) (st : St) :
    builtin (n + 1) cfg fr f args tail st = strictCall n cfg fr f args st := by
  rcases builtin_shape f args with ⟨_, _, _, rfl, _⟩ | ⟨_, _, rfl, _⟩ | ⟨_, _, rfl, _⟩ | ⟨_, _, rfl, _⟩ |
    ⟨_, rfl, _⟩ | ⟨_, rfl, _⟩ | hd
  all_goals first
    | exact hd n cfg fr tail st
    | exact absurd hf (by decide)

def Res.isOof : Res → Bool
  | .oof => true
  | _ => false

@[simp] theorem Res.isOof_val (v) : (Res.val v).isOof = false := rfl
@[simp] theorem Res.isOof_viol (v) : (Res.viol v).isOof = false := rfl
@[simp] theorem Res.isOof_stuck (v) : (Res.stuck v).isOof = false := rfl
@[simp] theorem Res.isOof_tail (v) : (Res.tail v).isOof = false := rfl
@[simp] theorem Res.isOof_oof : Res.oof.isOof = true := rfl

def exOof {α : Type} : Except Res α → Bool
  | .ok _ => false
  | .error r => r.isOof

@[simp] theorem exOof_ok {α} (a : α) : exOof (Except.ok a : Except Res α) = false := rfl
@[simp] theorem exOof_error {α} (r : Res) : exOof (Except.error r : Except Res α) = r.isOof := rfl

theorem Res.isOof_of_ne {r : Res} (h : r ≠ .oof) : r.isOof = false := by
  cases r with
  | oof => exact absurd rfl h
  | _ => rfl

theorem exOof_of_ne {α} {x : Except Res α} (h : x ≠ .error .oof) : exOof x = false := by
  rcases x with r | _
  · exact Res.isOof_of_ne fun e => h (by rw [e])
  · rfl

theorem transfer {x y : Res × St} {r : Res} {st' : St} (hxy : x.1.isOof = false → y = x) (h : x = (r, st'))
    (hr : r ≠ .oof) : y = (r, st') := by
  rw [← h]; exact hxy (by rw [h]; exact Res.isOof_of_ne hr)

theorem transferE {α} {x y : Except Res α × St} {r st'} (hxy : exOof x.1 = false → y = x) (h : x = (r, st'))
    (hr : r ≠ .error .oof) : y = (r, st') := by
  rw [← h]; exact hxy (by rw [h]; exact exOof_of_ne hr)

/-- whatever `n` units of fuel answer, `m` units answer too -/
structure FuelLe (n m : Nat) (cfg : Cfg) : Prop where
  eval : ∀ fr e tail st, (eval n cfg fr e tail st).1.isOof = false → eval m cfg fr e tail st = eval n cfg fr e tail st
  callNamed : ∀ fr f args tail st, (callNamed n cfg fr f args tail st).1.isOof = false →
    callNamed m cfg fr f args tail st = callNamed n cfg fr f args tail st
  builtin : ∀ fr f args tail st, (builtin n cfg fr f args tail st).1.isOof = false →
    builtin m cfg fr f args tail st = builtin n cfg fr f args tail st
  callVal : ∀ fr c args tail st, (callVal n cfg fr c args tail st).1.isOof = false →
    callVal m cfg fr c args tail st = callVal n cfg fr c args tail st
  evalList : ∀ fr es st, exOof (evalList n cfg fr es st).1 = false →
    evalList m cfg fr es st = evalList n cfg fr es st
  mkClos : ∀ fr f st, (mkClos n cfg fr f st).1.isOof = false → mkClos m cfg fr f st = mkClos n cfg fr f st
  evalDflts : ∀ fr ps st, exOof (evalDflts n cfg fr ps st).1 = false →
    evalDflts m cfg fr ps st = evalDflts n cfg fr ps st
  callUser : ∀ h c args st, (callUser n cfg h c args st).1.isOof = false →
    callUser m cfg h c args st = callUser n cfg h c args st
  tramp : ∀ h c args rec st, (tramp n cfg h c args rec st).1.isOof = false →
    tramp m cfg h c args rec st = tramp n cfg h c args rec st
  evalDecls : ∀ fr ds st, exOof (evalDecls n cfg fr ds st).1 = false →
    evalDecls m cfg fr ds st = evalDecls n cfg fr ds st

theorem fuelLe_zero (cfg : Cfg) (m : Nat) : FuelLe 0 m cfg := by
  -- without fuel every function answers `oof`: the premise, the last hypothesis, is `true = false`
  constructor
  all_goals intros; rename_i h; cases h

theorem onVal_rel {R : Res × St → Res × St → Prop} {P : Res × St → Prop} (hR : ∀ y, R y y)
    (hP : ∀ s, ¬ P (.oof, s)) {x x' k k'} (hx : x.1.isOof = false → x' = x)
    (hk : ∀ v s, P (k v s) → R (k' v s) (k v s)) (h : P (onVal x k)) : R (onVal x' k') (onVal x k) := by
  obtain ⟨r, s⟩ := x
  cases r with
  | oof => exact (hP _ h).elim
  | val => rw [hx rfl]; exact hk _ _ h
  | _ => rw [hx rfl]; exact hR _

theorem onVal_congr {x x' : Res × St} {k k' : Val → St → Res × St}
    (hx : x.1.isOof = false → x' = x) (hk : ∀ v s, (k v s).1.isOof = false → k' v s = k v s)
    (h : (onVal x k).1.isOof = false) : onVal x' k' = onVal x k :=
  onVal_rel (P := fun y => y.1.isOof = false) (fun _ => rfl) (fun _ h => by cases h) hx hk h

theorem onValE_congr {α} {x x' : Res × St} {k k' : Val → St → Except Res α × St}
    (hx : x.1.isOof = false → x' = x) (hk : ∀ v s, exOof (k v s).1 = false → k' v s = k v s)
    (h : exOof (onValE x k).1 = false) : onValE x' k' = onValE x k := by
  obtain ⟨r, s⟩ := x
  cases r with
  | oof => cases h
  | val => rw [hx rfl]; exact hk _ _ h
  | _ => rw [hx rfl]; rfl

theorem onOk_congr {α} {x x' : Except Res α × St} {k k' : α → St → Res × St}
    (hx : exOof x.1 = false → x' = x) (hk : ∀ a s, (k a s).1.isOof = false → k' a s = k a s)
    (h : (onOk x k).1.isOof = false) : onOk x' k' = onOk x k := by
  obtain ⟨r, s⟩ := x
  cases r with
  | ok a => rw [hx rfl]; exact hk _ _ h
  | error r => rw [hx h]; rfl

theorem consOk_congr {v} {y y' : Except Res (List Val) × St} (hy : exOof y.1 = false → y' = y)
    (h : exOof (consOk v y).1 = false) : consOk v y' = consOk v y := by
  obtain ⟨r, s⟩ := y
  cases r with
  | ok a => rw [hy rfl]
  | error r => rw [hy h]

theorem onTail_congr {x x' : Res × St} {k k' : List Val → St → Res × St}
    (hx : x.1.isOof = false → x' = x) (hk : ∀ a s, (k a s).1.isOof = false → k' a s = k a s)
    (h : (onTail x k).1.isOof = false) : onTail x' k' = onTail x k := by
  obtain ⟨r, s⟩ := x
  cases r with
  | oof => cases h
  | tail => rw [hx rfl]; exact hk _ _ h
  | _ => rw [hx rfl]; rfl

theorem fuelLe_succ {cfg : Cfg} {n m : Nat} (ih : FuelLe n m cfg) : FuelLe (n + 1) (m + 1) cfg where
  eval fr e tail st := by
    cases e
    case tup es | arr es =>
      simp only [eval_tup, eval_arr]; exact onOk_congr (ih.evalList _ _ _) fun _ _ _ => rfl
    case item e i => simp only [eval_item]; exact onVal_congr (ih.eval _ _ _ _) fun _ _ _ => rfl
    case lam f => exact ih.mkClos _ _ _
    case callE fe args =>
      simp only [eval_callE]
      refine onVal_congr (ih.eval _ _ _ _) fun c s => ?_
      split
      · exact fun _ => rfl
      · exact ih.callVal _ _ _ _ _
    case call f args =>
      simp only [eval_call]
      cases fr.selfCall f with
      | none => exact ih.callNamed _ _ _ _ _
      | some c =>
        dsimp only; split
        · exact onOk_congr (ih.evalList _ _ _) fun _ _ _ => rfl
        · exact ih.callVal _ _ _ _ _
    all_goals exact fun _ => rfl
  callNamed fr f args tail st := by
    simp only [callNamed]
    cases fr.get f with
    | none => exact ih.builtin _ _ _ _ _
    | some c => exact ih.callVal _ _ _ _ _
  builtin fr f args tail st := by
    simp only [builtin_succ]
    rcases lazySel f args with _ | ⟨a, sel⟩
    · dsimp only; split
      · exact onOk_congr (ih.evalList _ _ _) fun _ _ _ => rfl
      · exact fun _ => rfl
    · refine onVal_congr (ih.eval _ _ _ _) fun v s => ?_
      cases sel v s with
      | inl r => exact fun _ => rfl
      | inr b => exact ih.eval _ _ _ _
  callVal fr c args tail st := by
    cases c
    case clos f d env =>
      simp only [callVal_clos]
      exact onOk_congr (ih.evalList _ _ _) fun _ _ => ih.callUser _ _ _ _
    all_goals exact fun _ => rfl
  evalList fr es st := by
    cases es with
    | nil => exact fun _ => rfl
    | cons e rest =>
      simp only [evalList_cons]
      refine onValE_congr (ih.eval _ _ _ _) fun v s => ?_
      split
      · exact fun _ => rfl
      · exact consOk_congr (ih.evalList _ _ _)
  mkClos fr f st := by
    simp only [mkClos_succ]
    exact onOk_congr (ih.evalDflts _ _ _) fun _ _ _ => rfl
  evalDflts fr ps st := by
    cases ps with
    | nil => exact fun _ => rfl
    | cons p rest =>
      simp only [evalDflts_cons]
      cases p.dflt with
      | none => exact ih.evalDflts _ _ _
      | some d => exact onValE_congr (ih.eval _ _ _ _) fun v s => consOk_congr (ih.evalDflts _ _ _)
  callUser hh c args st := by
    simp only [callUser_succ]
    split
    · exact fun _ => rfl
    · split
      · split
        · exact fun _ => rfl
        · exact ih.tramp _ _ _ _ _
      · exact ih.tramp _ _ _ _ _
  tramp hh c args rec st := by
    cases c
    case clos f d env =>
      simp only [tramp_succ]
      cases cfg.tooDeep (hh + 1) with
      | true => exact fun _ => rfl
      | false =>
        cases bindParams f.params args d with
        | none => exact fun _ => rfl
        | some ps =>
          refine onOk_congr (ih.evalDecls _ _ _) fun fr' s => onTail_congr (ih.eval _ _ _ _) fun a s' => ?_
          cases cfg.recOver (rec + 1) with
          | true => exact fun _ => rfl
          | false => exact ih.tramp _ _ _ _ _
    all_goals exact fun _ => rfl
  evalDecls fr ds st := by
    rcases ds with _ | ⟨_ | _, rest⟩
    · exact fun _ => rfl
    · simp only [evalDecls_letD]
      exact onValE_congr (ih.eval _ _ _ _) fun v s => ih.evalDecls _ _ _
    · simp only [evalDecls_fnD]
      refine onValE_congr (ih.mkClos _ _ _) fun c s => ?_
      split
      · exact ih.evalDecls _ _ _
      · exact fun _ => rfl

theorem fuelLe {cfg : Cfg} {n m : Nat} (h : n ≤ m) : FuelLe n m cfg := by
  induction n generalizing m with
  | zero => exact fuelLe_zero cfg m
  | succ n ih =>
    cases m with
    | zero => omega
    | succ m => exact fuelLe_succ (ih (by omega))

theorem monoAt (n : Nat) : MonoAt n :=
  have H : ∀ cfg, FuelLe n (n + 1) cfg := fun _ => fuelLe (Nat.le_succ n)
  { eval := transfer ((H _).eval _ _ _ _)
    callNamed := transfer ((H _).callNamed _ _ _ _ _)
    callVal := transfer ((H _).callVal _ _ _ _ _)
    evalList := transferE ((H _).evalList _ _ _)
    mkClos := transfer ((H _).mkClos _ _ _)
    evalDflts := transferE ((H _).evalDflts _ _ _)
    callUser := transfer ((H _).callUser _ _ _ _)
    tramp := transfer ((H _).tramp _ _ _ _ _)
    evalDecls := transferE ((H _).evalDecls _ _ _)
    builtin := transfer ((H _).builtin _ _ _ _ _) }

theorem eval_mono {n m : Nat} (hle : n ≤ m) {cfg fr e tail st r st'}
    (h : eval n cfg fr e tail st = (r, st')) (hne : r ≠ Res.oof) : eval m cfg fr e tail st = (r, st') :=
  transfer ((fuelLe hle).eval _ _ _ _) h hne

theorem builtin_mono {n m : Nat} (hle : n ≤ m) {cfg fr f args tail st r st'}
    (h : builtin n cfg fr f args tail st = (r, st')) (hne : r ≠ Res.oof) : builtin m cfg fr f args tail st = (r, st') :=
  transfer ((fuelLe hle).builtin _ _ _ _ _) h hne

theorem eval_det {n m : Nat} {cfg fr e tail st r1 r2 s1 s2}
    (h1 : eval n cfg fr e tail st = (r1, s1)) (h2 : eval m cfg fr e tail st = (r2, s2))
    (hn1 : r1 ≠ Res.oof) (hn2 : r2 ≠ Res.oof) : r1 = r2 ∧ s1 = s2 :=
  fuel_det (f := fun n => eval n cfg fr e tail st) (fun n _ _ => (monoAt n).eval) h1 h2 hn1 hn2

theorem callNamed_det {n m : Nat} {cfg fr f args tail st r1 r2 s1 s2}
    (h1 : callNamed n cfg fr f args tail st = (r1, s1)) (h2 : callNamed m cfg fr f args tail st = (r2, s2))
    (hn1 : r1 ≠ Res.oof) (hn2 : r2 ≠ Res.oof) : r1 = r2 ∧ s1 = s2 :=
  fuel_det (f := fun n => callNamed n cfg fr f args tail st) (fun n _ _ => (monoAt n).callNamed) h1 h2 hn1 hn2

theorem callVal_det {n m : Nat} {cfg fr c args tail st r1 r2 s1 s2}
    (h1 : callVal n cfg fr c args tail st = (r1, s1)) (h2 : callVal m cfg fr c args tail st = (r2, s2))
    (hn1 : r1 ≠ Res.oof) (hn2 : r2 ≠ Res.oof) : r1 = r2 ∧ s1 = s2 :=
  fuel_det (f := fun n => callVal n cfg fr c args tail st) (fun n _ _ => (monoAt n).callVal) h1 h2 hn1 hn2

theorem evalList_det {n m : Nat} {cfg fr es st x1 x2 s1 s2}
    (h1 : evalList n cfg fr es st = (x1, s1)) (h2 : evalList m cfg fr es st = (x2, s2))
    (hn1 : x1 ≠ Except.error Res.oof) (hn2 : x2 ≠ Except.error Res.oof) : x1 = x2 ∧ s1 = s2 :=
  fuel_det (f := fun n => evalList n cfg fr es st) (fun n _ _ => (monoAt n).evalList) h1 h2 hn1 hn2

theorem mkClos_det {n m : Nat} {cfg fr f st r1 r2 s1 s2}
    (h1 : mkClos n cfg fr f st = (r1, s1)) (h2 : mkClos m cfg fr f st = (r2, s2))
    (hn1 : r1 ≠ Res.oof) (hn2 : r2 ≠ Res.oof) : r1 = r2 ∧ s1 = s2 :=
  fuel_det (f := fun n => mkClos n cfg fr f st) (fun n _ _ => (monoAt n).mkClos) h1 h2 hn1 hn2

theorem evalDflts_det {n m : Nat} {cfg fr ps st x1 x2 s1 s2}
    (h1 : evalDflts n cfg fr ps st = (x1, s1)) (h2 : evalDflts m cfg fr ps st = (x2, s2))
    (hn1 : x1 ≠ Except.error Res.oof) (hn2 : x2 ≠ Except.error Res.oof) : x1 = x2 ∧ s1 = s2 :=
  fuel_det (f := fun n => evalDflts n cfg fr ps st) (fun n _ _ => (monoAt n).evalDflts) h1 h2 hn1 hn2

theorem callUser_det {n m : Nat} {cfg ht c args st r1 r2 s1 s2}
    (h1 : callUser n cfg ht c args st = (r1, s1)) (h2 : callUser m cfg ht c args st = (r2, s2))
    (hn1 : r1 ≠ Res.oof) (hn2 : r2 ≠ Res.oof) : r1 = r2 ∧ s1 = s2 :=
  fuel_det (f := fun n => callUser n cfg ht c args st) (fun n _ _ => (monoAt n).callUser) h1 h2 hn1 hn2

theorem tramp_det {n m : Nat} {cfg ht c args rec st r1 r2 s1 s2}
    (h1 : tramp n cfg ht c args rec st = (r1, s1)) (h2 : tramp m cfg ht c args rec st = (r2, s2))
    (hn1 : r1 ≠ Res.oof) (hn2 : r2 ≠ Res.oof) : r1 = r2 ∧ s1 = s2 :=
  fuel_det (f := fun n => tramp n cfg ht c args rec st) (fun n _ _ => (monoAt n).tramp) h1 h2 hn1 hn2

theorem evalDecls_det {n m : Nat} {cfg fr ds st x1 x2 s1 s2}
    (h1 : evalDecls n cfg fr ds st = (x1, s1)) (h2 : evalDecls m cfg fr ds st = (x2, s2))
    (hn1 : x1 ≠ Except.error Res.oof) (hn2 : x2 ≠ Except.error Res.oof) : x1 = x2 ∧ s1 = s2 :=
  fuel_det (f := fun n => evalDecls n cfg fr ds st) (fun n _ _ => (monoAt n).evalDecls) h1 h2 hn1 hn2

theorem builtin_det {n m : Nat} {cfg fr f args tail st r1 r2 s1 s2}
    (h1 : builtin n cfg fr f args tail st = (r1, s1)) (h2 : builtin m cfg fr f args tail st = (r2, s2))
    (hn1 : r1 ≠ Res.oof) (hn2 : r2 ≠ Res.oof) : r1 = r2 ∧ s1 = s2 :=
  fuel_det (f := fun n => builtin n cfg fr f args tail st) (fun n _ _ => (monoAt n).builtin) h1 h2 hn1 hn2

end XrayModel.Core
