/-
Helper definitions and lemmas for C04 (and, through Overload.lean, C05): the documented assignability relation
`Sub` (declarative, written from the book and the property text), the fragment of declarable types, arity
well-formedness, and the lemmas that relate the model to them: `bindIn` / `mix` (sound, complete, empty binding
exactly on `Sub`), `commonType` (`CommonView`: an upper bound, the least one, symmetric), `subst` and
`resolveBind` on bindings ordered by `ble`.
-/
import XrayModel.Types
namespace XrayModel

mutual
/-- `Sub s r`: a value of static type `s` may be used where `r` is required, with nothing left to bind:
identical types; the bottom type into anything; tuples, natives and compounds component- and name-wise;
function types by exact arity and component types (a function with optional parameters at every arity of
its window). Generic parameters are opaque here. -/
inductive Sub : Ty → Ty → Prop
  | bot (t : Ty) : Sub .unknown t
  | bool : Sub .bool .bool
  | int : Sub .int .int
  | float : Sub .float .float
  | str : Sub .str .str
  | generic (a : String) : Sub (.generic a) (.generic a)
  | tuple {ss rs : List Ty} : SubList ss rs → Sub (.tuple ss) (.tuple rs)
  | native {n : String} {ss rs : List Ty} : SubList ss rs → Sub (.native n ss) (.native n rs)
  | compound {k : Kind} {n : String} {ss rs : List Ty} : SubList ss rs → Sub (.compound k n ss) (.compound k n rs)
  | callable {ps' ps : List Ty} {r' r : Ty} : SubList ps' ps → Sub r' r → Sub (.callable ps' r') (.callable ps r)
  | func {g : Option (List String)} {ps' ps : List Ty} {n' : Nat} {r' r : Ty} :
      n' ≤ ps.length → ps.length ≤ ps'.length → SubList (ps'.take ps.length) ps → Sub r' r →
      Sub (.func g ps' n' r') (.callable ps r)
inductive SubList : List Ty → List Ty → Prop
  | nil : SubList [] []
  | cons {s r : Ty} {ss rs : List Ty} : Sub s r → SubList ss rs → SubList (s :: ss) (r :: rs)
end

mutual
/-- types that can be written in a program: no `unknown`, no `XFunc` -/
def declarable : Ty → Bool
  | .unknown => false
  | .func _ _ _ _ => false
  | .tuple ts => declarableList ts
  | .native _ ts => declarableList ts
  | .compound _ _ ts => declarableList ts
  | .callable ps r => declarableList ps && declarable r
  | _ => true
def declarableList : List Ty → Bool
  | [] => true
  | t :: ts => declarable t && declarableList ts
end

mutual
/-- every native / compound name is used with the number of type arguments `ar` gives it
(`GenericParamCountMismatch` enforces this for written types, inference preserves it) -/
def wfTy (ar : String → Nat) : Ty → Bool
  | .tuple ts => wfList ar ts
  | .native n ts => ts.length == ar n && wfList ar ts
  | .compound _ n ts => ts.length == ar n && wfList ar ts
  | .callable ps r => wfList ar ps && wfTy ar r
  | .func _ ps n r => wfList ar ps && wfTy ar r && n ≤ ps.length
  | _ => true
def wfList (ar : String → Nat) : List Ty → Bool
  | [] => true
  | t :: ts => wfTy ar t && wfList ar ts
end

/-- induction over `Ty` and the lists of its components together (`Ty.rec` for propositions).  A theorem
`foo_all` below is such a conjunction — the fact on types and the fact on lists of types, the latter itself a pair
where the model has two list loops (`bindZip`, `bindZipRev`) — and `foo`, `fooList`/`fooZip` are its parts. -/
theorem Ty.ind {P : Ty → Prop} {Q : List Ty → Prop} (bool : P .bool) (int : P .int) (float : P .float) (str : P .str)
    (unknown : P .unknown) (generic : ∀ a, P (.generic a)) (tuple : ∀ ts, Q ts → P (.tuple ts))
    (native : ∀ n ts, Q ts → P (.native n ts)) (compound : ∀ k n ts, Q ts → P (.compound k n ts))
    (callable : ∀ ps r, Q ps → P r → P (.callable ps r)) (func : ∀ g ps n r, Q ps → P r → P (.func g ps n r))
    (nil : Q []) (cons : ∀ t ts, P t → Q ts → Q (t :: ts)) : (∀ t, P t) ∧ ∀ ts, Q ts :=
  ⟨fun t => Ty.rec bool int float str unknown generic tuple native compound callable func nil cons t,
    fun ts => Ty.rec_1 bool int float str unknown generic tuple native compound callable func nil cons ts⟩

theorem SubList.length_eq {ss rs : List Ty} (h : SubList ss rs) : ss.length = rs.length := by
  induction ss generalizing rs with
  | nil => cases h; rfl
  | cons s ss ih => cases h with | cons h1 h2 => simp [ih h2]

/-- the arity condition of a named type (`wfTy ar (.native n ts)` and `wfTy ar (.compound k n ts)` unfold to `h`) -/
theorem wf_named {ar : String → Nat} {n : String} {ts : List Ty} (h : (ts.length == ar n && wfList ar ts) = true) :
    ts.length = ar n ∧ wfList ar ts = true :=
  (Bool.and_eq_true_iff.mp h).imp_left beq_iff_eq.mp

theorem get_insert (b : Bnd) (k k2 : String) (v : Ty) :
    (b.insert k v).get k2 = if k = k2 then some v else b.get k2 := by
  induction b with
  | nil => rfl
  | cons e rest ih =>
    obtain ⟨k', v'⟩ := e
    simp only [Bnd.insert]
    split
    · rename_i h; subst h; simp only [Bnd.get]; split <;> rfl
    · rename_i h; simp only [Bnd.get, ih]; split
      · rename_i h2; subst h2; rw [if_neg (Ne.symm h)]
      · rfl

theorem get_eq_none {b : Bnd} {k : String} (h : k ∉ b.map Prod.fst) : b.get k = none := by
  induction b with
  | nil => rfl
  | cons e rest ih =>
    obtain ⟨k', v⟩ := e
    rw [List.map_cons, List.mem_cons, not_or] at h
    simp only [Bnd.get, if_neg (Ne.symm h.1), ih h.2]

theorem insert_ne_nil (b : Bnd) (k : String) (v : Ty) : b.insert k v ≠ [] := by
  cases b with
  | nil => simp [Bnd.insert]
  | cons e rest => simp only [Bnd.insert]; split <;> simp

def joinAt (x y : Option Ty) : Option (Option Ty) :=
  match x, y with
  | some a, some b => (commonType a b).map some
  | some a, none => some (some a)
  | none, some b => some (some b)
  | none, none => some none

theorem mix_cons (self : Bnd) (k : String) (v : Ty) (rest : Bnd) :
    mix self ((k, v) :: rest) =
      (match self.get k with
        | some ex => commonType ex v
        | none => some v).bind fun c => mix (self.insert k c) rest := by
  rw [mix]
  cases self.get k with
  | none => rfl
  | some ex => simp only []; cases commonType ex v <;> rfl

theorem mix_nil_iff (self other : Bnd) : mix self other = some [] ↔ self = [] ∧ other = [] := by
  induction other generalizing self with
  | nil => simp [mix]
  | cons e rest ih => obtain ⟨k, v⟩ := e; simp [mix_cons, Option.bind_eq_some_iff, ih, insert_ne_nil]

theorem bindIn_unknown (r : Ty) : bindIn r .unknown = some [] := by cases r <;> rfl

def atom : Ty → Bool
  | .bool | .int | .float | .str => true
  | _ => false

theorem bindIn_atom {r : Ty} (hr : atom r = true) (s : Ty) (b : Bnd) : bindIn r s = some b ↔ Sub s r ∧ b = [] := by
  constructor
  -- a finite table: the four atoms against the eleven shapes of `s`
  · intro h; cases r <;> cases hr <;> cases s <;> cases h <;> exact ⟨by constructor, rfl⟩
  · rintro ⟨h, rfl⟩; cases h <;> first | rfl | exact bindIn_unknown _ | cases hr

theorem bindIn_generic (a : String) (s : Ty) : bindIn (.generic a) s =
    match s with
    | .unknown => some []
    | .generic b => if a == b then some [] else some [(a, .generic b)]
    | s => some [(a, s)] := by
  cases s <;> rfl

theorem bindZip_cons (r s : Ty) (rs ss : List Ty) (acc : Bnd) : bindZip (r :: rs) (s :: ss) acc =
    (bindIn r s).bind fun sub => (mix acc sub).bind fun acc' => bindZip rs ss acc' := by
  rw [bindZip]
  cases bindIn r s with
  | none => rfl
  | some sub => simp only [Option.bind_some]; cases mix acc sub <;> rfl

theorem bindZipRev_cons (r s : Ty) (rs ss : List Ty) : bindZipRev (r :: rs) (s :: ss) =
    (bindZipRev rs ss).bind fun acc => (bindIn r s).bind fun sub => mix acc sub := by
  rw [bindZipRev]
  cases bindZipRev rs ss with
  | none => rfl
  | some acc => simp only [Option.bind_some]; cases bindIn r s <;> rfl

theorem bindIn_tuple (rs : List Ty) (s : Ty) : bindIn (.tuple rs) s =
    match s with
    | .unknown => some []
    | .tuple ss => if rs.length != ss.length then none else bindZip rs ss []
    | _ => none := by
  cases s <;> rfl
theorem bindIn_native (n : String) (rs : List Ty) (s : Ty) : bindIn (.native n rs) s =
    match s with
    | .unknown => some []
    | .native m ss => if n != m then none else bindZip rs ss []
    | _ => none := by
  cases s <;> rfl
theorem bindIn_compound (k : Kind) (n : String) (rs : List Ty) (s : Ty) : bindIn (.compound k n rs) s =
    match s with
    | .unknown => some []
    | .compound k' m ss => if n != m || k != k' then none else bindZipRev rs ss
    | _ => none := by
  cases s <;> rfl
theorem bindIn_callable (ps : List Ty) (r s : Ty) : bindIn (.callable ps r) s =
    match s with
    | .unknown => some []
    | .callable ps' r' => if ps.length != ps'.length then none else
        match bindZip ps ps' [] with
        | none => none
        | some acc => match bindIn r r' with
          | none => none
          | some b => mix acc b
    | .func _ ps' n' r' => if ps.length < n' || ps.length > ps'.length then none else
        match bindZip ps ps' [] with
        | none => none
        | some acc => match bindIn r r' with
          | none => none
          | some b => mix acc b
    | _ => none := by
  cases s <;> rfl

/-- the function-type arms of `bindIn` (callable/callable, func/func, callable/func) end with the same two steps -/
theorem tail_some {z o : Option Bnd} {res : Bnd}
    (h : (match z with
      | none => none
      | some acc => match o with
        | none => none
        | some b => mix acc b) = some res) : ∃ acc b, z = some acc ∧ o = some b ∧ mix acc b = some res := by
  cases z with
  | none => cases h
  | some acc => cases o with
    | none => cases h
    | some b => exact ⟨acc, b, rfl, rfl, h⟩

theorem tail_nil_iff (z : Option Bnd) (o : Option Bnd) :
    (match z with
      | none => none
      | some acc => match o with
        | none => none
        | some b => mix acc b) = some [] ↔ z = some [] ∧ o = some [] := by
  cases z with
  | none => simp
  | some acc =>
    cases o with
    | none => simp
    | some b => simp [mix_nil_iff]

theorem sub_unknown_iff (s : Ty) : Sub s .unknown ↔ s = .unknown :=
  ⟨fun h => by cases h; rfl, fun h => h ▸ .bot _⟩
theorem sub_func_iff (s : Ty) (g : Option (List String)) (ps : List Ty) (n : Nat) (r : Ty) :
    Sub s (.func g ps n r) ↔ s = .unknown :=
  ⟨fun h => by cases h; rfl, fun h => h ▸ .bot _⟩
theorem sub_generic_iff (s : Ty) (a : String) : Sub s (.generic a) ↔ s = .unknown ∨ s = .generic a :=
  ⟨fun h => by cases h <;> simp, by rintro (rfl | rfl) <;> constructor⟩
theorem sub_tuple_iff (s : Ty) (rs : List Ty) :
    Sub s (.tuple rs) ↔ s = .unknown ∨ ∃ ss, s = .tuple ss ∧ SubList ss rs := by
  constructor
  · intro h; cases h with
    | bot => exact .inl rfl
    | tuple h => exact .inr ⟨_, rfl, h⟩
  · rintro (rfl | ⟨ss, rfl, h⟩)
    · exact .bot _
    · exact .tuple h
theorem sub_native_iff (s : Ty) (n : String) (rs : List Ty) :
    Sub s (.native n rs) ↔ s = .unknown ∨ ∃ ss, s = .native n ss ∧ SubList ss rs := by
  constructor
  · intro h; cases h with
    | bot => exact .inl rfl
    | native h => exact .inr ⟨_, rfl, h⟩
  · rintro (rfl | ⟨ss, rfl, h⟩)
    · exact .bot _
    · exact .native h
theorem sub_compound_iff (s : Ty) (k : Kind) (n : String) (rs : List Ty) :
    Sub s (.compound k n rs) ↔ s = .unknown ∨ ∃ ss, s = .compound k n ss ∧ SubList ss rs := by
  constructor
  · intro h; cases h with
    | bot => exact .inl rfl
    | compound h => exact .inr ⟨_, rfl, h⟩
  · rintro (rfl | ⟨ss, rfl, h⟩)
    · exact .bot _
    · exact .compound h
theorem sub_callable_iff (s : Ty) (ps : List Ty) (r : Ty) :
    Sub s (.callable ps r) ↔ s = .unknown ∨ (∃ ps' r', s = .callable ps' r' ∧ SubList ps' ps ∧ Sub r' r) ∨
      (∃ g ps' n' r', s = .func g ps' n' r' ∧ n' ≤ ps.length ∧ ps.length ≤ ps'.length ∧
        SubList (ps'.take ps.length) ps ∧ Sub r' r) := by
  constructor
  · intro h; cases h with
    | bot => exact .inl rfl
    | callable h1 h2 => exact .inr (.inl ⟨_, _, rfl, h1, h2⟩)
    | func h1 h2 h3 h4 => exact .inr (.inr ⟨_, _, _, _, rfl, h1, h2, h3, h4⟩)
  · rintro (rfl | ⟨ps', r', rfl, h1, h2⟩ | ⟨g, ps', n', r', rfl, h1, h2, h3, h4⟩)
    · exact .bot _
    · exact .callable h1 h2
    · exact .func h1 h2 h3 h4

theorem sub_tuple_tuple (ss rs : List Ty) : Sub (.tuple ss) (.tuple rs) ↔ SubList ss rs :=
  ⟨fun h => by cases h with | tuple h => exact h, .tuple⟩
theorem sub_native_native (n m : String) (ss rs : List Ty) :
    Sub (.native m ss) (.native n rs) ↔ n = m ∧ SubList ss rs :=
  ⟨fun h => by cases h with | native h => exact ⟨rfl, h⟩, fun ⟨e, h⟩ => e ▸ .native h⟩
theorem sub_compound_compound (k k' : Kind) (n m : String) (ss rs : List Ty) :
    Sub (.compound k' m ss) (.compound k n rs) ↔ n = m ∧ k = k' ∧ SubList ss rs :=
  ⟨fun h => by cases h with | compound h => exact ⟨rfl, rfl, h⟩, fun ⟨e1, e2, h⟩ => e1 ▸ e2 ▸ .compound h⟩
theorem sub_callable_callable (ps' ps : List Ty) (r' r : Ty) :
    Sub (.callable ps' r') (.callable ps r) ↔ SubList ps' ps ∧ Sub r' r :=
  ⟨fun h => by cases h with | callable h1 h2 => exact ⟨h1, h2⟩, fun ⟨h1, h2⟩ => .callable h1 h2⟩
theorem sub_func_callable (g : Option (List String)) (ps' ps : List Ty) (n' : Nat) (r' r : Ty) :
    Sub (.func g ps' n' r') (.callable ps r) ↔
      n' ≤ ps.length ∧ ps.length ≤ ps'.length ∧ SubList (ps'.take ps.length) ps ∧ Sub r' r :=
  ⟨fun h => by cases h with | func h1 h2 h3 h4 => exact ⟨h1, h2, h3, h4⟩, fun ⟨h1, h2, h3, h4⟩ => .func h1 h2 h3 h4⟩

theorem subList_cons_iff (s r : Ty) (ss rs : List Ty) : SubList (s :: ss) (r :: rs) ↔ Sub s r ∧ SubList ss rs :=
  ⟨fun h => by cases h with | cons h1 h2 => exact ⟨h1, h2⟩, fun h => .cons h.1 h.2⟩
theorem subList_nil_iff (ss : List Ty) : SubList ss [] ↔ ss = [] :=
  ⟨fun h => by cases h; rfl, fun h => h ▸ .nil⟩
theorem subList_nil_left_iff (rs : List Ty) : SubList [] rs ↔ rs = [] := by
  constructor
  · intro h; cases h; rfl
  · rintro rfl; exact .nil

theorem in_window_iff {a n m : Nat} : ¬ (decide (a < n) || decide (a > m)) = true ↔ n ≤ a ∧ a ≤ m := by
  simp only [Bool.or_eq_true, decide_eq_true_eq]; omega

theorem take_length_of_eq {α β : Type} {l : List α} {m : List β} (h : l.length = m.length) : l.take m.length = l :=
  List.take_of_length_le (Nat.le_of_eq h)

/-- `SubList` relates lists of equal length; the loops of `bindIn` stop at the end of the shorter list -/
theorem subList_iff_take (ss rs : List Ty) :
    SubList ss rs ↔ rs.length = ss.length ∧ SubList (ss.take rs.length) (rs.take ss.length) := by
  constructor
  · intro h
    have hl := h.length_eq
    exact ⟨hl.symm, by rwa [take_length_of_eq hl, take_length_of_eq hl.symm]⟩
  · rintro ⟨hl, h⟩
    rwa [take_length_of_eq hl, take_length_of_eq hl.symm] at h

theorem bindZip_nil {rs ss : List Ty} {acc : Bnd} (h : bindZip rs ss acc = some []) : acc = [] := by
  induction rs generalizing ss acc with
  | nil => cases h; rfl
  | cons r rs ih =>
    cases ss with
    | nil => cases h; rfl
    | cons s ss =>
      simp only [bindZip_cons, Option.bind_eq_some_iff] at h
      obtain ⟨sub, -, acc', hm, h⟩ := h
      rw [ih h] at hm
      exact ((mix_nil_iff _ _).mp hm).1

theorem bindIn_nil_iff_all (ar : String → Nat) :
    (∀ r s, declarable r = true → wfTy ar r = true → wfTy ar s = true → (bindIn r s = some [] ↔ Sub s r)) ∧
    ∀ rs, declarableList rs = true → wfList ar rs = true → ∀ ss, wfList ar ss = true →
      (bindZip rs ss [] = some [] ↔ SubList (ss.take rs.length) (rs.take ss.length)) ∧
      (bindZipRev rs ss = some [] ↔ SubList (ss.take rs.length) (rs.take ss.length)) := by
  apply Ty.ind
  case bool | int | float | str => exact fun s _ _ _ => (bindIn_atom rfl s []).trans (and_iff_left rfl)
  case unknown => exact fun _ hd => nomatch hd
  case func => exact fun _ _ _ _ _ _ _ hd => nomatch hd
  case generic =>
    intro a s _ _ _
    rw [bindIn_generic, sub_generic_iff]
    split
    · exact ⟨fun _ => .inl rfl, fun _ => rfl⟩
    · rename_i b _
      by_cases h : a = b
      · simp [h]
      · simp [h]; exact fun e => h e.symm
    · rename_i h1 h2
      exact ⟨(fun h => by cases h), fun h => h.elim (fun e => (h1 e).elim) fun e => (h2 _ e).elim⟩
  case tuple =>
    intro rs ih s hd hr hs
    rw [bindIn_tuple]
    split
    · exact ⟨fun _ => .bot _, fun _ => rfl⟩
    · rename_i ss
      rw [sub_tuple_tuple, subList_iff_take, ← (ih hd hr ss hs).1]
      by_cases hl : rs.length = ss.length <;> simp [hl]
    · rename_i h1 h2
      exact ⟨nofun, fun h => False.elim (((sub_tuple_iff _ _).mp h).elim h1 fun ⟨_, e, _⟩ => h2 _ e)⟩
  case native =>
    intro n rs ih s hd hr hs
    rw [bindIn_native]
    split
    · exact ⟨fun _ => .bot _, fun _ => rfl⟩
    · rename_i m ss
      obtain ⟨lr, hr⟩ := wf_named hr
      obtain ⟨ls, hs⟩ := wf_named hs
      rw [sub_native_native, subList_iff_take, ← (ih hd hr ss hs).1]
      by_cases hnm : n = m
      · subst hnm; simp [lr, ls]
      · simp [hnm]
    · rename_i h1 h2
      exact ⟨nofun, fun h => False.elim (((sub_native_iff _ _ _).mp h).elim h1 fun ⟨_, e, _⟩ => h2 _ _ e)⟩
  case compound =>
    intro k n rs ih s hd hr hs
    rw [bindIn_compound]
    split
    · exact ⟨fun _ => .bot _, fun _ => rfl⟩
    · rename_i k' m ss
      obtain ⟨lr, hr⟩ := wf_named hr
      obtain ⟨ls, hs⟩ := wf_named hs
      rw [sub_compound_compound, subList_iff_take, ← (ih hd hr ss hs).2]
      by_cases hnm : n = m
      · subst hnm
        by_cases hk : k = k'
        · simp [hk, lr, ls]
        · simp [hk]
      · simp [hnm]
    · rename_i h1 h2
      exact ⟨nofun, fun h => False.elim (((sub_compound_iff _ _ _ _).mp h).elim h1 fun ⟨_, e, _⟩ => h2 _ _ _ e)⟩
  case callable =>
    intro ps r ihp ihr s hd hr hs
    have hd := Bool.and_eq_true_iff.mp hd
    have hr := Bool.and_eq_true_iff.mp hr
    rw [bindIn_callable]
    split
    · exact ⟨fun _ => .bot _, fun _ => rfl⟩
    · rename_i ps' r'
      have hs := Bool.and_eq_true_iff.mp hs
      rw [sub_callable_callable, subList_iff_take, ← (ihp hd.1 hr.1 ps' hs.1).1, ← ihr r' hd.2 hr.2 hs.2, and_assoc]
      by_cases hl : ps.length = ps'.length
      · simp only [hl, bne_self_eq_false, Bool.false_eq_true, if_false, true_and]
        exact tail_nil_iff _ _
      · simp [hl]
    · rename_i g ps' n' r'
      have hs := Bool.and_eq_true_iff.mp (Bool.and_eq_true_iff.mp hs).1
      rw [sub_func_callable, ← ihr r' hd.2 hr.2 hs.2]
      split
      · rename_i hw
        exact ⟨nofun, fun ⟨h1, h2, _⟩ => absurd hw (in_window_iff.mpr ⟨h1, h2⟩)⟩
      · rename_i hw
        have hw := in_window_iff.mp hw
        have hz := (ihp hd.1 hr.1 ps' hs.1).1
        rw [List.take_of_length_le hw.2] at hz
        rw [← hz]
        simp only [hw, true_and]
        exact tail_nil_iff _ _
    · rename_i h1 h2 h3
      exact ⟨nofun, fun h => by
        obtain e | ⟨_, _, e, _⟩ | ⟨_, _, _, _, e, _⟩ := (sub_callable_iff _ _ _).mp h
        · exact (h1 e).elim
        · exact (h2 _ _ e).elim
        · exact (h3 _ _ _ _ e).elim⟩
  case nil => intro _ _ ss _; simp [bindZip, bindZipRev, subList_nil_iff]
  case cons =>
    intro r rs ihr ihrs hd hr ss hs
    cases ss with
    | nil => simp [bindZip, bindZipRev, subList_nil_iff]
    | cons s ss =>
      have hd := Bool.and_eq_true_iff.mp hd
      have hr := Bool.and_eq_true_iff.mp hr
      have hs := Bool.and_eq_true_iff.mp hs
      obtain ⟨z, zr⟩ := ihrs hd.2 hr.2 ss hs.2
      simp only [List.length_cons, List.take_succ_cons, subList_cons_iff, bindZip_cons, bindZipRev_cons,
        Option.bind_eq_some_iff]
      rw [← ihr s hd.1 hr.1 hs.1]
      constructor
      · rw [← z]
        constructor
        · rintro ⟨sub, hsub, acc', hm, h⟩
          rw [bindZip_nil h] at hm h
          rw [((mix_nil_iff _ _).mp hm).2] at hsub
          exact ⟨hsub, h⟩
        · rintro ⟨h1, h2⟩
          exact ⟨[], h1, [], rfl, h2⟩
      · rw [← zr]
        constructor
        · rintro ⟨acc, hacc, sub, hsub, hm⟩
          obtain ⟨rfl, rfl⟩ := (mix_nil_iff _ _).mp hm
          exact ⟨hsub, hacc⟩
        · rintro ⟨h1, h2⟩
          exact ⟨[], h2, [], h1, rfl⟩

theorem bindIn_nil_iff (ar : String → Nat) : (r s : Ty) → declarable r = true → wfTy ar r = true → wfTy ar s = true →
    (bindIn r s = some [] ↔ Sub s r) :=
  (bindIn_nil_iff_all ar).1

mutual
/-- no `XFunc` inside (function *names* have XFunc types; every other expression type is free of them) -/
def funcFree : Ty → Bool
  | .func _ _ _ _ => false
  | .tuple ts => funcFreeList ts
  | .native _ ts => funcFreeList ts
  | .compound _ _ ts => funcFreeList ts
  | .callable ps r => funcFreeList ps && funcFree r
  | _ => true
def funcFreeList : List Ty → Bool
  | [] => true
  | t :: ts => funcFree t && funcFreeList ts
end

theorem sub_refl'_all : (∀ t, funcFree t = true → Sub t t) ∧ ∀ ts, funcFreeList ts = true → SubList ts ts := by
  apply Ty.ind
  case bool => exact fun _ => .bool
  case int => exact fun _ => .int
  case float => exact fun _ => .float
  case str => exact fun _ => .str
  case unknown => exact fun _ => .bot _
  case generic => exact fun a _ => .generic a
  case tuple => exact fun _ ih h => .tuple (ih h)
  case native => exact fun _ _ ih h => .native (ih h)
  case compound => exact fun _ _ _ ih h => .compound (ih h)
  case callable =>
    intro _ _ ihp ihr h
    have h := Bool.and_eq_true_iff.mp h
    exact .callable (ihp h.1) (ihr h.2)
  case func => exact fun _ _ _ _ _ _ => nofun
  case nil => exact fun _ => .nil
  case cons =>
    intro _ _ iht ihts h
    have h := Bool.and_eq_true_iff.mp h
    exact .cons (iht h.1) (ihts h.2)

theorem sub_refl' : (t : Ty) → funcFree t = true → Sub t t := sub_refl'_all.1
theorem subList_refl' : (ts : List Ty) → funcFreeList ts = true → SubList ts ts := sub_refl'_all.2

theorem declarable_funcFree_all :
    (∀ t, declarable t = true → funcFree t = true) ∧ ∀ ts, declarableList ts = true → funcFreeList ts = true := by
  apply Ty.ind
  case bool | int | float | str | nil => exact fun _ => rfl
  case generic => exact fun _ _ => rfl
  case unknown => exact nofun
  case func => exact fun _ _ _ _ _ _ => nofun
  case tuple => exact fun _ ih => ih
  case native => exact fun _ _ ih => ih
  case compound => exact fun _ _ _ ih => ih
  case callable | cons =>
    intro _ _ ih1 ih2 h
    have h := Bool.and_eq_true_iff.mp h
    exact Bool.and_eq_true_iff.mpr ⟨ih1 h.1, ih2 h.2⟩

theorem sub_refl : (t : Ty) → declarable t = true → Sub t t :=
  fun t h => sub_refl' t (declarable_funcFree_all.1 t h)
theorem subList_refl : (ts : List Ty) → declarableList ts = true → SubList ts ts :=
  fun ts h => subList_refl' ts (declarable_funcFree_all.2 ts h)

theorem beq_refl_all : (∀ a, Ty.beq a a = true) ∧ ∀ as, Ty.beqList as as = true := by
  apply Ty.ind
  case bool | int | float | str | unknown | nil => rfl
  case generic => intro _; simp only [Ty.beq, beq_self_eq_true]
  case tuple => intro _ ih; simp only [Ty.beq, ih]
  case native => intro _ _ ih; simp only [Ty.beq, ih, beq_self_eq_true, Bool.and_self]
  case compound => intro _ _ _ ih; simp only [Ty.beq, ih, beq_self_eq_true, Bool.and_self]
  case callable => intro _ _ ihp ihr; simp only [Ty.beq, ihp, ihr, Bool.and_self]
  case func => intro _ _ _ _ ihp ihr; simp only [Ty.beq, ihp, ihr, beq_self_eq_true, Bool.and_self]
  case cons => intro _ _ ih1 ih2; simp only [Ty.beqList, ih1, ih2, Bool.and_self]

/-- by induction along the arms of `Ty.beq`: each arm that can answer `true` compares the components; the arms that
equate an `XFunc` with something are excluded by `funcFree`; the last arm answers `false` -/
theorem eq_of_beq :
    (∀ a b, funcFree a = true → funcFree b = true → Ty.beq a b = true → a = b) ∧
    (∀ as bs, funcFreeList as = true → funcFreeList bs = true → Ty.beqList as bs = true → as = bs) := by
  apply Ty.beq.mutual_induct
  case case1 | case2 | case3 | case4 | case10 | case15 => exact fun _ _ _ => rfl
  case case5 =>
    intro k0 a as k1 b bs ih ha hb h
    simp only [Ty.beq, Bool.and_eq_true, beq_iff_eq] at h
    rw [h.1.1, h.1.2, ih ha hb h.2]
  case case6 =>
    intro ps r ps' r' ih1 ih2 ha hb h
    have ha := Bool.and_eq_true_iff.mp ha
    have hb := Bool.and_eq_true_iff.mp hb
    simp only [Ty.beq, Bool.and_eq_true] at h
    rw [ih1 ha.1 hb.1 h.1, ih2 ha.2 hb.2 h.2]
  case case7 => intro _ _ _ _ _ _ _ _ _ _ ha; cases ha
  case case8 => intro _ _ _ _ _ _ _ _ _ hb; cases hb
  case case9 => intro _ _ _ _ _ _ _ _ ha; cases ha
  case case11 =>
    intro a b _ _ h
    simp only [Ty.beq, beq_iff_eq] at h
    rw [h]
  case case12 =>
    intro a as b bs ih ha hb h
    simp only [Ty.beq, Bool.and_eq_true, beq_iff_eq] at h
    rw [h.1, ih ha hb h.2]
  case case13 =>
    intro as bs ih ha hb h
    simp only [Ty.beq] at h
    rw [ih ha hb h]
  case case14 =>
    intro t x _ _ _ _ _ _ _ _ _ _ _ _ _ _ _ h
    rw [Ty.beq.eq_14 t x] at h
    · cases h
    all_goals assumption
  case case16 =>
    intro a as b bs ih1 ih2 ha hb h
    have ha := Bool.and_eq_true_iff.mp ha
    have hb := Bool.and_eq_true_iff.mp hb
    simp only [Ty.beqList, Bool.and_eq_true] at h
    rw [ih1 ha.1 hb.1 h.1, ih2 ha.2 hb.2 h.2]
  case case17 =>
    intro as bs _ _ _ _ h
    rw [Ty.beqList.eq_3 as bs] at h
    · cases h
    all_goals assumption

theorem beq_eq : (a b : Ty) → funcFree a = true → funcFree b = true → (Ty.beq a b = true ↔ a = b) :=
  fun a b ha hb => ⟨eq_of_beq.1 a b ha hb, fun h => h ▸ beq_refl_all.1 a⟩
theorem beqList_eq : (as bs : List Ty) → funcFreeList as = true → funcFreeList bs = true →
    (Ty.beqList as bs = true ↔ as = bs) :=
  fun as bs ha hb => ⟨eq_of_beq.2 as bs ha hb, fun h => h ▸ beq_refl_all.2 as⟩

inductive CommonView : Ty → Ty → Ty → Prop
  | same {a b : Ty} : Ty.beq a b = true → CommonView a b a
  | right (a : Ty) : CommonView a .unknown a
  | left (b : Ty) : CommonView .unknown b b
  | compound {k : Kind} {n : String} {as bs cs : List Ty} : commonZip as bs = some cs →
      CommonView (.compound k n as) (.compound k n bs) (.compound k n cs)
  | tuple {as bs cs : List Ty} : as.length = bs.length → commonZip as bs = some cs →
      CommonView (.tuple as) (.tuple bs) (.tuple cs)
  | native {n : String} {as bs cs : List Ty} : commonZip as bs = some cs →
      CommonView (.native n as) (.native n bs) (.native n cs)

theorem commonType_view {a b c : Ty} (h : commonType a b = some c) : CommonView a b c := by
  unfold commonType at h
  split at h
  · cases h; exact .same ‹_›
  · split at h
    · obtain ⟨hc, hz⟩ := Option.ite_none_left_eq_some.mp h
      obtain ⟨rfl, rfl⟩ : _ = _ ∧ _ = _ := by simpa using hc
      split at hz <;> cases hz
      exact .compound ‹_›
    · obtain ⟨hl, h⟩ := Option.ite_none_left_eq_some.mp h
      split at h <;> cases h
      exact .tuple (by simpa using hl) ‹_›
    · cases h; exact .right _
    · cases h; exact .left _
    · obtain ⟨hc, hz⟩ := Option.ite_none_left_eq_some.mp h
      obtain rfl : _ = _ := by simpa using hc
      split at hz <;> cases hz
      exact .native ‹_›
    · cases h

/-- when `==` fails the view is exact -/
theorem commonType_of_view {a b c : Ty} (v : CommonView a b c) (h : Ty.beq a b = false) :
    commonType a b = some c := by
  unfold commonType
  rw [if_neg (by simp [h])]
  cases v with
  | same hb => simp [hb] at h
  | right a => cases a <;> first | rfl | simp [Ty.beq] at h
  | left b => cases b <;> first | rfl | simp [Ty.beq] at h
  | compound hz => simp [hz]
  | tuple hl hz => simp [hl, hz]
  | native hz => simp [hz]

theorem commonType_of_beq {a b : Ty} (h : Ty.beq a b = true) : commonType a b = some a := by
  unfold commonType; rw [if_pos h]

theorem commonType_unknown_right (a : Ty) : commonType a .unknown = some a := by
  cases h : Ty.beq a .unknown
  · exact commonType_of_view (.right a) h
  · exact commonType_of_beq h

theorem commonType_unknown_left (b : Ty) : commonType .unknown b = some b := by
  cases h : Ty.beq .unknown b
  · exact commonType_of_view (.left b) h
  · cases b <;> first | rfl | simp [Ty.beq] at h

theorem commonZip_cons (a b : Ty) (as bs : List Ty) :
    commonZip (a :: as) (b :: bs) = (commonType a b).bind fun c => (commonZip as bs).map (c :: ·) := by
  rw [commonZip]
  cases commonType a b with
  | none => rfl
  | some c => simp only [Option.bind_some]; cases commonZip as bs <;> rfl

mutual
theorem commonType_swap : (a b c : Ty) → funcFree a = true → funcFree b = true → commonType a b = some c →
    commonType b a = some c
  | a, b, c, ha, hb, h => by
    by_cases hab : a = b
    · rw [← hab]; rw [← hab] at h; exact h
    · refine commonType_of_view ?_ (Bool.eq_false_iff.mpr fun e => hab ((beq_eq b a hb ha).mp e).symm)
      cases commonType_view h with
      | same e => exact absurd ((beq_eq a b ha hb).mp e) hab
      | right => exact .left _
      | left => exact .right _
      | compound hz => exact .compound (commonZip_swap _ _ _ ha hb hz)
      | tuple hl hz => exact .tuple hl.symm (commonZip_swap _ _ _ ha hb hz)
      | native hz => exact .native (commonZip_swap _ _ _ ha hb hz)
-- named, because Lean does not search for the recursive argument among several of type `Ty`
termination_by structural a => a
theorem commonZip_swap : (as bs cs : List Ty) → funcFreeList as = true → funcFreeList bs = true →
    commonZip as bs = some cs → commonZip bs as = some cs
  | [], bs, _, _, _, h => by cases bs <;> exact h
  | _ :: _, [], _, _, _, h => h
  | a :: as, b :: bs, cs, ha, hb, h => by
    have ha := Bool.and_eq_true_iff.mp ha
    have hb := Bool.and_eq_true_iff.mp hb
    simp only [commonZip_cons, Option.bind_eq_some_iff, Option.map_eq_some_iff] at h ⊢
    obtain ⟨c, hc, cs', hz, rfl⟩ := h
    exact ⟨c, commonType_swap a b c ha.1 hb.1 hc, cs', commonZip_swap as bs cs' ha.2 hb.2 hz, rfl⟩
termination_by structural as => as
end

theorem commonZip_comm : (as bs : List Ty) → funcFreeList as = true → funcFreeList bs = true →
    commonZip as bs = commonZip bs as :=
  fun as bs ha hb => Option.ext fun cs => ⟨commonZip_swap as bs cs ha hb, commonZip_swap bs as cs hb ha⟩

def good (ar : String → Nat) (t : Ty) : Prop := funcFree t = true ∧ wfTy ar t = true
def goodList (ar : String → Nat) (ts : List Ty) : Prop := funcFreeList ts = true ∧ wfList ar ts = true

theorem goodList_cons (ar : String → Nat) (t : Ty) (ts : List Ty) : goodList ar (t :: ts) ↔ good ar t ∧ goodList ar ts := by
  show (funcFree t && funcFreeList ts) = true ∧ (wfTy ar t && wfList ar ts) = true ↔ _
  rw [Bool.and_eq_true_iff, Bool.and_eq_true_iff]
  exact ⟨fun ⟨⟨a, b⟩, c, d⟩ => ⟨⟨a, c⟩, b, d⟩, fun ⟨⟨a, c⟩, b, d⟩ => ⟨⟨a, b⟩, c, d⟩⟩
theorem good_tuple (ar : String → Nat) (ts : List Ty) : good ar (.tuple ts) ↔ goodList ar ts := Iff.rfl
theorem good_native (ar : String → Nat) (n : String) (ts : List Ty) :
    good ar (.native n ts) ↔ goodList ar ts ∧ ts.length = ar n := by
  show funcFreeList ts = true ∧ (ts.length == ar n && wfList ar ts) = true ↔ _
  rw [Bool.and_eq_true_iff, beq_iff_eq]
  exact ⟨fun ⟨a, b, c⟩ => ⟨⟨a, c⟩, b⟩, fun ⟨⟨a, c⟩, b⟩ => ⟨a, b, c⟩⟩
theorem good_compound (ar : String → Nat) (k : Kind) (n : String) (ts : List Ty) :
    good ar (.compound k n ts) ↔ goodList ar ts ∧ ts.length = ar n := good_native ar n ts

mutual
theorem commonType_ub (ar : String → Nat) : (a b c : Ty) → good ar a → good ar b → commonType a b = some c →
    good ar c ∧ Sub a c ∧ Sub b c
  | a, b, c, ha, hb, h => by
    cases commonType_view h with
    | same e =>
      rw [← (beq_eq a b ha.1 hb.1).mp e]
      exact ⟨ha, sub_refl' a ha.1, sub_refl' a ha.1⟩
    | right => exact ⟨ha, sub_refl' _ ha.1, .bot _⟩
    | left => exact ⟨hb, .bot _, sub_refl' _ hb.1⟩
    | compound hz =>
      rw [good_compound] at ha hb ⊢
      obtain ⟨hg, hl, s1, s2⟩ := commonZip_ub ar _ _ _ ha.1 hb.1 (ha.2.trans hb.2.symm) hz
      exact ⟨⟨hg, hl.trans ha.2⟩, .compound s1, .compound s2⟩
    | tuple hl hz =>
      rw [good_tuple] at ha hb ⊢
      obtain ⟨hg, -, s1, s2⟩ := commonZip_ub ar _ _ _ ha hb hl hz
      exact ⟨hg, .tuple s1, .tuple s2⟩
    | native hz =>
      rw [good_native] at ha hb ⊢
      obtain ⟨hg, hl, s1, s2⟩ := commonZip_ub ar _ _ _ ha.1 hb.1 (ha.2.trans hb.2.symm) hz
      exact ⟨⟨hg, hl.trans ha.2⟩, .native s1, .native s2⟩
termination_by structural _ a => a
theorem commonZip_ub (ar : String → Nat) : (as bs cs : List Ty) → goodList ar as → goodList ar bs → as.length = bs.length →
    commonZip as bs = some cs → goodList ar cs ∧ cs.length = as.length ∧ SubList as cs ∧ SubList bs cs
  | [], [], cs, _, _, _, h => by cases h; exact ⟨⟨rfl, rfl⟩, rfl, .nil, .nil⟩
  | [], _ :: _, _, _, _, hl, _ => by cases hl
  | _ :: _, [], _, _, _, hl, _ => by cases hl
  | a :: as, b :: bs, cs, ha, hb, hl, h => by
    rw [goodList_cons] at ha hb
    simp only [commonZip_cons, Option.bind_eq_some_iff, Option.map_eq_some_iff] at h
    obtain ⟨c, hc, cs', hz, rfl⟩ := h
    obtain ⟨g1, s1, s2⟩ := commonType_ub ar a b c ha.1 hb.1 hc
    obtain ⟨g2, l2, t1, t2⟩ := commonZip_ub ar as bs cs' ha.2 hb.2 (Nat.succ.inj hl) hz
    exact ⟨(goodList_cons ar c cs').mpr ⟨g1, g2⟩, congrArg (· + 1) l2, .cons s1 t1, .cons s2 t2⟩
termination_by structural _ as => as
end

mutual
theorem commonType_least : (a b c d : Ty) → commonType a b = some c → Sub a d → Sub b d → Sub c d
  | a, b, c, d, h, h1, h2 => by
    cases commonType_view h with
    | same | right => exact h1
    | left => exact h2
    | compound hz =>
      cases h1 with | compound h1 => cases h2 with | compound h2 => exact .compound (commonZip_least _ _ _ _ hz h1 h2)
    | tuple _ hz =>
      cases h1 with | tuple h1 => cases h2 with | tuple h2 => exact .tuple (commonZip_least _ _ _ _ hz h1 h2)
    | native hz =>
      cases h1 with | native h1 => cases h2 with | native h2 => exact .native (commonZip_least _ _ _ _ hz h1 h2)
termination_by structural a => a
theorem commonZip_least : (as bs cs ds : List Ty) → commonZip as bs = some cs → SubList as ds → SubList bs ds → SubList cs ds
  | [], _, cs, ds, h, h1, _ => by cases h; exact h1
  | a :: as, [], cs, ds, h, h1, h2 => by cases h2; cases h1
  | a :: as, b :: bs, cs, ds, h, h1, h2 => by
    simp only [commonZip_cons, Option.bind_eq_some_iff, Option.map_eq_some_iff] at h
    obtain ⟨c, hc, cs', hz, rfl⟩ := h
    cases h1 with | cons h1a h1b => cases h2 with | cons h2a h2b =>
      exact .cons (commonType_least a b c _ hc h1a h2a) (commonZip_least as bs cs' _ hz h1b h2b)
termination_by structural as => as
end

/-- by induction on the derivation of `Sub t u` -/
theorem sub_trans : (u s t : Ty) → Sub s t → Sub t u → Sub s u := by
  intro u s t h1 h2
  induction h2 using Sub.rec (motive_2 := fun ts us _ => ∀ ss, SubList ss ts → SubList ss us) generalizing s with
  | bot => exact (sub_unknown_iff _).mp h1 ▸ .bot _
  | bool | int | float | str | generic => exact h1
  | tuple _ ih =>
    obtain rfl | ⟨_, rfl, hh⟩ := (sub_tuple_iff _ _).mp h1
    · exact .bot _
    · exact .tuple (ih _ hh)
  | native _ ih =>
    obtain rfl | ⟨_, rfl, hh⟩ := (sub_native_iff _ _ _).mp h1
    · exact .bot _
    · exact .native (ih _ hh)
  | compound _ ih =>
    obtain rfl | ⟨_, rfl, hh⟩ := (sub_compound_iff _ _ _ _).mp h1
    · exact .bot _
    · exact .compound (ih _ hh)
  | callable p2 _ ihp ihr =>
    obtain rfl | ⟨_, _, rfl, p1, r1⟩ | ⟨_, _, _, _, rfl, hn, hl, p1, r1⟩ := (sub_callable_iff _ _ _).mp h1
    · exact .bot _
    · exact .callable (ihp _ p1) (ihr _ r1)
    · have hlen := p2.length_eq
      exact .func (hlen ▸ hn) (hlen ▸ hl) (hlen ▸ ihp _ p1) (ihr _ r1)
  | func => exact (sub_func_iff _ _ _ _ _).mp h1 ▸ .bot _
  | nil => assumption
  | cons _ _ iha ihb =>
    rename_i h
    cases h with | cons h1a h1b => exact .cons (iha _ h1a) (ihb _ h1b)

theorem subList_trans : (us ss ts : List Ty) → SubList ss ts → SubList ts us → SubList ss us :=
  fun us ss _ h1 h2 => (sub_tuple_tuple ss us).mp (sub_trans _ _ _ (.tuple h1) (.tuple h2))

mutual
/-- fully known expression types: no XFunc, no generic parameter (the bottom type is allowed) -/
def ground : Ty → Bool
  | .func _ _ _ _ => false
  | .generic _ => false
  | .tuple ts => groundList ts
  | .native _ ts => groundList ts
  | .compound _ _ ts => groundList ts
  | .callable ps r => groundList ps && ground r
  | _ => true
def groundList : List Ty → Bool
  | [] => true
  | t :: ts => ground t && groundList ts
end

theorem ground_funcFree_all :
    (∀ t, ground t = true → funcFree t = true) ∧ ∀ ts, groundList ts = true → funcFreeList ts = true := by
  apply Ty.ind
  case bool | int | float | str | unknown | nil => exact fun _ => rfl
  case generic => exact fun _ => nofun
  case func => exact fun _ _ _ _ _ _ => nofun
  case tuple => exact fun _ ih => ih
  case native => exact fun _ _ ih => ih
  case compound => exact fun _ _ _ ih => ih
  case callable | cons =>
    intro _ _ ih1 ih2 h
    have h := Bool.and_eq_true_iff.mp h
    exact Bool.and_eq_true_iff.mpr ⟨ih1 h.1, ih2 h.2⟩

theorem groundList_funcFree : (ts : List Ty) → groundList ts = true → funcFreeList ts = true :=
  ground_funcFree_all.2

theorem groundList_take : (l : List Ty) → (n : Nat) → groundList l = true → groundList (l.take n) = true
  | [], _, _ => by rw [List.take_nil]; rfl
  | _ :: _, 0, _ => rfl
  | x :: xs, n + 1, h =>
    have h := Bool.and_eq_true_iff.mp h
    Bool.and_eq_true_iff.mpr ⟨h.1, groundList_take xs n h.2⟩

mutual
/-- substitution of a binding into a type (everywhere, also inside function types) -/
def subst (b : Bnd) : Ty → Ty
  | .generic a => match Bnd.get b a with | some t => t | none => .generic a
  | .tuple ts => .tuple (substList b ts)
  | .native n ts => .native n (substList b ts)
  | .compound k n ts => .compound k n (substList b ts)
  | .callable ps r => .callable (substList b ps) (subst b r)
  | .func g ps n r => .func g (substList b ps) n (subst b r)
  | t => t
def substList (b : Bnd) : List Ty → List Ty
  | [] => []
  | t :: ts => subst b t :: substList b ts
end

theorem subst_generic (b : Bnd) (a : String) :
    subst b (.generic a) = match Bnd.get b a with | some t => t | none => .generic a := rfl

theorem substList_length (b : Bnd) : (ts : List Ty) → (substList b ts).length = ts.length
  | [] => rfl
  | _ :: ts => congrArg (· + 1) (substList_length b ts)

theorem substList_take (b : Bnd) : (ts : List Ty) → (n : Nat) → substList b (ts.take n) = (substList b ts).take n
  | [], n => by simp [substList]
  | _ :: ts, 0 => by simp [substList]
  | t :: ts, n + 1 => by simp [substList, substList_take b ts n]

theorem get_mem {b : Bnd} {k : String} {v : Ty} (h : Bnd.get b k = some v) : (k, v) ∈ b := by
  induction b with
  | nil => cases h
  | cons e rest ih =>
    obtain ⟨k', v'⟩ := e
    simp only [Bnd.get] at h
    split at h
    · rename_i hk; cases h; subst hk; exact .head _
    · exact .tail _ (ih h)

theorem forall_mem_insert {P : String → Ty → Prop} {b : Bnd} {k : String} {v : Ty}
    (hb : ∀ k' v', (k', v') ∈ b → P k' v') (hv : P k v) : ∀ k' v', (k', v') ∈ b.insert k v → P k' v' := by
  induction b with
  | nil => intro k' v' hm; cases hm with | head => exact hv | tail _ hm => cases hm
  | cons e rest ih =>
    obtain ⟨k1, v1⟩ := e
    intro k' v' hm
    simp only [Bnd.insert] at hm
    split at hm
    · cases hm with
      | head => exact hv
      | tail _ hm => exact hb k' v' (.tail _ hm)
    · cases hm with
      | head => exact hb k1 v1 (.head _)
      | tail _ hm => exact ih (fun k' v' hm => hb k' v' (.tail _ hm)) k' v' hm

def BOk (ar : String → Nat) (b : Bnd) : Prop := ∀ k v, (k, v) ∈ b → good ar v

def ble (b1 b2 : Bnd) : Prop := ∀ k v, Bnd.get b1 k = some v → ∃ v', Bnd.get b2 k = some v' ∧ Sub v v'

/-- every entry of `b` is below what `σ` gives its key.  Stronger than `ble b σ` when `b` has a key twice (`get` sees only
the first entry); the second argument of `mix` and the results of `bindIn` are spoken of in this form. -/
def bleM (b σ : Bnd) : Prop := ∀ k v, (k, v) ∈ b → ∃ v', Bnd.get σ k = some v' ∧ Sub v v'

theorem bleM_ble {b σ : Bnd} (h : bleM b σ) : ble b σ :=
  fun k v hg => h k v (get_mem hg)

theorem ble_refl (ar : String → Nat) (b : Bnd) (h : BOk ar b) : ble b b :=
  fun k v hg => ⟨v, hg, sub_refl' v (h k v (get_mem hg)).1⟩

theorem ble_trans {b1 b2 b3 : Bnd} (h12 : ble b1 b2) (h23 : ble b2 b3) : ble b1 b3 := by
  intro k v hg
  obtain ⟨v', hg', hs⟩ := h12 k v hg
  obtain ⟨v'', hg'', hs'⟩ := h23 k v' hg'
  exact ⟨v'', hg'', sub_trans _ _ _ hs hs'⟩

theorem ble_nil (b : Bnd) : ble [] b := fun k v h => by simp [Bnd.get] at h

theorem bok_nil (ar : String → Nat) : BOk ar [] := fun _ _ h => nomatch h

theorem mix_ub (ar : String → Nat) (self other res : Bnd) (hs : BOk ar self) (ho : BOk ar other)
    (h : mix self other = some res) :
    BOk ar res ∧ ble self res ∧ ∀ k v, (k, v) ∈ other → ∃ v', Bnd.get res k = some v' ∧ Sub v v' := by
  induction other generalizing self with
  | nil => cases h; exact ⟨hs, ble_refl ar _ hs, fun _ _ hm => nomatch hm⟩
  | cons e rest ih =>
    obtain ⟨k, v⟩ := e
    rw [mix_cons] at h
    obtain ⟨c, hc, h⟩ := Option.bind_eq_some_iff.mp h
    have hv : good ar v := ho k v (.head _)
    -- the value stored at `k` is above `v` and above what `self` had there
    have hj : good ar c ∧ Sub v c ∧ ∀ ex, Bnd.get self k = some ex → Sub ex c := by
      cases hg : Bnd.get self k with
      | none => rw [hg] at hc; cases hc; exact ⟨hv, sub_refl' v hv.1, nofun⟩
      | some ex =>
        rw [hg] at hc
        obtain ⟨gc, s1, s2⟩ := commonType_ub ar ex v c (hs k ex (get_mem hg)) hv hc
        exact ⟨gc, s2, fun _ he => by cases he; exact s1⟩
    obtain ⟨r1, r2, r3⟩ := ih (self.insert k c) (forall_mem_insert hs hj.1) (fun k' v' hm => ho k' v' (.tail _ hm)) h
    have hself : ble self (self.insert k c) := by
      intro k' v' hg
      rw [get_insert]
      by_cases hk : k = k'
      · subst hk; exact ⟨c, if_pos rfl, hj.2.2 v' hg⟩
      · exact ⟨v', by rw [if_neg hk]; exact hg, sub_refl' v' (hs k' v' (get_mem hg)).1⟩
    refine ⟨r1, ble_trans hself r2, fun k' v' hm => ?_⟩
    cases hm with
    | head =>
      obtain ⟨v'', hg'', hs''⟩ := r2 k c (by rw [get_insert, if_pos rfl])
      exact ⟨v'', hg'', sub_trans _ _ _ hj.2.1 hs''⟩
    | tail _ hm => exact r3 k' v' hm

theorem subst_mono_all (b1 b2 : Bnd) (hb : ble b1 b2) :
    (∀ r s, ground s = true → Sub s (subst b1 r) → Sub s (subst b2 r)) ∧
    ∀ rs ss, groundList ss = true → SubList ss (substList b1 rs) → SubList ss (substList b2 rs) := by
  apply Ty.ind
  case bool | int | float | str | unknown => exact fun _ _ h => h
  case generic =>
    intro a s hg h
    rw [subst_generic] at h ⊢
    cases h1 : Bnd.get b1 a with
    | some v1 =>
      rw [h1] at h
      obtain ⟨v2, h2, hs⟩ := hb a v1 h1
      rw [h2]; exact sub_trans _ _ _ h hs
    | none =>
      rw [h1] at h
      obtain rfl | rfl := (sub_generic_iff _ _).mp h
      · exact .bot _
      · cases hg
  case tuple =>
    intro rs ih s hg h
    obtain rfl | ⟨ss, rfl, hl⟩ := (sub_tuple_iff _ _).mp h
    · exact .bot _
    · exact .tuple (ih ss hg hl)
  case native =>
    intro n rs ih s hg h
    obtain rfl | ⟨ss, rfl, hl⟩ := (sub_native_iff _ _ _).mp h
    · exact .bot _
    · exact .native (ih ss hg hl)
  case compound =>
    intro k n rs ih s hg h
    obtain rfl | ⟨ss, rfl, hl⟩ := (sub_compound_iff _ _ _ _).mp h
    · exact .bot _
    · exact .compound (ih ss hg hl)
  case callable =>
    intro ps r ihp ihr s hg h
    obtain rfl | ⟨ps', r', rfl, hp, hr⟩ | ⟨_, _, _, _, rfl, _⟩ := (sub_callable_iff _ _ _).mp h
    · exact .bot _
    · have hg := Bool.and_eq_true_iff.mp hg
      exact .callable (ihp ps' hg.1 hp) (ihr r' hg.2 hr)
    · cases hg
  case func => exact fun _ _ _ _ _ _ _ _ h => (sub_func_iff _ _ _ _ _).mp h ▸ .bot _
  case nil => exact fun _ _ h => h
  case cons =>
    intro r rs ihr ihrs ss hg h
    cases h with
    | cons h1 h2 =>
      have hg := Bool.and_eq_true_iff.mp hg
      exact .cons (ihr _ hg.1 h1) (ihrs _ hg.2 h2)

theorem subst_mono (b1 b2 : Bnd) (hb : ble b1 b2) : (r s : Ty) → ground s = true → Sub s (subst b1 r) → Sub s (subst b2 r) :=
  (subst_mono_all b1 b2 hb).1
theorem substList_mono (b1 b2 : Bnd) (hb : ble b1 b2) : (rs ss : List Ty) → groundList ss = true →
    SubList ss (substList b1 rs) → SubList ss (substList b2 rs) :=
  (subst_mono_all b1 b2 hb).2

theorem ground_good (ar : String → Nat) (t : Ty) (hg : ground t = true) (hw : wfTy ar t = true) : good ar t :=
  ⟨ground_funcFree_all.1 t hg, hw⟩

/-- the last two steps of the function-type arms of `bindIn` -/
theorem tail_sound (ar : String → Nat) {acc bret b : Bnd} {ps ss : List Ty} {r r' : Ty}
    (hgs : groundList ss = true) (hgr : ground r' = true)
    (hacc : BOk ar acc) (hbret : BOk ar bret) (hm : mix acc bret = some b)
    (h1 : SubList ss (substList acc ps)) (h2 : Sub r' (subst bret r)) :
    BOk ar b ∧ SubList ss (substList b ps) ∧ Sub r' (subst b r) := by
  obtain ⟨m1, m2, m3⟩ := mix_ub ar acc bret b hacc hbret hm
  exact ⟨m1, substList_mono acc b m2 ps ss hgs h1, subst_mono bret b (bleM_ble m3) r r' hgr h2⟩

theorem bindIn_sound_all (ar : String → Nat) :
    (∀ r s b, declarable r = true → wfTy ar r = true → ground s = true → wfTy ar s = true → bindIn r s = some b →
      BOk ar b ∧ Sub s (subst b r)) ∧
    ∀ rs, (∀ ss acc res, declarableList rs = true → wfList ar rs = true → groundList ss = true → wfList ar ss = true →
        BOk ar acc → bindZip rs ss acc = some res →
        BOk ar res ∧ ble acc res ∧ SubList (ss.take rs.length) (substList res (rs.take ss.length))) ∧
      (∀ ss res, declarableList rs = true → wfList ar rs = true → groundList ss = true → wfList ar ss = true →
        rs.length = ss.length → bindZipRev rs ss = some res → BOk ar res ∧ SubList ss (substList res rs)) := by
  apply Ty.ind
  case bool | int | float | str =>
    intro s b _ _ _ _ h
    obtain ⟨hs, rfl⟩ := (bindIn_atom rfl s b).mp h
    exact ⟨bok_nil ar, hs⟩
  case unknown => exact fun _ _ hd => nomatch hd
  case func => exact fun _ _ _ _ _ _ _ _ hd => nomatch hd
  case generic =>
    intro a s b _ _ hg hw h
    rw [bindIn_generic] at h
    split at h
    · cases h; exact ⟨bok_nil ar, .bot _⟩
    · cases hg
    · cases h
      have hgood := ground_good ar _ hg hw
      refine ⟨fun k v hm => ?_, ?_⟩
      · cases hm with
        | head => exact hgood
        | tail _ hm => cases hm
      · rw [subst_generic]; simp only [Bnd.get, if_true]; exact sub_refl' _ hgood.1
  case tuple =>
    intro rs ih s b hd hr hg hw h
    rw [bindIn_tuple] at h
    split at h
    · cases h; exact ⟨bok_nil ar, .bot _⟩
    · rename_i ss
      obtain ⟨hl, h⟩ := Option.ite_none_left_eq_some.mp h
      have hl : rs.length = ss.length := by simpa using hl
      obtain ⟨k1, -, k3⟩ := ih.1 ss [] b hd hr hg hw (bok_nil ar) h
      rw [take_length_of_eq hl, take_length_of_eq hl.symm] at k3
      exact ⟨k1, .tuple k3⟩
    · cases h
  case native =>
    intro n rs ih s b hd hr hg hw h
    rw [bindIn_native] at h
    split at h
    · cases h; exact ⟨bok_nil ar, .bot _⟩
    · rename_i m ss
      obtain ⟨hnm, hz⟩ := Option.ite_none_left_eq_some.mp h
      obtain rfl : n = m := by simpa using hnm
      obtain ⟨lr, hr⟩ := wf_named hr
      obtain ⟨lw, hw⟩ := wf_named hw
      have hl : rs.length = ss.length := lr.trans lw.symm
      obtain ⟨k1, -, k3⟩ := ih.1 ss [] b hd hr hg hw (bok_nil ar) hz
      rw [take_length_of_eq hl, take_length_of_eq hl.symm] at k3
      exact ⟨k1, .native k3⟩
    · cases h
  case compound =>
    intro k n rs ih s b hd hr hg hw h
    rw [bindIn_compound] at h
    split at h
    · cases h; exact ⟨bok_nil ar, .bot _⟩
    · rename_i k' m ss
      obtain ⟨hc, hz⟩ := Option.ite_none_left_eq_some.mp h
      obtain ⟨rfl, rfl⟩ : n = m ∧ k = k' := by simpa using hc
      obtain ⟨lr, hr⟩ := wf_named hr
      obtain ⟨lw, hw⟩ := wf_named hw
      obtain ⟨k1, k3⟩ := ih.2 ss b hd hr hg hw (lr.trans lw.symm) hz
      exact ⟨k1, .compound k3⟩
    · cases h
  case callable =>
    intro ps r ihp ihr s b hd hr hg hw h
    rw [bindIn_callable] at h
    split at h
    · cases h; exact ⟨bok_nil ar, .bot _⟩
    · rename_i ps' r'
      have hd := Bool.and_eq_true_iff.mp hd
      have hr := Bool.and_eq_true_iff.mp hr
      have hg := Bool.and_eq_true_iff.mp hg
      have hw := Bool.and_eq_true_iff.mp hw
      obtain ⟨hl, h⟩ := Option.ite_none_left_eq_some.mp h
      have hl : ps.length = ps'.length := by simpa using hl
      obtain ⟨acc, bret, hacc, hbret, hm⟩ := tail_some h
      obtain ⟨a1, -, a3⟩ := ihp.1 ps' [] acc hd.1 hr.1 hg.1 hw.1 (bok_nil ar) hacc
      obtain ⟨r1, r2⟩ := ihr r' bret hd.2 hr.2 hg.2 hw.2 hbret
      rw [take_length_of_eq hl, take_length_of_eq hl.symm] at a3
      obtain ⟨t1, t2, t3⟩ := tail_sound ar hg.1 hg.2 a1 r1 hm a3 r2
      exact ⟨t1, .callable t2 t3⟩
    · cases hg
    · cases h
  case nil =>
    refine ⟨fun ss acc res _ _ _ _ hacc h => ?_, fun ss res _ _ _ _ hl h => ?_⟩
    · cases h; exact ⟨hacc, ble_refl ar _ hacc, by rw [List.take_nil]; exact .nil⟩
    · cases ss with
      | nil => cases h; exact ⟨bok_nil ar, .nil⟩
      | cons => cases hl
  case cons =>
    intro r rs ihr ihrs
    constructor
    · intro ss acc res hd hr hg hw hacc h
      cases ss with
      | nil => cases h; exact ⟨hacc, ble_refl ar _ hacc, .nil⟩
      | cons s ss =>
        have hd := Bool.and_eq_true_iff.mp hd
        have hr := Bool.and_eq_true_iff.mp hr
        have hg := Bool.and_eq_true_iff.mp hg
        have hw := Bool.and_eq_true_iff.mp hw
        simp only [bindZip_cons, Option.bind_eq_some_iff] at h
        obtain ⟨sub, hsub, acc', hacc', h⟩ := h
        obtain ⟨s1, s2⟩ := ihr s sub hd.1 hr.1 hg.1 hw.1 hsub
        obtain ⟨m1, m2, m3⟩ := mix_ub ar acc sub acc' hacc s1 hacc'
        obtain ⟨z1, z2, z3⟩ := ihrs.1 ss acc' res hd.2 hr.2 hg.2 hw.2 m1 h
        exact ⟨z1, ble_trans m2 z2, .cons (subst_mono sub res (ble_trans (bleM_ble m3) z2) r s hg.1 s2) z3⟩
    · intro ss res hd hr hg hw hl h
      cases ss with
      | nil => cases hl
      | cons s ss =>
        have hd := Bool.and_eq_true_iff.mp hd
        have hr := Bool.and_eq_true_iff.mp hr
        have hg := Bool.and_eq_true_iff.mp hg
        have hw := Bool.and_eq_true_iff.mp hw
        simp only [bindZipRev_cons, Option.bind_eq_some_iff] at h
        obtain ⟨acc, hacc, sub, hsub, h⟩ := h
        obtain ⟨s1, s2⟩ := ihr s sub hd.1 hr.1 hg.1 hw.1 hsub
        obtain ⟨z1, z3⟩ := ihrs.2 ss acc hd.2 hr.2 hg.2 hw.2 (Nat.succ.inj hl) hacc
        obtain ⟨m1, m2, m3⟩ := mix_ub ar acc sub res z1 s1 h
        exact ⟨m1, .cons (subst_mono sub res (bleM_ble m3) r s hg.1 s2) (substList_mono acc res m2 rs ss hg.2 z3)⟩

theorem bindIn_sound (ar : String → Nat) : (r s : Ty) → (b : Bnd) → declarable r = true → wfTy ar r = true →
    ground s = true → wfTy ar s = true → bindIn r s = some b → BOk ar b ∧ Sub s (subst b r) :=
  (bindIn_sound_all ar).1
theorem bindZip_sound (ar : String → Nat) : (rs ss : List Ty) → (acc res : Bnd) → declarableList rs = true →
    wfList ar rs = true → groundList ss = true → wfList ar ss = true → BOk ar acc →
    bindZip rs ss acc = some res →
    BOk ar res ∧ ble acc res ∧ SubList (ss.take rs.length) (substList res (rs.take ss.length)) :=
  fun rs => ((bindIn_sound_all ar).2 rs).1
theorem bindZipRev_sound (ar : String → Nat) : (rs ss : List Ty) → (res : Bnd) → declarableList rs = true →
    wfList ar rs = true → groundList ss = true → wfList ar ss = true → rs.length = ss.length →
    bindZipRev rs ss = some res → BOk ar res ∧ SubList ss (substList res rs) :=
  fun rs => ((bindIn_sound_all ar).2 rs).2

/-- `XCompoundSpec::bind` runs the loop of `XFuncSpec::bind` with the two lists exchanged -/
theorem compoundBindLoop_eq : (as fs : List Ty) → (acc : Bnd) → compoundBindLoop as fs acc = bindZip fs as acc
  | [], [], _ | [], _ :: _, _ | _ :: _, [], _ => rfl
  | a :: as, f :: fs, acc => by
    rw [compoundBindLoop, bindZip_cons]
    cases bindIn f a with
    | none => rfl
    | some sub =>
      simp only [Option.bind_some]
      cases mix acc sub with
      | none => rfl
      | some acc' => exact compoundBindLoop_eq as fs acc'

theorem callableArgs_iff (ar : String → Nat) : (ps args : List Ty) → declarableList ps = true → wfList ar ps = true →
    wfList ar args = true → ps.length = args.length → (callableArgs ps args = true ↔ SubList args ps)
  | [], [], _, _, _, _ => by simp [callableArgs, subList_nil_iff]
  | [], _ :: _, _, _, _, hl => by cases hl
  | _ :: _, [], _, _, _, hl => by cases hl
  | p :: ps, a :: as, hd, hr, hw, hl => by
    have hd := Bool.and_eq_true_iff.mp hd
    have hr := Bool.and_eq_true_iff.mp hr
    have hw := Bool.and_eq_true_iff.mp hw
    simp only [callableArgs, Bool.and_eq_true, subList_cons_iff]
    rw [callableArgs_iff ar ps as hd.2 hr.2 hw.2 (Nat.succ.inj hl), ← bindIn_nil_iff ar p a hd.1 hr.1 hw.1]
    cases h : bindIn p a with
    | none => simp
    | some b => cases b <;> simp

mutual
/-- fully known data types: no function type (callable / XFunc), no generic parameter; `unknown` allowed -/
def data : Ty → Bool
  | .func _ _ _ _ => false
  | .callable _ _ => false
  | .generic _ => false
  | .tuple ts => dataList ts
  | .native _ ts => dataList ts
  | .compound _ _ ts => dataList ts
  | _ => true
def dataList : List Ty → Bool
  | [] => true
  | t :: ts => data t && dataList ts
end

theorem data_ground_all :
    (∀ t, data t = true → ground t = true) ∧ ∀ ts, dataList ts = true → groundList ts = true := by
  apply Ty.ind
  case bool | int | float | str | unknown | nil => exact fun _ => rfl
  case generic => exact fun _ => nofun
  case callable => exact fun _ _ _ _ => nofun
  case func => exact fun _ _ _ _ _ _ => nofun
  case tuple => exact fun _ ih => ih
  case native => exact fun _ _ ih => ih
  case compound => exact fun _ _ _ ih => ih
  case cons =>
    intro _ _ ih1 ih2 h
    have h := Bool.and_eq_true_iff.mp h
    exact Bool.and_eq_true_iff.mpr ⟨ih1 h.1, ih2 h.2⟩

theorem dataList_ground : (ts : List Ty) → dataList ts = true → groundList ts = true :=
  data_ground_all.2

/-- a view with data types on the left and in the result gives a result, whether or not `==` answers first -/
theorem commonType_of_data_view {a b c : Ty} (v : CommonView a b c) (ha : data a = true) (hc : data c = true) :
    ∃ c, commonType a b = some c ∧ data c = true := by
  cases hbeq : Ty.beq a b with
  | true => exact ⟨a, commonType_of_beq hbeq, ha⟩
  | false => exact ⟨c, commonType_of_view v hbeq, hc⟩

theorem commonType_complete_all :
    (∀ a b d, data a = true → data b = true → Sub a d → Sub b d → ∃ c, commonType a b = some c ∧ data c = true) ∧
    ∀ as bs ds, dataList as = true → dataList bs = true → SubList as ds → SubList bs ds →
      ∃ cs, commonZip as bs = some cs ∧ dataList cs = true := by
  apply Ty.ind
  case bool | int | float | str =>
    intro b d ha _ h1 h2
    cases h1; cases h2
    · exact ⟨_, commonType_unknown_right _, ha⟩
    · exact ⟨_, rfl, ha⟩
  case unknown => exact fun b _ _ hb _ _ => ⟨b, commonType_unknown_left b, hb⟩
  case generic => exact fun _ _ _ ha => nomatch ha
  case callable => exact fun _ _ _ _ _ _ ha => nomatch ha
  case func => exact fun _ _ _ _ _ _ _ _ ha => nomatch ha
  case tuple =>
    intro as ih b d ha hb h1 h2
    cases h1 with | tuple hh1 =>
    obtain rfl | ⟨bs, rfl, hh2⟩ := (sub_tuple_iff _ _).mp h2
    · exact ⟨_, commonType_unknown_right _, ha⟩
    · obtain ⟨cs, hz, hdc⟩ := ih bs _ ha hb hh1 hh2
      exact commonType_of_data_view (.tuple (hh1.length_eq.trans hh2.length_eq.symm) hz) ha hdc
  case native =>
    intro n as ih b d ha hb h1 h2
    cases h1 with | native hh1 =>
    obtain rfl | ⟨bs, rfl, hh2⟩ := (sub_native_iff _ _ _).mp h2
    · exact ⟨_, commonType_unknown_right _, ha⟩
    · obtain ⟨cs, hz, hdc⟩ := ih bs _ ha hb hh1 hh2
      exact commonType_of_data_view (.native hz) ha hdc
  case compound =>
    intro k n as ih b d ha hb h1 h2
    cases h1 with | compound hh1 =>
    obtain rfl | ⟨bs, rfl, hh2⟩ := (sub_compound_iff _ _ _ _).mp h2
    · exact ⟨_, commonType_unknown_right _, ha⟩
    · obtain ⟨cs, hz, hdc⟩ := ih bs _ ha hb hh1 hh2
      exact commonType_of_data_view (.compound hz) ha hdc
  case nil => exact fun bs _ _ _ _ _ => ⟨[], by cases bs <;> rfl, rfl⟩
  case cons =>
    intro a as iha ihas bs ds ha hb h1 h2
    have ha := Bool.and_eq_true_iff.mp ha
    cases h1 with | cons h1a h1b => cases h2 with | cons h2a h2b =>
      have hb := Bool.and_eq_true_iff.mp hb
      obtain ⟨c, hc, hdc⟩ := iha _ _ ha.1 hb.1 h1a h2a
      obtain ⟨cs, hz, hdcs⟩ := ihas _ _ ha.2 hb.2 h1b h2b
      exact ⟨c :: cs, by simp [commonZip_cons, hc, hz], Bool.and_eq_true_iff.mpr ⟨hdc, hdcs⟩⟩

theorem commonType_complete : (a b d : Ty) → data a = true → data b = true → Sub a d → Sub b d →
    ∃ c, commonType a b = some c ∧ data c = true :=
  commonType_complete_all.1
theorem commonZip_complete : (as bs ds : List Ty) → dataList as = true → dataList bs = true →
    SubList as ds → SubList bs ds → ∃ cs, commonZip as bs = some cs ∧ dataList cs = true :=
  commonType_complete_all.2

def BData (b : Bnd) : Prop := ∀ k v, (k, v) ∈ b → data v = true

theorem bleM_nil (σ : Bnd) : bleM [] σ := fun _ _ h => nomatch h
theorem bdata_nil : BData [] := fun _ _ h => nomatch h

theorem mix_complete (σ self other : Bnd) (hs : bleM self σ) (ho : bleM other σ) (ds : BData self) (do_ : BData other) :
    ∃ res, mix self other = some res ∧ bleM res σ ∧ BData res := by
  induction other generalizing self with
  | nil => exact ⟨self, rfl, hs, ds⟩
  | cons e rest ih =>
    obtain ⟨k, v⟩ := e
    obtain ⟨v', hg', hs'⟩ := ho k v (.head _)
    have dv : data v = true := do_ k v (.head _)
    -- the value stored at `k` is a data type below what `σ` has there
    have hc : ∃ c, (match Bnd.get self k with
        | some ex => commonType ex v
        | none => some v) = some c ∧ Sub c v' ∧ data c = true := by
      cases hg : Bnd.get self k with
      | none => exact ⟨v, rfl, hs', dv⟩
      | some ex =>
        obtain ⟨v'', hg'', hs''⟩ := hs k ex (get_mem hg)
        rw [hg'] at hg''; cases hg''
        obtain ⟨c, hc, dc⟩ := commonType_complete ex v v' (ds k ex (get_mem hg)) dv hs'' hs'
        exact ⟨c, hc, commonType_least ex v c v' hc hs'' hs', dc⟩
    obtain ⟨c, hc, sc, dc⟩ := hc
    rw [mix_cons, hc]
    exact ih (self.insert k c) (forall_mem_insert hs ⟨v', hg', sc⟩) (fun k' v' hm => ho k' v' (.tail _ hm))
      (forall_mem_insert ds dc) (fun k' v' hm => do_ k' v' (.tail _ hm))

theorem bindIn_generic_complete (σ : Bnd) (a : String) (s : Ty) (hd : data s = true)
    (h : Sub s (subst σ (.generic a))) : ∃ b, bindIn (.generic a) s = some b ∧ bleM b σ ∧ BData b := by
  rw [bindIn_generic]
  split
  · exact ⟨[], rfl, bleM_nil σ, bdata_nil⟩
  · cases hd
  · rename_i hu hg
    refine ⟨_, rfl, fun k v hm => ?_, fun k v hm => ?_⟩
    · cases hm with
      | tail _ hm => cases hm
      | head =>
        rw [subst_generic] at h
        cases hσ : Bnd.get σ a with
        | some v' => rw [hσ] at h; exact ⟨v', rfl, h⟩
        | none =>
          rw [hσ] at h
          exact ((sub_generic_iff _ _).mp h).elim (fun e => (hu e).elim) fun e => (hg _ e).elim
    · cases hm with
      | head => exact hd
      | tail _ hm => cases hm

theorem bindIn_complete_all (σ : Bnd) :
    (∀ r s, data s = true → Sub s (subst σ r) → ∃ b, bindIn r s = some b ∧ bleM b σ ∧ BData b) ∧
    ∀ rs, (∀ ss acc, dataList ss = true → SubList ss (substList σ rs) → bleM acc σ → BData acc →
        ∃ res, bindZip rs ss acc = some res ∧ bleM res σ ∧ BData res) ∧
      (∀ ss, dataList ss = true → SubList ss (substList σ rs) →
        ∃ res, bindZipRev rs ss = some res ∧ bleM res σ ∧ BData res) := by
  apply Ty.ind
  case bool | int | float | str =>
    exact fun s _ h => ⟨[], (bindIn_atom rfl s []).mpr ⟨h, rfl⟩, bleM_nil σ, bdata_nil⟩
  case unknown =>
    intro s _ h
    obtain rfl := (sub_unknown_iff _).mp h
    exact ⟨[], rfl, bleM_nil σ, bdata_nil⟩
  case func =>
    intro _ _ _ _ _ _ s _ h
    obtain rfl := (sub_func_iff _ _ _ _ _).mp h
    exact ⟨[], rfl, bleM_nil σ, bdata_nil⟩
  case generic => exact bindIn_generic_complete σ
  case tuple =>
    intro rs ih s hd h
    obtain rfl | ⟨ss, rfl, hh⟩ := (sub_tuple_iff _ _).mp h
    · exact ⟨[], rfl, bleM_nil σ, bdata_nil⟩
    · obtain ⟨res, hz, h1, h2⟩ := ih.1 ss [] hd hh (bleM_nil σ) bdata_nil
      have hl := hh.length_eq
      rw [substList_length] at hl
      exact ⟨res, by rw [bindIn_tuple]; simp [hl, hz], h1, h2⟩
  case native =>
    intro n rs ih s hd h
    obtain rfl | ⟨ss, rfl, hh⟩ := (sub_native_iff _ _ _).mp h
    · exact ⟨[], rfl, bleM_nil σ, bdata_nil⟩
    · obtain ⟨res, hz, h1, h2⟩ := ih.1 ss [] hd hh (bleM_nil σ) bdata_nil
      exact ⟨res, by rw [bindIn_native]; simp [hz], h1, h2⟩
  case compound =>
    intro k n rs ih s hd h
    obtain rfl | ⟨ss, rfl, hh⟩ := (sub_compound_iff _ _ _ _).mp h
    · exact ⟨[], rfl, bleM_nil σ, bdata_nil⟩
    · obtain ⟨res, hz, h1, h2⟩ := ih.2 ss hd hh
      exact ⟨res, by rw [bindIn_compound]; simp [hz], h1, h2⟩
  case callable =>
    intro ps r _ _ s hd h
    obtain rfl | ⟨_, _, rfl, _⟩ | ⟨_, _, _, _, rfl, _⟩ := (sub_callable_iff _ _ _).mp h
    · exact ⟨[], rfl, bleM_nil σ, bdata_nil⟩
    · cases hd
    · cases hd
  case nil => exact ⟨fun ss acc _ _ ha da => ⟨acc, rfl, ha, da⟩, fun ss _ _ => ⟨[], rfl, bleM_nil σ, bdata_nil⟩⟩
  case cons =>
    intro r rs ihr ihrs
    constructor
    · intro ss acc hd h ha da
      cases h with
      | cons h1 h2 =>
        have hd := Bool.and_eq_true_iff.mp hd
        obtain ⟨sub, hs, s1, s2⟩ := ihr _ hd.1 h1
        obtain ⟨acc', hm, m1, m2⟩ := mix_complete σ acc sub ha s1 da s2
        obtain ⟨res, hz, z1, z2⟩ := ihrs.1 _ acc' hd.2 h2 m1 m2
        exact ⟨res, by simp [bindZip_cons, hs, hm, hz], z1, z2⟩
    · intro ss hd h
      cases h with
      | cons h1 h2 =>
        have hd := Bool.and_eq_true_iff.mp hd
        obtain ⟨sub, hs, s1, s2⟩ := ihr _ hd.1 h1
        obtain ⟨acc, hz, z1, z2⟩ := ihrs.2 _ hd.2 h2
        obtain ⟨res, hm, m1, m2⟩ := mix_complete σ acc sub z1 s1 z2 s2
        exact ⟨res, by simp [bindZipRev_cons, hs, hz, hm], m1, m2⟩

theorem bindZip_complete (σ : Bnd) : (rs ss : List Ty) → (acc : Bnd) → dataList ss = true →
    SubList ss (substList σ rs) → bleM acc σ → BData acc →
    ∃ res, bindZip rs ss acc = some res ∧ bleM res σ ∧ BData res :=
  fun rs => ((bindIn_complete_all σ).2 rs).1
theorem bindZipRev_complete (σ : Bnd) : (rs ss : List Ty) → dataList ss = true →
    SubList ss (substList σ rs) → ∃ res, bindZipRev rs ss = some res ∧ bleM res σ ∧ BData res :=
  fun rs => ((bindIn_complete_all σ).2 rs).2

def BNoGen (g : String) (b : Bnd) : Prop := ∀ k v, (k, v) ∈ b → mentionsGeneric g v = false

theorem fillUnbound_spec (args : List Ty) (g : String) : (gens : List String) → (b : Bnd) → BNoGen g b →
    BNoGen g (fillUnbound args b gens) ∧
    (∀ k, (Bnd.get b k).isSome = true → (Bnd.get (fillUnbound args b gens) k).isSome = true) ∧
    (∀ k, k ∈ gens → mentionsGenericList k args = false → (Bnd.get (fillUnbound args b gens) k).isSome = true)
  | [], b, hb => ⟨hb, fun _ h => h, fun _ h => nomatch h⟩
  | x :: xs, b, hb => by
    simp only [fillUnbound]
    split
    · obtain ⟨i1, i2, i3⟩ := fillUnbound_spec args g xs (Bnd.insert b x .unknown) (forall_mem_insert hb rfl)
      refine ⟨i1, fun k hk => i2 k ?_, fun k hk hm => ?_⟩
      · rw [get_insert]; split
        · rfl
        · exact hk
      · cases hk with
        | head => exact i2 _ (by rw [get_insert, if_pos rfl]; rfl)
        | tail _ hk => exact i3 k hk hm
    · rename_i hc
      obtain ⟨i1, i2, i3⟩ := fillUnbound_spec args g xs b hb
      refine ⟨i1, i2, fun k hk hm => ?_⟩
      cases hk with
      | head =>
        apply i2
        cases hg : Bnd.get b x with
        | some v => rfl
        | none => simp [hg, hm] at hc
      | tail _ hk => exact i3 k hk hm

theorem resolveBind_closed_all (g : String) (b : Bnd) (hb : BNoGen g b) (hg : (Bnd.get b g).isSome = true) :
    (∀ t, declarable t = true → mentionsGeneric g (resolveBind b t) = false) ∧
    ∀ ts, declarableList ts = true → mentionsGenericList g (resolveList b ts) = false := by
  apply Ty.ind
  case bool | int | float | str => exact fun _ => rfl
  case unknown => exact nofun
  case func => exact fun _ _ _ _ _ _ => nofun
  case generic =>
    intro a _
    show mentionsGeneric g (match Bnd.get b a with | some t => t | none => .generic a) = false
    cases ha : Bnd.get b a with
    | some v => exact hb a v (get_mem ha)
    | none =>
      refine beq_eq_false_iff_ne.mpr fun e => ?_
      subst e; rw [ha] at hg; cases hg
  case tuple => exact fun _ ih => ih
  case native => exact fun _ _ ih => ih
  case compound => exact fun _ _ _ ih => ih
  case callable =>
    intro ps r ihp ihr h
    have h := Bool.and_eq_true_iff.mp h
    exact Bool.or_eq_false_iff.mpr ⟨ihp h.1, ihr h.2⟩
  case nil => exact fun _ => rfl
  case cons =>
    intro t ts iht ihts h
    have h := Bool.and_eq_true_iff.mp h
    exact Bool.or_eq_false_iff.mpr ⟨iht h.1, ihts h.2⟩

theorem resolveList_closed (g : String) (b : Bnd) (hb : BNoGen g b) (hg : (Bnd.get b g).isSome = true) :
    (ts : List Ty) → declarableList ts = true → mentionsGenericList g (resolveList b ts) = false :=
  (resolveBind_closed_all g b hb hg).2

end XrayModel
