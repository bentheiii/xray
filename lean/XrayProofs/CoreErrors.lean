/-
Error values and violations in the core evaluator `XrayModel/Core.lean`.  `SeqVals` is the chain of single
evaluations behind an `evalList` that delivers values, with the prefix laws `evalList_append`/`evalDecls_append`.
`Conf` is one invocation of one of the ten functions, `Sub` its direct sub-evaluations (one constructor per
call site) and `Within` their closure: a violation is handed up along `Sub` unchanged (`Sub.viol`), and
conversely every violation starts at one of the three limit checks `Origin` (`viol_origin`).  The syntactic
evaluation contexts `Ctx` are mapped into `Within` by `Reaches.within`.
-/
import XrayProofs.CoreMono
namespace XrayModel.Core

theorem Val.isErr_eq_false {v : Val} (h : ∀ m, v ≠ .err m) : v.isErr = false := by
  cases v <;> first | rfl | exact absurd rfl (h _)

/-- `SeqVals cfg fr n es st vs st'`: the expressions `es`, evaluated left to right from state `st`
at the fuel levels `evalList n` uses (the head at `n-1`, the next at `n-2`, …), all yield
non-error values `vs`; `st'` is the state reached after the last one. -/
inductive SeqVals (cfg : Cfg) (fr : Frame) : Nat → List Expr → St → List Val → St → Prop
  | nil (n : Nat) (st : St) : SeqVals cfg fr n [] st [] st
  | cons {n : Nat} {e : Expr} {rest : List Expr} {st st1 st' : St} {v : Val} {vs : List Val} :
      eval n cfg fr e false st = (.val v, st1) → v.isErr = false →
      SeqVals cfg fr n rest st1 vs st' → SeqVals cfg fr (n + 1) (e :: rest) st (v :: vs) st'

def prependVals (vs : List Val) (r : Except Res (List Val) × St) : Except Res (List Val) × St :=
  match r with
  | (.ok ws, s) => (.ok (vs ++ ws), s)
  | (.error x, s) => (.error x, s)

@[simp] theorem prependVals_ok (vs ws : List Val) (s : St) : prependVals vs (.ok ws, s) = (.ok (vs ++ ws), s) := rfl
@[simp] theorem prependVals_error (vs : List Val) (x : Res) (s : St) : prependVals vs (.error x, s) = (.error x, s) := rfl
@[simp] theorem prependVals_nil (r : Except Res (List Val) × St) : prependVals [] r = r := by
  rcases r with ⟨_ | _, _⟩ <;> simp [prependVals]

theorem evalList_cons_val {n : Nat} {cfg : Cfg} {fr : Frame} {e : Expr} {rest : List Expr} {st st1 : St} {v : Val}
    (h : eval n cfg fr e false st = (.val v, st1)) (hv : v.isErr = false) :
    evalList (n + 1) cfg fr (e :: rest) st = prependVals [v] (evalList n cfg fr rest st1) := by
  rw [evalList, h]
  split
  · rename_i heq; cases heq; cases hv
  · rename_i heq; cases heq
    rcases evalList n cfg fr rest st1 with ⟨_ | _, _⟩ <;> rfl
  · rename_i heq; cases heq
  · rename_i hne _ heq; cases heq; exact absurd rfl (hne v)

theorem evalList_ok_seqVals (n : Nat) (cfg : Cfg) (fr : Frame) (es : List Expr) (st st' : St) (vs : List Val)
    (h : evalList n cfg fr es st = (.ok vs, st')) : SeqVals cfg fr n es st vs st' := by
  induction n generalizing es st st' vs with
  | zero => rw [evalList] at h; cases h
  | succ n ih =>
    cases es with
    | nil => rw [evalList] at h; cases h; exact .nil _ _
    | cons e rest =>
      simp only [evalList] at h
      split at h
      · cases h
      · rename_i v st1 hne hv
        split at h
        · rename_i vs1 st2 hrest
          cases h
          exact .cons hv (Val.isErr_eq_false hne) (ih rest st1 _ vs1 hrest)
        · rename_i r hr
          exact absurd h (hr _ _)
      · cases h
      · cases h

theorem SeqVals.fuel {cfg fr n es st vs st'} (h : SeqVals cfg fr n es st vs st') : es.length ≤ n := by
  induction h with
  | nil => simp
  | cons _ _ _ ih => simp; omega

theorem evalList_append {cfg : Cfg} {fr : Frame} {k : Nat} {pre : List Expr} {st st1 : St} {vs : List Val}
    (rest : List Expr)
    (h : SeqVals cfg fr (k + pre.length) pre st vs st1) :
    evalList (k + pre.length) cfg fr (pre ++ rest) st = prependVals vs (evalList k cfg fr rest st1) := by
  generalize hn : k + pre.length = n at h
  induction h generalizing k with
  | nil n st =>
    simp at hn; subst hn
    simp
  | @cons n e rest' st st1 st' v vs he hv hs ih =>
    simp only [List.length_cons] at hn
    have hn' : k + rest'.length = n := by omega
    have := ih hn'
    simp only [List.cons_append]
    rw [evalList_cons_val he hv, this]
    rcases evalList k cfg fr rest st' with ⟨_ | _, _⟩ <;> simp

theorem Frame.get_none {fr : Frame} {f : String} (h : fr.get f = none) :
    lookup f fr.env = none ∧ ∀ n c, fr.self = some (n, c) → n ≠ f := by
  unfold Frame.get at h
  split at h
  · cases h
  · rename_i hl
    refine ⟨hl, ?_⟩
    intro n c hs
    simp only [hs] at h
    split at h
    · cases h
    · assumption

theorem eval_call_unbound {fr : Frame} {f : String} (h : fr.get f = none) (n : Nat) (cfg : Cfg)
    (args : List Expr) (tail : Bool) (st : St) :
    eval (n + 2) cfg fr (.call f args) tail st = builtin n cfg fr f args tail st := by
  obtain ⟨hl, hs⟩ := Frame.get_none h
  simp only [eval]
  split
  · rename_i sn sc hself
    have : f ≠ sn := fun hh => hs sn sc hself hh.symm
    simp [this, callNamed, h]
  · simp [callNamed, h]

theorem eval_call_bound {fr : Frame} {f : String} {c : Val} (h : lookup f fr.env = some c) (n : Nat) (cfg : Cfg)
    (args : List Expr) (tail : Bool) (st : St) :
    eval (n + 2) cfg fr (.call f args) tail st = callVal n cfg fr c args tail st := by
  have hg : fr.get f = some c := by simp [Frame.get, h]
  simp only [eval]
  split
  · simp [h, callNamed, hg]
  · simp [callNamed, hg]


/-- as `SeqVals`, but each expression with *some* amount of fuel -/
inductive SeqValsAny (cfg : Cfg) (fr : Frame) : List Expr → St → List Val → St → Prop
  | nil (st : St) : SeqValsAny cfg fr [] st [] st
  | cons {n : Nat} {e : Expr} {rest : List Expr} {st st1 st' : St} {v : Val} {vs : List Val} :
      eval n cfg fr e false st = (.val v, st1) → v.isErr = false →
      SeqValsAny cfg fr rest st1 vs st' → SeqValsAny cfg fr (e :: rest) st (v :: vs) st'

theorem SeqValsAny.enough {cfg : Cfg} {fr : Frame} {es : List Expr} {st st' : St} {vs : List Val}
    (h : SeqValsAny cfg fr es st vs st') : ∃ N, ∀ n, N ≤ n → SeqVals cfg fr n es st vs st' := by
  induction h with
  | nil st => exact ⟨0, fun n _ => .nil n st⟩
  | @cons n0 e rest st st1 st' v vs he hv _ ih =>
    obtain ⟨N', hN'⟩ := ih
    refine ⟨max (n0 + 1) (N' + 1), fun n hn => ?_⟩
    obtain ⟨n', rfl⟩ : ∃ n', n = n' + 1 := ⟨n - 1, by omega⟩
    exact .cons (eval_mono (by omega) he (by simp)) hv (hN' n' (by omega))

/-! ## Dynamic sub-evaluations

Each constructor of `Sub` is one call site of the model, with the path condition under which that call site is
reached (the limits `cfg` are fixed for a whole run). -/

inductive Conf where
  | eval (fuel : Nat) (fr : Frame) (e : Expr) (tail : Bool) (st : St)
  | callNamed (fuel : Nat) (fr : Frame) (f : String) (args : List Expr) (tail : Bool) (st : St)
  | callVal (fuel : Nat) (fr : Frame) (c : Val) (args : List Expr) (tail : Bool) (st : St)
  | evalList (fuel : Nat) (fr : Frame) (es : List Expr) (st : St)
  | mkClos (fuel : Nat) (fr : Frame) (f : Func) (st : St)
  | evalDflts (fuel : Nat) (fr : Frame) (ps : List Param) (st : St)
  | callUser (fuel : Nat) (height : Nat) (c : Val) (args : List Val) (st : St)
  | tramp (fuel : Nat) (height : Nat) (c : Val) (args : List Val) (rec : Nat) (st : St)
  | evalDecls (fuel : Nat) (fr : Frame) (ds : List Decl) (st : St)
  | builtin (fuel : Nat) (fr : Frame) (f : String) (args : List Expr) (tail : Bool) (st : St)

def Conf.viol (cfg : Cfg) (c : Conf) (k : Viol) (s : St) : Prop :=
  match c with
  | .eval fuel fr e tail st => Core.eval fuel cfg fr e tail st = (.viol k, s)
  | .callNamed fuel fr f args tail st => Core.callNamed fuel cfg fr f args tail st = (.viol k, s)
  | .callVal fuel fr c args tail st => Core.callVal fuel cfg fr c args tail st = (.viol k, s)
  | .evalList fuel fr es st => Core.evalList fuel cfg fr es st = (.error (.viol k), s)
  | .mkClos fuel fr f st => Core.mkClos fuel cfg fr f st = (.viol k, s)
  | .evalDflts fuel fr ps st => Core.evalDflts fuel cfg fr ps st = (.error (.viol k), s)
  | .callUser fuel h c args st => Core.callUser fuel cfg h c args st = (.viol k, s)
  | .tramp fuel h c args rec st => Core.tramp fuel cfg h c args rec st = (.viol k, s)
  | .evalDecls fuel fr ds st => Core.evalDecls fuel cfg fr ds st = (.error (.viol k), s)
  | .builtin fuel fr f args tail st => Core.builtin fuel cfg fr f args tail st = (.viol k, s)

/-- the frame a user function's body runs in (as built by `tramp`) -/
def bodyFrame (height : Nat) (f : Func) (dflts : List Val) (env ps : List (String × Val)) : Frame :=
  { env := ps.reverse ++ env,
    self := match f.name with
      | some n => some (n, .clos f dflts env)
      | none => none,
    height := height + 1 }

def depthTrips (cfg : Cfg) (height : Nat) : Bool :=
  match cfg.depthLimit with | some l => decide (height + 1 ≥ l) | none => false
def recTrips (cfg : Cfg) (rec : Nat) : Bool :=
  match cfg.recLimit with | some l => decide (rec + 1 > l) | none => false

/-- `Sub cfg c' c`: the invocation `c` performs the invocation `c'` (one call site each) -/
inductive Sub (cfg : Cfg) : Conf → Conf → Prop
  -- eval
  | tupItems (n fr es tail st) : Sub cfg (.evalList n fr es st) (.eval (n + 1) fr (.tup es) tail st)
  | arrItems (n fr es tail st) : Sub cfg (.evalList n fr es st) (.eval (n + 1) fr (.arr es) tail st)
  | itemOf (n fr e i tail st) : Sub cfg (.eval n fr e false st) (.eval (n + 1) fr (.item e i) tail st)
  | lamClos (n fr f tail st) : Sub cfg (.mkClos n fr f st) (.eval (n + 1) fr (.lam f) tail st)
  | tailArgs (n) (fr : Frame) (f args st sc) : fr.self = some (f, sc) → lookup f fr.env = none → cfg.tco = true →
      Sub cfg (.evalList n fr args st) (.eval (n + 1) fr (.call f args) true st)
  | selfCall (n) (fr : Frame) (f args tail st sc) : fr.self = some (f, sc) → lookup f fr.env = none →
      (tail && cfg.tco) = false →
      Sub cfg (.callVal n fr sc args tail st) (.eval (n + 1) fr (.call f args) tail st)
  | namedCall (n) (fr : Frame) (f args tail st) :
      (∀ sn sc, fr.self = some (sn, sc) → (f = sn && (lookup f fr.env).isNone) = false) →
      Sub cfg (.callNamed n fr f args tail st) (.eval (n + 1) fr (.call f args) tail st)
  | callee (n fr fe args tail st) : Sub cfg (.eval n fr fe false st) (.eval (n + 1) fr (.callE fe args) tail st)
  | calleeCall (n fr fe args tail st c st') : Core.eval n cfg fr fe false st = (.val c, st') → c.isErr = false →
      Sub cfg (.callVal n fr c args tail st') (.eval (n + 1) fr (.callE fe args) tail st)
  -- callNamed
  | boundCall (n) (fr : Frame) (f args tail st c) : fr.get f = some c →
      Sub cfg (.callVal n fr c args tail st) (.callNamed (n + 1) fr f args tail st)
  | nativeCall (n) (fr : Frame) (f args tail st) : fr.get f = none →
      Sub cfg (.builtin n fr f args tail st) (.callNamed (n + 1) fr f args tail st)
  -- callVal
  | callArgs (n fr f d env args tail st) :
      Sub cfg (.evalList n fr args st) (.callVal (n + 1) fr (.clos f d env) args tail st)
  | callBody (n) (fr : Frame) (f d env args tail st vs st') : Core.evalList n cfg fr args st = (.ok vs, st') →
      Sub cfg (.callUser n fr.height (.clos f d env) vs st') (.callVal (n + 1) fr (.clos f d env) args tail st)
  -- evalList
  | listHead (n fr e rest st) : Sub cfg (.eval n fr e false st) (.evalList (n + 1) fr (e :: rest) st)
  | listRest (n fr e rest st v st') : Core.eval n cfg fr e false st = (.val v, st') → v.isErr = false →
      Sub cfg (.evalList n fr rest st') (.evalList (n + 1) fr (e :: rest) st)
  -- mkClos
  | closDflts (n fr) (f : Func) (st) : Sub cfg (.evalDflts n fr f.params st) (.mkClos (n + 1) fr f st)
  -- evalDflts
  | dfltSkip (n fr) (p : Param) (rest st) : p.dflt = none →
      Sub cfg (.evalDflts n fr rest st) (.evalDflts (n + 1) fr (p :: rest) st)
  | dfltHead (n fr) (p : Param) (rest st d) : p.dflt = some d →
      Sub cfg (.eval n fr d false st) (.evalDflts (n + 1) fr (p :: rest) st)
  | dfltRest (n fr) (p : Param) (rest st d v st') : p.dflt = some d → Core.eval n cfg fr d false st = (.val v, st') →
      Sub cfg (.evalDflts n fr rest st') (.evalDflts (n + 1) fr (p :: rest) st)
  -- callUser
  | userTramp (n h c args) (st : St) : firstErr args = none → cfg.callLimit = none →
      Sub cfg (.tramp n h c args 0 st) (.callUser (n + 1) h c args st)
  | userTrampCounted (n h c args) (st : St) (l) : firstErr args = none → cfg.callLimit = some l → ¬ (st.calls + 1 ≥ l) →
      Sub cfg (.tramp n h c args 0 { st with calls := st.calls + 1 }) (.callUser (n + 1) h c args st)
  -- tramp
  | bodyDecls (n h) (f : Func) (d env args rec st ps) : depthTrips cfg h = false → bindParams f.params args d = some ps →
      Sub cfg (.evalDecls n (bodyFrame h f d env ps) f.decls st) (.tramp (n + 1) h (.clos f d env) args rec st)
  | bodyExpr (n h) (f : Func) (d env args rec st ps fr' st') : depthTrips cfg h = false → bindParams f.params args d = some ps →
      Core.evalDecls n cfg (bodyFrame h f d env ps) f.decls st = (.ok fr', st') →
      Sub cfg (.eval n fr' f.body true st') (.tramp (n + 1) h (.clos f d env) args rec st)
  | trampLoop (n h) (f : Func) (d env args rec st ps fr' st' newArgs st'') : depthTrips cfg h = false →
      bindParams f.params args d = some ps →
      Core.evalDecls n cfg (bodyFrame h f d env ps) f.decls st = (.ok fr', st') →
      Core.eval n cfg fr' f.body true st' = (.tail newArgs, st'') → recTrips cfg rec = false →
      Sub cfg (.tramp n h (.clos f d env) newArgs (rec + 1) st'') (.tramp (n + 1) h (.clos f d env) args rec st)
  -- evalDecls
  | letRhs (n fr x e rest st) : Sub cfg (.eval n fr e false st) (.evalDecls (n + 1) fr (.letD x e :: rest) st)
  | letRest (n) (fr : Frame) (x e rest st v st') : Core.eval n cfg fr e false st = (.val v, st') →
      Sub cfg (.evalDecls n { fr with env := (x, v) :: fr.env } rest st') (.evalDecls (n + 1) fr (.letD x e :: rest) st)
  | fnClos (n fr f rest st) : Sub cfg (.mkClos n fr f st) (.evalDecls (n + 1) fr (.fnD f :: rest) st)
  | fnRest (n) (fr : Frame) (f : Func) (rest st c st' nm) : Core.mkClos n cfg fr f st = (.val c, st') → f.name = some nm →
      Sub cfg (.evalDecls n { fr with env := (nm, c) :: fr.env } rest st') (.evalDecls (n + 1) fr (.fnD f :: rest) st)
  -- builtin
  | ifCond (n fr c a b tail st) : Sub cfg (.eval n fr c false st) (.builtin (n + 1) fr "if" [c, a, b] tail st)
  | ifBranch (n fr c a b tail st t st') : Core.eval n cfg fr c false st = (.val (.bool t), st') →
      Sub cfg (.eval n fr (if t then a else b) tail st') (.builtin (n + 1) fr "if" [c, a, b] tail st)
  | andFirst (n fr a b tail st) : Sub cfg (.eval n fr a false st) (.builtin (n + 1) fr "and" [a, b] tail st)
  | andSecond (n fr a b tail st st') : Core.eval n cfg fr a false st = (.val (.bool true), st') →
      Sub cfg (.eval n fr b tail st') (.builtin (n + 1) fr "and" [a, b] tail st)
  | orFirst (n fr a b tail st) : Sub cfg (.eval n fr a false st) (.builtin (n + 1) fr "or" [a, b] tail st)
  | orSecond (n fr a b tail st st') : Core.eval n cfg fr a false st = (.val (.bool false), st') →
      Sub cfg (.eval n fr b tail st') (.builtin (n + 1) fr "or" [a, b] tail st)
  | ifErrorFirst (n fr a b tail st) : Sub cfg (.eval n fr a false st) (.builtin (n + 1) fr "if_error" [a, b] tail st)
  | ifErrorSecond (n fr a b tail st m st') : Core.eval n cfg fr a false st = (.val (.err m), st') →
      Sub cfg (.eval n fr b tail st') (.builtin (n + 1) fr "if_error" [a, b] tail st)
  | isErrorArg (n fr a tail st) : Sub cfg (.eval n fr a false st) (.builtin (n + 1) fr "is_error" [a] tail st)
  | displayArg (n fr a tail st) : Sub cfg (.eval n fr a false st) (.builtin (n + 1) fr "display" [a] tail st)
  | strictArgs (n fr f args tail st) : isStrictPrim f = true →
      Sub cfg (.evalList n fr args st) (.builtin (n + 1) fr f args tail st)

/-- `n + 5`: one unit of fuel each for `eval`, `callNamed`, `builtin`, `evalList` and the `eval` of the literal -/
theorem eval_error {fr : Frame} (hfree : fr.get "error" = none) (n : Nat) (cfg : Cfg) (m : String)
    (tail : Bool) (st : St) : eval (n + 5) cfg fr (.call "error" [.str m]) tail st = (.val (.err m), st) := by
  rw [eval_call_unbound hfree, builtin_strict (by decide)]
  rfl

theorem tramp_unfold (n : Nat) (cfg : Cfg) (h : Nat) (f : Func) (d : List Val) (env : List (String × Val))
    (args : List Val) (rec : Nat) (st : St) (ps : List (String × Val))
    (hd : depthTrips cfg h = false) (hb : bindParams f.params args d = some ps) :
    tramp (n + 1) cfg h (.clos f d env) args rec st =
      match evalDecls n cfg (bodyFrame h f d env ps) f.decls st with
      | (.error r, st') => (r, st')
      | (.ok fr', st') =>
        match eval n cfg fr' f.body true st' with
        | (.tail newArgs, st'') =>
            if recTrips cfg rec then (.viol .recursion, st'')
            else tramp n cfg h (.clos f d env) newArgs (rec + 1) st''
        | r => r := by
  rw [tramp]
  unfold depthTrips at hd
  cases hdl : cfg.depthLimit <;> rw [hdl] at hd <;> simp only [hb, hd, Bool.false_eq_true, if_false] <;> rfl

theorem Sub.viol {cfg : Cfg} {c' c : Conf} (hs : Sub cfg c' c) {k : Viol} {s : St}
    (hv : c'.viol cfg k s) : c.viol cfg k s := by
  cases hs <;> dsimp only [Conf.viol] at hv ⊢
  case tupItems => rw [eval_tup, hv]; rfl
  case arrItems => rw [eval_arr, hv]; rfl
  case itemOf => rw [eval_item, hv]; rfl
  case lamClos => rw [Core.eval]; exact hv
  case tailArgs hself hl htco => rw [eval_call, Frame.selfCall_of hself hl, hv]; simp only [htco]; rfl
  case selfCall hself hl ht => rw [eval_call, Frame.selfCall_of hself hl]; simp only [ht]; exact hv
  case namedCall hn => rw [eval_call, Frame.selfCall_none hn]; exact hv
  case callee => rw [eval_callE, hv]; rfl
  case calleeCall c st' h1 h2 =>
    rw [eval_callE, h1]
    cases c <;> first | exact hv | cases h2
  case boundCall hg | nativeCall hg => rw [Core.callNamed]; simp only [hg]; exact hv
  case callArgs => rw [callVal_clos, hv]; rfl
  case callBody h1 => rw [callVal_clos, h1]; exact hv
  case listHead => rw [evalList_cons, hv]; rfl
  case listRest h1 h2 => rw [evalList_cons_val h1 h2, hv]; rfl
  case closDflts => rw [mkClos_succ, hv]; rfl
  case dfltSkip hp => rw [evalDflts_cons]; simp only [hp]; exact hv
  case dfltHead hp => rw [evalDflts_cons]; simp only [hp]; rw [hv]; rfl
  case dfltRest hp h1 => rw [evalDflts_cons]; simp only [hp]; rw [h1]; simp only [onValE]; rw [hv]; rfl
  case userTramp hf hl => rw [callUser_succ]; simp only [hf, hl]; exact hv
  case userTrampCounted hf hl hc => rw [callUser_succ]; simp only [hf, hl, hc, if_false]; exact hv
  case bodyDecls hd hb => rw [tramp_unfold _ _ _ _ _ _ _ _ _ _ hd hb, hv]
  case bodyExpr hd hb h1 => rw [tramp_unfold _ _ _ _ _ _ _ _ _ _ hd hb, h1]; simp only [hv]
  case trampLoop hd hb h1 h2 h3 =>
    rw [tramp_unfold _ _ _ _ _ _ _ _ _ _ hd hb, h1]
    simp only [h2, h3]
    simpa using hv
  case letRhs => rw [evalDecls_letD, hv]; rfl
  case letRest h1 => rw [evalDecls_letD, h1]; exact hv
  case fnClos => rw [evalDecls_fnD, hv]; rfl
  case fnRest h1 hnm => rw [evalDecls_fnD, h1]; simp only [onValE, hnm]; exact hv
  case strictArgs hf => rw [builtin_strict hf]; simp [strictCall, hf, hv]
  case ifCond | andFirst | orFirst | ifErrorFirst | isErrorArg | displayArg => rw [Core.builtin, hv]
  case ifBranch h1 | andSecond h1 | orSecond h1 | ifErrorSecond h1 => rw [Core.builtin, h1]; exact hv


/-- `Within cfg c' c`: the invocation `c'` happens in the dynamic extent of the invocation `c` -/
inductive Within (cfg : Cfg) : Conf → Conf → Prop
  | refl (c : Conf) : Within cfg c c
  | step {c'' c' c : Conf} : Within cfg c'' c' → Sub cfg c' c → Within cfg c'' c

theorem Sub.within {cfg : Cfg} {c' c : Conf} (h : Sub cfg c' c) : Within cfg c' c := .step (.refl _) h

theorem Within.trans {cfg : Cfg} {a b c : Conf} (h1 : Within cfg a b) (h2 : Within cfg b c) : Within cfg a c := by
  induction h2 with
  | refl => exact h1
  | step _ hs ih => exact .step ih hs

theorem Within.viol {cfg : Cfg} {c' c : Conf} (h : Within cfg c' c) {k : Viol} {s : St}
    (hv : c'.viol cfg k s) : c.viol cfg k s := by
  induction h with
  | refl => exact hv
  | step _ hs ih => exact hs.viol ih

theorem within_list_item {cfg : Cfg} {fr : Frame} {k : Nat} {pre : List Expr} {st st1 : St} {vs : List Val}
    (e : Expr) (post : List Expr) (h : SeqVals cfg fr (k + 1 + pre.length) pre st vs st1) :
    Within cfg (.eval k fr e false st1) (.evalList (k + 1 + pre.length) fr (pre ++ e :: post) st) := by
  generalize hn : k + 1 + pre.length = n at h
  induction h generalizing k with
  | nil n st =>
    simp at hn; subst hn
    exact (Sub.listHead k fr e post st).within
  | @cons n e' rest' st st1 st' v vs he hv hs ih =>
    simp only [List.length_cons] at hn
    have hn' : k + 1 + rest'.length = n := by omega
    exact .step (ih hn') (Sub.listRest n fr e' (rest' ++ e :: post) st v st1 he hv)

/-- `SeqDecls cfg n fr ds st fr' st'`: the declarations `ds`, evaluated in order from frame `fr` and
state `st` at the fuel levels `evalDecls n` uses, all succeed, giving frame `fr'` and state `st'` -/
inductive SeqDecls (cfg : Cfg) : Nat → Frame → List Decl → St → Frame → St → Prop
  | nil (n : Nat) (fr : Frame) (st : St) : SeqDecls cfg n fr [] st fr st
  | letD {n : Nat} {fr fr' : Frame} {x : String} {e : Expr} {rest : List Decl} {st st1 st' : St} {v : Val} :
      eval n cfg fr e false st = (.val v, st1) →
      SeqDecls cfg n { fr with env := (x, v) :: fr.env } rest st1 fr' st' →
      SeqDecls cfg (n + 1) fr (.letD x e :: rest) st fr' st'
  | fnD {n : Nat} {fr fr' : Frame} {f : Func} {nm : String} {rest : List Decl} {st st1 st' : St} {c : Val} :
      mkClos n cfg fr f st = (.val c, st1) → f.name = some nm →
      SeqDecls cfg n { fr with env := (nm, c) :: fr.env } rest st1 fr' st' →
      SeqDecls cfg (n + 1) fr (.fnD f :: rest) st fr' st'

theorem evalDecls_append {cfg : Cfg} {fr fr1 : Frame} {k : Nat} {pre : List Decl} {st st1 : St}
    (rest : List Decl) (h : SeqDecls cfg (k + pre.length) fr pre st fr1 st1) :
    evalDecls (k + pre.length) cfg fr (pre ++ rest) st = evalDecls k cfg fr1 rest st1 := by
  generalize hn : k + pre.length = n at h
  induction h generalizing k with
  | nil n fr st => simp at hn; subst hn; simp
  | @letD n fr fr' x e rest' st st1 st' v he hs ih =>
    simp only [List.length_cons] at hn
    have hn' : k + rest'.length = n := by omega
    simp only [List.cons_append]
    rw [evalDecls, he]
    exact ih hn'
  | @fnD n fr fr' f nm rest' st st1 st' c hc hnm hs ih =>
    simp only [List.length_cons] at hn
    have hn' : k + rest'.length = n := by omega
    simp only [List.cons_append]
    rw [evalDecls, hc]
    simp only [hnm]
    exact ih hn'

/-! ## Where violations come from (the converse direction: `Sub` is complete) -/

/-- the three places where a violation is raised: the call counter of `callUser`, the depth check
and the tail-iteration check of `tramp` -/
inductive Origin (cfg : Cfg) : Conf → Viol → St → Prop
  | calls (n h c args) (st : St) (l : Nat) : firstErr args = none → cfg.callLimit = some l → st.calls + 1 ≥ l →
      Origin cfg (.callUser (n + 1) h c args st) .calls { st with calls := st.calls + 1 }
  | depth (n h f d env args rec st) : depthTrips cfg h = true →
      Origin cfg (.tramp (n + 1) h (.clos f d env) args rec st) .depth st
  | recursion (n h) (f : Func) (d env args rec st ps fr' st' newArgs st'') : depthTrips cfg h = false →
      bindParams f.params args d = some ps →
      Core.evalDecls n cfg (bodyFrame h f d env ps) f.decls st = (.ok fr', st') →
      Core.eval n cfg fr' f.body true st' = (.tail newArgs, st'') → recTrips cfg rec = true →
      Origin cfg (.tramp (n + 1) h (.clos f d env) args rec st) .recursion st''

abbrev FromSub (cfg : Cfg) (c : Conf) (k : Viol) (s : St) : Prop := ∃ c', Sub cfg c' c ∧ c'.viol cfg k s

/- In the proofs below `h` says that the function at fuel `n + 1` returns a violation.  Where the function is a
combinator applied to a sub-evaluation (CoreShape), `onVal_eq_viol` … `consOk_eq_viol` give the two cases: the
sub-evaluation returned the violation (a `Sub` constructor), or it delivered and the continuation returned it.
Where `h` is split on the function's own `match`es instead, the arms that return a value or `stuck` are closed by
`cases h`, and `rename_i` names what `split` has introduced, in its order: the variables of the pattern, one
hypothesis for each earlier pattern that does not apply, the equation for the scrutinee. -/

theorem origin_eval {cfg n fr e tail st k s} (h : eval (n + 1) cfg fr e tail st = (.viol k, s)) :
    FromSub cfg (.eval (n + 1) fr e tail st) k s := by
  cases e with
  | int _ | bool _ | str _ => cases h
  | var _ => rw [eval] at h; split at h <;> cases h
  | tup es =>
    rw [eval_tup] at h
    obtain heq | ⟨_, _, _, h⟩ := onOk_eq_viol h
    · exact ⟨_, .tupItems .., heq⟩
    · cases h
  | arr es =>
    rw [eval_arr] at h
    obtain heq | ⟨_, _, _, h⟩ := onOk_eq_viol h
    · exact ⟨_, .arrItems .., heq⟩
    · cases h
  | item e i =>
    rw [eval_item] at h
    obtain heq | ⟨_, _, _, h⟩ := onVal_eq_viol h
    · exact ⟨_, .itemOf .., heq⟩
    · (repeat' split at h) <;> cases h
  | lam f => exact ⟨_, .lamClos .., h⟩
  | callE fe args =>
    rw [eval_callE] at h
    obtain heq | ⟨c, st', heq, h⟩ := onVal_eq_viol h
    · exact ⟨_, .callee .., heq⟩
    · split at h
      · cases h
      · rename_i hne
        exact ⟨_, .calleeCall _ _ _ _ _ _ c st' heq (Val.isErr_eq_false hne), h⟩
  | call f args =>
    rw [eval_call] at h
    split at h
    · rename_i sc hsc
      obtain ⟨hself, hl⟩ := Frame.selfCall_eq_some hsc
      split at h
      · rename_i ht
        simp only [Bool.and_eq_true] at ht
        obtain ⟨rfl, htco⟩ := ht
        obtain heq | ⟨_, _, _, h⟩ := onOk_eq_viol h
        · exact ⟨_, .tailArgs _ _ _ _ _ sc hself hl htco, heq⟩
        · cases h
      · rename_i ht
        exact ⟨_, .selfCall _ _ _ _ _ _ sc hself hl (by simpa using ht), h⟩
    · rename_i hnone
      exact ⟨_, .namedCall _ _ _ _ _ _ fun _ _ => Frame.selfCall_eq_none hnone, h⟩

theorem origin_callNamed {cfg n fr f args tail st k s} (h : callNamed (n + 1) cfg fr f args tail st = (.viol k, s)) :
    FromSub cfg (.callNamed (n + 1) fr f args tail st) k s := by
  rw [callNamed] at h
  split at h
  · rename_i c hg; exact ⟨_, .boundCall _ _ _ _ _ _ c hg, h⟩
  · rename_i hg; exact ⟨_, .nativeCall _ _ _ _ _ _ hg, h⟩

theorem origin_callVal {cfg n fr c args tail st k s} (h : callVal (n + 1) cfg fr c args tail st = (.viol k, s)) :
    FromSub cfg (.callVal (n + 1) fr c args tail st) k s := by
  cases c with
  | clos f d env =>
    rw [callVal_clos] at h
    obtain heq | ⟨vs, st', heq, h⟩ := onOk_eq_viol h
    · exact ⟨_, .callArgs .., heq⟩
    · exact ⟨_, .callBody _ _ _ _ _ _ _ _ vs st' heq, h⟩
  | _ => cases h

theorem origin_evalList {cfg n fr es st k s} (h : evalList (n + 1) cfg fr es st = (.error (.viol k), s)) :
    FromSub cfg (.evalList (n + 1) fr es st) k s := by
  cases es with
  | nil => cases h
  | cons e rest =>
    rw [evalList_cons] at h
    obtain heq | ⟨v, st', heq, h⟩ := onValE_eq_viol h
    · exact ⟨_, .listHead .., heq⟩
    · split at h
      · cases h
      · rename_i hne
        exact ⟨_, .listRest _ _ _ _ _ v st' heq (Val.isErr_eq_false hne), consOk_eq_viol h⟩

theorem origin_mkClos {cfg n fr f st k s} (h : mkClos (n + 1) cfg fr f st = (.viol k, s)) :
    FromSub cfg (.mkClos (n + 1) fr f st) k s := by
  rw [mkClos_succ] at h
  obtain heq | ⟨_, _, _, h⟩ := onOk_eq_viol h
  · exact ⟨_, .closDflts .., heq⟩
  · cases h

theorem origin_evalDflts {cfg n fr ps st k s} (h : evalDflts (n + 1) cfg fr ps st = (.error (.viol k), s)) :
    FromSub cfg (.evalDflts (n + 1) fr ps st) k s := by
  cases ps with
  | nil => cases h
  | cons p rest =>
    rw [evalDflts_cons] at h
    split at h
    · rename_i hp; exact ⟨_, .dfltSkip _ _ _ _ _ hp, h⟩
    · rename_i d hp
      obtain heq | ⟨v, st', heq, h⟩ := onValE_eq_viol h
      · exact ⟨_, .dfltHead _ _ _ _ _ d hp, heq⟩
      · exact ⟨_, .dfltRest _ _ _ _ _ d v st' hp heq, consOk_eq_viol h⟩

theorem origin_callUser {cfg n ht c args st k s} (h : callUser (n + 1) cfg ht c args st = (.viol k, s)) :
    Origin cfg (.callUser (n + 1) ht c args st) k s ∨ FromSub cfg (.callUser (n + 1) ht c args st) k s := by
  rw [callUser] at h
  split at h
  · cases h
  · rename_i hf
    split at h
    · rename_i l hl
      simp only [] at h
      split at h
      · rename_i hc; cases h; exact .inl (.calls _ _ _ _ _ l hf hl hc)
      · rename_i hc; exact .inr ⟨_, .userTrampCounted _ _ _ _ _ l hf hl hc, h⟩
    · rename_i hl; exact .inr ⟨_, .userTramp _ _ _ _ _ hf hl, h⟩

theorem origin_evalDecls {cfg n fr ds st k s} (h : evalDecls (n + 1) cfg fr ds st = (.error (.viol k), s)) :
    FromSub cfg (.evalDecls (n + 1) fr ds st) k s := by
  cases ds with
  | nil => cases h
  | cons d rest =>
    cases d with
    | letD x e =>
      rw [evalDecls_letD] at h
      obtain heq | ⟨v, st', heq, h⟩ := onValE_eq_viol h
      · exact ⟨_, .letRhs .., heq⟩
      · exact ⟨_, .letRest _ _ _ _ _ _ v st' heq, h⟩
    | fnD f =>
      rw [evalDecls_fnD] at h
      obtain heq | ⟨c, st', heq, h⟩ := onValE_eq_viol h
      · exact ⟨_, .fnClos .., heq⟩
      · split at h
        · rename_i nm hnm; exact ⟨_, .fnRest _ _ _ _ _ c st' nm heq hnm, h⟩
        · cases h

theorem tramp_depth (n : Nat) (cfg : Cfg) (h : Nat) (f : Func) (d : List Val) (env : List (String × Val))
    (args : List Val) (rec : Nat) (st : St) (hd : depthTrips cfg h = true) :
    tramp (n + 1) cfg h (.clos f d env) args rec st = (.viol .depth, st) := by
  rw [tramp]
  unfold depthTrips at hd
  cases hdl : cfg.depthLimit <;> simp_all

theorem tramp_arity (n : Nat) (cfg : Cfg) (h : Nat) (f : Func) (d : List Val) (env : List (String × Val))
    (args : List Val) (rec : Nat) (st : St) (hd : depthTrips cfg h = false)
    (hb : bindParams f.params args d = none) :
    tramp (n + 1) cfg h (.clos f d env) args rec st = (.stuck "arity", st) := by
  rw [tramp]
  unfold depthTrips at hd
  cases hdl : cfg.depthLimit <;> simp_all

theorem origin_tramp {cfg n ht c args rec st k s} (h : tramp (n + 1) cfg ht c args rec st = (.viol k, s)) :
    Origin cfg (.tramp (n + 1) ht c args rec st) k s ∨ FromSub cfg (.tramp (n + 1) ht c args rec st) k s := by
  cases c with
  | clos f d env =>
    cases hd : depthTrips cfg ht with
    | true =>
      left
      rw [tramp_depth _ _ _ _ _ _ _ _ _ hd] at h; cases h
      exact Origin.depth n ht f d env args rec st hd
    | false =>
      cases hb : bindParams f.params args d with
      | none =>
        rw [tramp_arity _ _ _ _ _ _ _ _ _ hd hb] at h; cases h
      | some ps =>
        rw [tramp_unfold _ _ _ _ _ _ _ _ _ _ hd hb] at h
        split at h
        · rename_i heq; cases h; exact .inr ⟨_, Sub.bodyDecls n ht f d env args rec st ps hd hb, heq⟩
        · rename_i fr' st' heq
          split at h
          · rename_i newArgs st'' heq2
            cases hr : recTrips cfg rec with
            | true =>
              simp only [hr, if_true] at h; cases h
              exact .inl (Origin.recursion n ht f d env args rec st ps fr' st' newArgs _ hd hb heq heq2 hr)
            | false =>
              simp only [hr, Bool.false_eq_true, if_false] at h
              exact .inr ⟨_, Sub.trampLoop n ht f d env args rec st ps fr' st' newArgs st'' hd hb heq heq2 hr, h⟩
          · exact .inr ⟨_, Sub.bodyExpr n ht f d env args rec st ps fr' st' hd hb heq, h⟩
  | _ => simp [tramp] at h

theorem prim_ne_viol (f : String) (vs : List Val) (k : Viol) : prim f vs ≠ .viol k := by
  -- every arm of `prim` ends in `.val` or `.stuck`
  unfold prim
  split <;> (try split) <;> simp

theorem origin_builtin {cfg n fr f args tail st k s} (h : builtin (n + 1) cfg fr f args tail st = (.viol k, s)) :
    FromSub cfg (.builtin (n + 1) fr f args tail st) k s := by
  rcases builtin_shape f args with ⟨c, a, b, rfl, rfl⟩ | ⟨a, b, rfl, rfl⟩ | ⟨a, b, rfl, rfl⟩ | ⟨a, b, rfl, rfl⟩ |
    ⟨a, rfl, rfl⟩ | ⟨a, rfl, rfl⟩ | hd
  · rw [builtin] at h
    split at h <;> try (cases h; done)
    · rename_i t st' heq; exact ⟨_, .ifBranch _ _ _ _ _ _ _ t st' heq, h⟩
    · exact ⟨_, .ifCond .., h⟩
  · rw [builtin] at h
    split at h <;> try (cases h; done)
    · rename_i st' heq; exact ⟨_, .andSecond _ _ _ _ _ _ st' heq, h⟩
    · exact ⟨_, .andFirst .., h⟩
  · rw [builtin] at h
    split at h <;> try (cases h; done)
    · rename_i st' heq; exact ⟨_, .orSecond _ _ _ _ _ _ st' heq, h⟩
    · exact ⟨_, .orFirst .., h⟩
  · rw [builtin] at h
    split at h <;> try (cases h; done)
    · rename_i m st' heq; exact ⟨_, .ifErrorSecond _ _ _ _ _ _ m st' heq, h⟩
    · exact ⟨_, .ifErrorFirst .., h⟩
  · rw [builtin] at h
    split at h <;> try (cases h; done)
    exact ⟨_, .isErrorArg .., h⟩
  · rw [builtin] at h
    (repeat' split at h) <;> try (cases h; done)
    exact ⟨_, .displayArg .., h⟩
  · rw [hd] at h
    unfold strictCall at h
    split at h
    · rename_i hf
      split at h
      · exact absurd (Prod.mk.inj h).1 (prim_ne_viol f _ k)
      · rename_i heq; cases h; exact ⟨_, .strictArgs _ _ _ _ _ _ hf, heq⟩
    · cases h

def Conf.fuel : Conf → Nat
  | .eval n .. | .callNamed n .. | .callVal n .. | .evalList n .. | .mkClos n .. | .evalDflts n ..
  | .callUser n .. | .tramp n .. | .evalDecls n .. | .builtin n .. => n

theorem Sub.fuel {cfg : Cfg} {c' c : Conf} (h : Sub cfg c' c) : c.fuel = c'.fuel + 1 := by
  cases h <;> rfl

/-- `Sub` misses no call site through which a violation could travel -/
theorem viol_origin_step {cfg : Cfg} {c : Conf} {k : Viol} {s : St} (h : c.viol cfg k s) :
    Origin cfg c k s ∨ FromSub cfg c k s := by
  cases c with
  | eval n fr e tail st => cases n with | zero => cases h | succ n => exact .inr (origin_eval h)
  | callNamed n fr f args tail st => cases n with | zero => cases h | succ n => exact .inr (origin_callNamed h)
  | callVal n fr c args tail st => cases n with | zero => cases h | succ n => exact .inr (origin_callVal h)
  | evalList n fr es st => cases n with | zero => cases h | succ n => exact .inr (origin_evalList h)
  | mkClos n fr f st => cases n with | zero => cases h | succ n => exact .inr (origin_mkClos h)
  | evalDflts n fr ps st => cases n with | zero => cases h | succ n => exact .inr (origin_evalDflts h)
  | callUser n ht c args st => cases n with | zero => cases h | succ n => exact origin_callUser h
  | tramp n ht c args rec st => cases n with | zero => cases h | succ n => exact origin_tramp h
  | evalDecls n fr ds st => cases n with | zero => cases h | succ n => exact .inr (origin_evalDecls h)
  | builtin n fr f args tail st => cases n with | zero => cases h | succ n => exact .inr (origin_builtin h)

theorem viol_origin {cfg : Cfg} {c : Conf} {k : Viol} {s : St} (h : c.viol cfg k s) :
    ∃ c', Within cfg c' c ∧ Origin cfg c' k s := by
  -- by induction on the fuel of `c`, which a sub-evaluation has one less of
  generalize hn : c.fuel = n
  induction n using Nat.strongRecOn generalizing c with
  | _ n ih =>
    rcases viol_origin_step h with ho | ⟨c', hs, hv'⟩
    · exact ⟨c, .refl _, ho⟩
    · obtain ⟨c'', hw, ho⟩ := ih c'.fuel (by have := hs.fuel; omega) hv' rfl
      exact ⟨c'', hw.trans hs.within, ho⟩


/-! ## Syntactic evaluation contexts (the hole in a position of the same frame) -/

inductive Ctx where
  | hole
  | tup (pre : List Expr) (C : Ctx) (post : List Expr)
  | arr (pre : List Expr) (C : Ctx) (post : List Expr)
  | item (C : Ctx) (i : Nat)
  | callee (C : Ctx) (args : List Expr)
  | arg (f : String) (pre : List Expr) (C : Ctx) (post : List Expr)
  | argE (fe : Expr) (pre : List Expr) (C : Ctx) (post : List Expr)

def plug : Ctx → Expr → Expr
  | .hole, e => e
  | .tup pre C post, e => .tup (pre ++ plug C e :: post)
  | .arr pre C post, e => .arr (pre ++ plug C e :: post)
  | .item C i, e => .item (plug C e) i
  | .callee C args, e => .callE (plug C e) args
  | .arg f pre C post, e => .call f (pre ++ plug C e :: post)
  | .argE fe pre C post, e => .callE fe (pre ++ plug C e :: post)

/-- `f(□, post…)` is a native that evaluates its first argument itself -/
def SpecialFirst (f : String) (post : List Expr) : Prop :=
  (f = "if" ∧ ∃ a b, post = [a, b]) ∨ ((f = "and" ∨ f = "or" ∨ f = "if_error") ∧ ∃ b, post = [b]) ∨
  ((f = "is_error" ∨ f = "display") ∧ post = [])

theorem SpecialFirst.sub {f : String} {post : List Expr} (h : SpecialFirst f post) (cfg : Cfg) (n : Nat) (fr : Frame)
    (a : Expr) (tail : Bool) (st : St) :
    Sub cfg (.eval n fr a false st) (.builtin (n + 1) fr f (a :: post) tail st) := by
  rcases h with ⟨rfl, x, y, rfl⟩ | ⟨rfl | rfl | rfl, x, rfl⟩ | ⟨rfl | rfl, rfl⟩
  · exact .ifCond ..
  · exact .andFirst ..
  · exact .orFirst ..
  · exact .ifErrorFirst ..
  · exact .isErrorArg ..
  · exact .displayArg ..

theorem within_call_native {cfg : Cfg} {fr : Frame} {f : String} (h : fr.get f = none) {n : Nat}
    {args : List Expr} {tail : Bool} {st : St} :
    Within cfg (.builtin n fr f args tail st) (.eval (n + 2) fr (.call f args) tail st) := by
  obtain ⟨_, hs⟩ := Frame.get_none h
  refine .step (Sub.nativeCall n fr f args tail st h).within (Sub.namedCall (n + 1) fr f args tail st ?_)
  intro sn sc hself
  have : f ≠ sn := fun hh => hs sn sc hself hh.symm
  simp [this]

theorem within_call_bound {cfg : Cfg} {fr : Frame} {g : String} {c : Val} (h : lookup g fr.env = some c) {n : Nat}
    {args : List Expr} {tail : Bool} {st : St} :
    Within cfg (.callVal n fr c args tail st) (.eval (n + 2) fr (.call g args) tail st) := by
  have hg : fr.get g = some c := by simp [Frame.get, h]
  refine .step (Sub.boundCall n fr g args tail st c hg).within (Sub.namedCall (n + 1) fr g args tail st ?_)
  intro sn sc _
  simp [h]

/- The fuel `F` of `plug C e` in `Reaches`, over the fuel of the hole: an item or callee position costs the one
unit of its `eval` arm; a list position at `evalList (k + 1 + pre.length)` leaves `k` for the hole
(`within_list_item`), and above that `evalList` a tuple, an array or a tail self-call (`eval` goes straight to
`evalList`) adds 1, a computed callee (`eval`, `callVal`) adds 2, a call by name (`eval`, `callNamed`, then
`builtin` or `callVal`) adds 3; the first or the selected argument of a lazy native is evaluated by
`builtin` itself, three units below the call. -/
/-- `Reaches cfg fr C F tail st n tl s`: evaluating `plug C e` with fuel `F`, tail flag `tail`, from
state `st` evaluates the hole's expression `e` with fuel `n`, tail flag `tl`, in state `s` (whatever
`e` is): every item/argument before the hole evaluates to a non-error value, a short-circuit
native selects the hole, … -/
inductive Reaches (cfg : Cfg) (fr : Frame) : Ctx → Nat → Bool → St → Nat → Bool → St → Prop
  | hole (F tl st) : Reaches cfg fr .hole F tl st F tl st
  | tup {k pre post C st vs st1 n tl s} (tail : Bool) : SeqVals cfg fr (k + 1 + pre.length) pre st vs st1 →
      Reaches cfg fr C k false st1 n tl s → Reaches cfg fr (.tup pre C post) (k + 1 + pre.length + 1) tail st n tl s
  | arr {k pre post C st vs st1 n tl s} (tail : Bool) : SeqVals cfg fr (k + 1 + pre.length) pre st vs st1 →
      Reaches cfg fr C k false st1 n tl s → Reaches cfg fr (.arr pre C post) (k + 1 + pre.length + 1) tail st n tl s
  | item {C F st n tl s} (i : Nat) (tail : Bool) : Reaches cfg fr C F false st n tl s →
      Reaches cfg fr (.item C i) (F + 1) tail st n tl s
  | callee {C F st n tl s} (args : List Expr) (tail : Bool) : Reaches cfg fr C F false st n tl s →
      Reaches cfg fr (.callee C args) (F + 1) tail st n tl s
  | strictArg {f k pre post C st vs st1 n tl s} (tail : Bool) : isStrictPrim f = true → fr.get f = none →
      SeqVals cfg fr (k + 1 + pre.length) pre st vs st1 → Reaches cfg fr C k false st1 n tl s →
      Reaches cfg fr (.arg f pre C post) (k + 1 + pre.length + 3) tail st n tl s
  | userArg {g fn d env k pre post C st vs st1 n tl s} (tail : Bool) : lookup g fr.env = some (.clos fn d env) →
      SeqVals cfg fr (k + 1 + pre.length) pre st vs st1 → Reaches cfg fr C k false st1 n tl s →
      Reaches cfg fr (.arg g pre C post) (k + 1 + pre.length + 3) tail st n tl s
  | tailArg {g sc k pre post C st vs st1 n tl s} : fr.self = some (g, sc) → lookup g fr.env = none → cfg.tco = true →
      SeqVals cfg fr (k + 1 + pre.length) pre st vs st1 → Reaches cfg fr C k false st1 n tl s →
      Reaches cfg fr (.arg g pre C post) (k + 1 + pre.length + 1) true st n tl s
  | calleeArg {fe fn d env k pre post C st0 st vs st1 n tl s} (tail : Bool) :
      eval (k + 1 + pre.length + 1) cfg fr fe false st0 = (.val (.clos fn d env), st) →
      SeqVals cfg fr (k + 1 + pre.length) pre st vs st1 → Reaches cfg fr C k false st1 n tl s →
      Reaches cfg fr (.argE fe pre C post) (k + 1 + pre.length + 2) tail st0 n tl s
  | specialFirst {f post C F st n tl s} (tail : Bool) : SpecialFirst f post → fr.get f = none →
      Reaches cfg fr C F false st n tl s → Reaches cfg fr (.arg f [] C post) (F + 3) tail st n tl s
  | ifThen {c b C F tail st st1 n tl s} : fr.get "if" = none → eval F cfg fr c false st = (.val (.bool true), st1) →
      Reaches cfg fr C F tail st1 n tl s → Reaches cfg fr (.arg "if" [c] C [b]) (F + 3) tail st n tl s
  | ifElse {c a C F tail st st1 n tl s} : fr.get "if" = none → eval F cfg fr c false st = (.val (.bool false), st1) →
      Reaches cfg fr C F tail st1 n tl s → Reaches cfg fr (.arg "if" [c, a] C []) (F + 3) tail st n tl s
  | andSecond {c C F tail st st1 n tl s} : fr.get "and" = none → eval F cfg fr c false st = (.val (.bool true), st1) →
      Reaches cfg fr C F tail st1 n tl s → Reaches cfg fr (.arg "and" [c] C []) (F + 3) tail st n tl s
  | orSecond {c C F tail st st1 n tl s} : fr.get "or" = none → eval F cfg fr c false st = (.val (.bool false), st1) →
      Reaches cfg fr C F tail st1 n tl s → Reaches cfg fr (.arg "or" [c] C []) (F + 3) tail st n tl s
  | ifErrorSecond {c m C F tail st st1 n tl s} : fr.get "if_error" = none →
      eval F cfg fr c false st = (.val (.err m), st1) →
      Reaches cfg fr C F tail st1 n tl s → Reaches cfg fr (.arg "if_error" [c] C []) (F + 3) tail st n tl s

theorem Reaches.within {cfg : Cfg} {fr : Frame} {C : Ctx} {F n : Nat} {tail tl : Bool} {st s : St}
    (h : Reaches cfg fr C F tail st n tl s) (e : Expr) :
    Within cfg (.eval n fr e tl s) (.eval F fr (plug C e) tail st) := by
  induction h with
  | hole => exact .refl _
  | tup tail hpre _ ih =>
    exact .step (ih.trans (within_list_item _ _ hpre)) (Sub.tupItems ..)
  | arr tail hpre _ ih =>
    exact .step (ih.trans (within_list_item _ _ hpre)) (Sub.arrItems ..)
  | item i tail _ ih => exact .step ih (Sub.itemOf ..)
  | callee args tail _ ih => exact .step ih (Sub.callee ..)
  | strictArg tail hf hfree hpre _ ih =>
    exact ((ih.trans (within_list_item _ _ hpre)).step (Sub.strictArgs _ _ _ _ tail _ hf)).trans
      (within_call_native hfree)
  | userArg tail hg hpre _ ih =>
    exact ((ih.trans (within_list_item _ _ hpre)).step (Sub.callArgs _ _ _ _ _ _ tail _)).trans
      (within_call_bound hg)
  | tailArg hself hfree htco hpre _ ih =>
    exact (ih.trans (within_list_item _ _ hpre)).step (Sub.tailArgs _ _ _ _ _ _ hself hfree htco)
  | calleeArg tail hfe hpre _ ih =>
    exact ((ih.trans (within_list_item _ _ hpre)).step (Sub.callArgs _ _ _ _ _ _ tail _)).step
      (Sub.calleeCall _ _ _ _ _ _ _ _ hfe rfl)
  | specialFirst tail hsp hfree _ ih =>
    exact (ih.step (hsp.sub cfg _ fr _ tail _)).trans (within_call_native hfree)
  | ifThen hfree hc _ ih =>
    exact (ih.step (Sub.ifBranch _ _ _ _ _ _ _ true _ hc)).trans (within_call_native hfree)
  | ifElse hfree hc _ ih =>
    exact (ih.step (Sub.ifBranch _ _ _ _ _ _ _ false _ hc)).trans (within_call_native hfree)
  | andSecond hfree hc _ ih =>
    exact (ih.step (Sub.andSecond _ _ _ _ _ _ _ hc)).trans (within_call_native hfree)
  | orSecond hfree hc _ ih =>
    exact (ih.step (Sub.orSecond _ _ _ _ _ _ _ hc)).trans (within_call_native hfree)
  | ifErrorSecond hfree hc _ ih =>
    exact (ih.step (Sub.ifErrorSecond _ _ _ _ _ _ _ _ hc)).trans (within_call_native hfree)


end XrayModel.Core
