/- C20 helper lemmas: reading back an escaped JSON string -/

import XrayModel.Conv
namespace XrayModel.Conv

theorem hex_roundtrip : ∀ c : Fin 32, hex4 48 48 (hexDigit (c.val / 16)) (hexDigit (c.val % 16)) = some c.val := by
  decide

/-- one arm `if c = k then [\, e] else …` of `escapeChar`, where `e` is the escape letter of `k` -/
theorem read_escape_arm {c k e : Nat} {rest R acc : List Nat} (h : simpleEscape e = some k) (he : e ≠ 117)
    (hrest : c ≠ k → readStr (rest ++ R) acc = readStr R (c :: acc)) :
    readStr ((if c = k then [92, e] else rest) ++ R) acc = readStr R (c :: acc) := by
  split
  · subst c
    rw [readStr.eq_def]
    simp only [List.cons_append, List.nil_append, show ¬ (92 = 34) by decide, if_false, if_true, he, h]
  · exact hrest ‹_›

theorem read_char (c : Nat) (R acc : List Nat) : readStr (escapeChar c ++ R) acc = readStr R (c :: acc) := by
  unfold escapeChar
  iterate 7 refine read_escape_arm rfl (by decide) fun _ => ?_
  split
  · have hh := hex_roundtrip ⟨c, ‹c < 32›⟩
    simp only at hh
    rw [readStr.eq_def]
    simp only [List.cons_append, List.nil_append, show ¬ (92 = 34) by decide, if_false, if_true, hh]
    rw [if_neg (by omega), if_neg (by omega)]
  · rw [readStr.eq_def]
    simp only [List.cons_append, List.nil_append, ‹c ≠ 34›, ‹c ≠ 92›, ‹¬ c < 32›, if_false]

theorem read_body (s : List Nat) : ∀ acc R, readStr (escapeBody s ++ 34 :: R) acc = some (acc.reverse ++ s, R) := by
  induction s with
  | nil => intro acc R; rw [readStr.eq_def]; simp [escapeBody]
  | cons c cs ih =>
    intro acc R
    simp only [escapeBody, List.append_assoc]
    rw [read_char, ih]
    simp

theorem escapeStr_append (s R : List Nat) : escapeStr s ++ R = 34 :: (escapeBody s ++ 34 :: R) := by
  simp [escapeStr]

theorem hexDigit_ge (n : Nat) : 48 ≤ hexDigit n := by
  unfold hexDigit; split <;> omega

theorem forall_mem_ite {p : Prop} [Decidable p] {a b : List Nat} {P : Nat → Prop}
    (ha : ∀ x ∈ a, P x) (hb : ¬ p → ∀ x ∈ b, P x) : ∀ x ∈ (if p then a else b), P x := by
  split
  · exact ha
  · exact hb ‹_›

end XrayModel.Conv
