/- First facts about the extended evaluator (XrayModel/CoreX.lean): `evalList` hands on error-free values
only, and a strict native yields a value or is stuck. -/
import XrayModel.CoreX
namespace XrayModel.CoreX

theorem Val.isErr_eq_false {v : Val} (h : ∀ m, v ≠ .err m) : v.isErr = false := by
  cases v <;> first | rfl | exact absurd rfl (h _)

theorem firstErr_isErr {vs : List Val} {e : Val} (h : firstErr vs = some e) : e.isErr = true := by
  induction vs with
  | nil => simp [firstErr] at h
  | cons v rest ih =>
    simp only [firstErr] at h
    split at h
    · cases h; assumption
    · exact ih h

theorem firstErr_none_iff (vs : List Val) : firstErr vs = none ↔ ∀ v ∈ vs, v.isErr = false := by
  induction vs with
  | nil => simp [firstErr]
  | cons v rest ih =>
    simp only [firstErr, List.mem_cons, forall_eq_or_imp]
    split
    · simp_all
    · simp_all

theorem evalList_ok_noErr (fuel : Nat) (cfg : Cfg) (fr : Frame) (es : List Expr) (st st' : St) (vs : List Val)
    (h : evalList fuel cfg fr es st = (.ok vs, st')) : ∀ v ∈ vs, v.isErr = false := by
  induction fuel generalizing es st st' vs with
  | zero => rw [evalList] at h; cases h
  | succ n ih =>
    cases es with
    | nil => rw [evalList] at h; cases h; exact fun _ hw => nomatch hw
    | cons e rest =>
      rw [evalList] at h
      split at h
      · cases h
      · rename_i v st1 hne _
        split at h
        · rename_i vs1 st2 hrest
          cases h
          intro w hw
          rcases List.mem_cons.mp hw with rfl | hw
          · exact Val.isErr_eq_false hne
          · exact ih rest st1 _ vs1 hrest w hw
        · rename_i hr
          exact absurd h (hr _ _)
      · cases h
      · cases h

theorem evalList_error_not_value (fuel : Nat) (cfg : Cfg) (fr : Frame) (es : List Expr) (st st' : St) (v : Val)
    (h : evalList fuel cfg fr es st = (.error (.val v), st')) (hv : v.isErr = false) : False := by
  induction fuel generalizing es st st' with
  | zero => rw [evalList] at h; cases h
  | succ n ih =>
    cases es with
    | nil => rw [evalList] at h; cases h
    | cons e rest =>
      simp only [evalList] at h
      split at h
      · simp only [Prod.mk.injEq, Except.error.injEq, Res.val.injEq] at h
        obtain ⟨h1, _⟩ := h
        subst h1
        simp [Val.isErr] at hv
      · split at h
        · cases h
        · exact ih _ _ _ h
      · cases h
      · rename_i r st1 h1 h2 h3 _
        simp only [Prod.mk.injEq, Except.error.injEq] at h
        obtain ⟨h4, _⟩ := h
        exact h2 v h4

theorem getIdx_val (vs : List Val) (i : Int) : ∃ v, getIdx vs i = .val v := by
  unfold getIdx
  simp only []
  repeat' split
  all_goals exact ⟨_, rfl⟩

theorem prim_val_or_stuck (f : String) (vs : List Val) :
    (∃ v, prim f vs = .val v) ∨ ∃ w, prim f vs = .stuck w := by
  unfold prim
  split
  all_goals first
    | exact .inl ⟨_, rfl⟩
    | exact .inr ⟨_, rfl⟩
    | exact .inl (getIdx_val _ _)
    | (split <;> first | exact .inl ⟨_, rfl⟩ | exact .inr ⟨_, rfl⟩)

end XrayModel.CoreX
