/-
compile_correct for programs of `let`s and top-level functions without captures: what the scope model compiles such a
function declaration to (`close_fun`; expressions: `compile_fragF` in XrayProofs/CompileCorrect.lean), the decidable
fragment `progOKF`, and the declaration loop `feed_runF` (XrayProofs/CompileFun.lean has the run-time simulation `SimF`).
-/
import XrayProofs.CompileFun
import XrayProofs.CompileProg
namespace XrayModel.CellRun
open XrayModel.Scope

/-- the static function the compiler makes of `fn name(ps) { body }` (no captures, defaults, local declarations) -/
def cfOf (names : List String) (body : Core.Expr) : CFunc :=
  .mk names.length (List.replicate names.length .var ++ [.recur]) [] (paramDecls 0 names.length)
    (cxf (paramVars names) [] body) []

def subOf (h : Nat) (names : List String) (name : String) : Scope :=
  { cells := List.replicate names.length .var ++ [.recur], vars := paramVars names,
    funcs := [(name, names.length)], recName := some name, height := h + 1, decls := paramDecls 0 names.length }

theorem paramDecls_snoc (i m : Nat) : paramDecls i (m + 1) = paramDecls i m ++ [.param (i + m) (i + m)] := by
  induction m generalizing i with
  | zero => simp [paramDecls]
  | succ k ih =>
    rw [paramDecls, ih (i + 1), paramDecls]
    simp only [List.cons_append]
    have : i + 1 + k = i + (k + 1) := by omega
    rw [this]

theorem addParams_explicit : ∀ (names : List String) (s : Scope) (i : Nat), s.funcs = [] → s.cells.length = i →
    addParams s names i = .ok { s with cells := s.cells ++ List.replicate names.length .var,
                                       vars := paramVarsFrom names i s.vars,
                                       decls := s.decls ++ paramDecls i names.length } := by
  intro names
  induction names with
  | nil => intro s i _ _; simp [addParams, paramVarsFrom, paramDecls]
  | cons x rest ih =>
    intro s i hf hl
    simp only [addParams, addParameter, Scope.hasOverloads, hf, overloadCells]
    simp only [List.isEmpty_nil, Bool.not_true, Bool.false_eq_true, if_false]
    rw [ih _ (i + 1) (by simp) (by simp [hl])]
    simp [paramVarsFrom, paramDecls, List.replicate_succ, hl]

theorem parseDefaults_nodflt : ∀ (fuel : Nat) (pps : List Core.Param) (ps : List Scope) (cur : Scope) (r : List XE × Scope),
    (∀ p ∈ pps, p.dflt = none) → parseDefaults fuel ps cur (ofParams pps) = .ok r → r = ([], cur) := by
  intro fuel
  induction fuel with
  | zero => intro pps ps cur r _ h; cases h
  | succ n ih =>
    intro pps ps cur r hd h
    cases pps with
    | nil => simp only [ofParams, parseDefaults] at h; cases h; rfl
    | cons p rest =>
      obtain ⟨pn, pd⟩ := p
      have : pd = none := by simpa [Core.Param.dflt] using hd (.mk pn pd) (by simp)
      subst this
      simp only [ofParams, parseDefaults] at h
      exact ih rest ps cur r (fun q hq => hd q (by simp [hq])) h

theorem ofParams_names (pps : List Core.Param) (hd : ∀ p ∈ pps, p.dflt = none) :
    (ofParams pps).map SParam.name = pps.map Core.Param.name := by
  induction pps with
  | nil => simp [ofParams]
  | cons p rest ih =>
    obtain ⟨pn, pd⟩ := p
    have : pd = none := by simpa [Core.Param.dflt] using hd (.mk pn pd) (by simp)
    subst this
    simp [ofParams, SParam.name, Core.Param.name, ih (fun q hq => hd q (by simp [hq]))]

theorem ofParams_length (pps : List Core.Param) : (ofParams pps).length = pps.length := by
  induction pps with
  | nil => simp [ofParams]
  | cons p rest ih =>
    obtain ⟨pn, pd⟩ := p
    cases pd <;> simp [ofParams, ih]

theorem fromParent_explicit (cur : Scope) (names : List String) (name : String) (hn : name ∉ names) :
    fromParent cur names name = .ok (subOf cur.height names name) := by
  simp only [fromParent, fromParentLambda]
  rw [addParams_explicit names _ 0 rfl rfl]
  simp only [addRecourse, Scope.hasVariable, List.nil_append]
  have : Scope.lookup name (paramVarsFrom names 0 []) = none := by
    rw [lookup_paramVarsFrom_notin name names 0 [] hn]; rfl
  simp [this, subOf, paramVars]

/-! the compile-time counterpart of `BodyOK`: the callees are bound neither in the body's scope nor in the declaring
scope `cur` -/
mutual
  def BodyC (names : List String) (name : String) (cur : Scope) : Core.Expr → Prop
    | .int _ => True
    | .bool _ => True
    | .str _ => True
    | .var y => y ∈ names
    | .call g args => g ∉ names ∧ g ≠ name ∧ Scope.lookup g cur.vars = none ∧ overloadCells g cur.funcs = [] ∧
        BodyCs names name cur args
    | .tup es => BodyCs names name cur es
    | .arr es => BodyCs names name cur es
    | .item e _ => BodyC names name cur e
    | .callE _ _ => False
    | .lam _ => False
  def BodyCs (names : List String) (name : String) (cur : Scope) : List Core.Expr → Prop
    | [] => True
    | e :: rest => BodyC names name cur e ∧ BodyCs names name cur rest
end

theorem lookup_paramVarsFrom_mem (y : String) : ∀ (names : List String) (i : Nat) (acc : List (String × Nat)),
    y ∈ names → ∃ j, Scope.lookup y (paramVarsFrom names i acc) = some j ∧ i ≤ j ∧ j < i + names.length := by
  intro names
  induction names with
  | nil => intro i acc h; simp at h
  | cons p rest ih =>
    intro i acc hy
    simp only [paramVarsFrom]
    by_cases hr : y ∈ rest
    · obtain ⟨j, h1, h2, h3⟩ := ih (i + 1) ((p, i) :: acc) hr
      exact ⟨j, h1, by omega, by simp only [List.length_cons]; omega⟩
    · have : y = p := by simpa [hr] using hy
      subst this
      rw [lookup_paramVarsFrom_notin y rest _ _ hr]
      exact ⟨i, by simp [Scope.lookup], Nat.le_refl _, by simp⟩

theorem GI_param (cur : Scope) (names : List String) (name : String) (y : String) (hy : y ∈ names) :
    GI [cur] (subOf cur.height names name) (paramVars names) [] y := by
  obtain ⟨j, h1, -, h3⟩ := lookup_paramVarsFrom_mem y names 0 [] hy
  simp only [GI, paramVars, h1]
  have hc : (subOf cur.height names name).cells[j]? = some .var := by
    simp only [subOf]
    rw [List.getElem?_append_left (by simpa using h3)]
    simp [List.getElem?_replicate]; omega
  rw [getItem_var (subOf cur.height names name) [cur] y j (by simpa [subOf, paramVars] using h1) hc]
  simp [subOf, Scope.cellReqs, lookupReqs]

theorem GI_unbound (cur : Scope) (names : List String) (name : String) (g : String) (hg : g ∉ names) (hgn : g ≠ name)
    (hv : Scope.lookup g cur.vars = none) (hf : overloadCells g cur.funcs = []) :
    GI [cur] (subOf cur.height names name) (paramVars names) [] g := by
  have h1 : Scope.lookup g (paramVars names) = none := by
    simp only [paramVars]; rw [lookup_paramVarsFrom_notin g names 0 [] hg]; rfl
  simp only [GI, h1, Scope.lookup]
  simp [getItem, subOf, h1, overloadCells, hgn, hv, hf]

theorem bodyC_cw (cur : Scope) (names : List String) (name : String) :
    (∀ e, BodyC names name cur e → CW [cur] (subOf cur.height names name) (paramVars names) [] e) ∧
    (∀ es, BodyCs names name cur es → CWs [cur] (subOf cur.height names name) (paramVars names) [] es) := by
  apply expr_induct
  case var => exact GI_param cur names name
  case call =>
    intro g args ih h
    simp only [BodyC] at h
    exact ⟨GI_unbound cur names name g h.1 h.2.1 h.2.2.1 h.2.2.2.1, ih h.2.2.2.2⟩
  all_goals intros; simp_all only [BodyC, BodyCs, CW, CWs, and_self]

theorem bodyCs_cw (cur : Scope) (names : List String) (name : String) : (es : List Core.Expr) → BodyCs names name cur es →
    CWs [cur] (subOf cur.height names name) (paramVars names) [] es :=
  (bodyC_cw cur names name).2

theorem close_fun (fuel : Nat) (cur : Scope) (name : String) (pps : List Core.Param) (body : Core.Expr)
    (r : CFunc × Scope) (hd : ∀ p ∈ pps, p.dflt = none) (hn : name ∉ pps.map Core.Param.name) (hb : exprOK body = true)
    (hc : BodyC (pps.map Core.Param.name) name cur body)
    (h : closeFunc fuel [] cur (some name) (.mk (ofParams pps) [] (ofExpr body)) = .ok r) :
    r = (cfOf (pps.map Core.Param.name) body, cur) := by
  cases fuel with
  | zero => cases h
  | succ F =>
    simp only [closeFunc] at h
    split at h
    · cases h
    · rename_i h1
      cases parseDefaults_nodflt F pps [] cur _ hd h1
      -- `compileList` and `feedDecls` need a unit of fuel also for the empty lists of defaults and local declarations
      cases F with
      | zero => cases h
      | succ G =>
        simp only [compileList, ofParams_names pps hd, fromParent_explicit cur _ name hn, feedDecls] at h
        split at h
        · cases h
        · rename_i h2
          cases (parse_frag (G + 1)).1 body hb _ _ _ h2
          split at h
          · cases h
          · rename_i h3
            cases (compile_fragF (G + 1)).1 body _ _ _ _ _ ((bodyC_cw cur _ name).1 body hc) h3
            simp only [Except.ok.injEq] at h
            rw [← h]
            have htc : threadCells (List.replicate pps.length Cell.var ++ [Cell.recur]) cur.cells.length
                = (List.replicate pps.length Cell.var ++ [Cell.recur], []) := by
              apply threadCells_nocap
              intro c hc'
              simp only [List.mem_append, List.mem_replicate, List.mem_cons, List.not_mem_nil, or_false] at hc'
              rcases hc' with ⟨-, rfl⟩ | rfl
              · exact Or.inl rfl
              · exact Or.inr rfl
            simp [intoStaticUd, htc, cfOf, subOf, ofParams_length]

mutual
  /-- expressions at top level: `sig` = the functions declared so far with their arity; a function name is only
  used as a callee, with the right number of arguments -/
  def exprOKF (sig : List (String × Nat)) : Core.Expr → Bool
    | .int _ => true
    | .bool _ => true
    | .str _ => true
    | .var x => (Scope.lookup x sig).isNone
    | .call f args =>
      (match Scope.lookup f sig with
       | some n => args.length == n
       | none => true) && exprsOKF sig args
    | .tup es => exprsOKF sig es
    | .arr es => exprsOKF sig es
    | .item e _ => exprOKF sig e
    | .callE _ _ => false
    | .lam _ => false
  def exprsOKF (sig : List (String × Nat)) : List Core.Expr → Bool
    | [] => true
    | e :: rest => exprOKF sig e && exprsOKF sig rest
end

mutual
  /-- function bodies: variables are parameters, callees are names the program declares nowhere (natives) -/
  def bodyOKB (ps bad : List String) : Core.Expr → Bool
    | .int _ => true
    | .bool _ => true
    | .str _ => true
    | .var y => ps.contains y
    | .call g args => !ps.contains g && !bad.contains g && bodysOKB ps bad args
    | .tup es => bodysOKB ps bad es
    | .arr es => bodysOKB ps bad es
    | .item e _ => bodyOKB ps bad e
    | .callE _ _ => false
    | .lam _ => false
  def bodysOKB (ps bad : List String) : List Core.Expr → Bool
    | [] => true
    | e :: rest => bodyOKB ps bad e && bodysOKB ps bad rest
end

/-- `bad` = every name the program declares -/
def declsOKF (bad : List String) : List (String × Nat) → List Core.Decl → Bool
  | _, [] => true
  | sig, .letD x e :: rest =>
    exprOKF sig e && (Scope.lookup x sig).isNone && bad.contains x && declsOKF bad sig rest
  | sig, .fnD (.mk (some name) ps [] body) :: rest =>
    ps.all (fun p => p.dflt.isNone) && !(ps.map Core.Param.name).contains name && (Scope.lookup name sig).isNone &&
    bad.contains name && bodyOKB (ps.map Core.Param.name) bad body &&
    declsOKF bad ((name, ps.length) :: sig) rest
  | _, .fnD _ :: _ => false

def declNames : List Core.Decl → List String
  | [] => []
  | .letD x _ :: rest => x :: declNames rest
  | .fnD f :: rest => (f.name.getD "") :: declNames rest

def progOKF (ds : List Core.Decl) : Bool := declsOKF (declNames ds) [] ds

theorem exprOKF_exprOK (sig : List (String × Nat)) :
    (∀ e, exprOKF sig e = true → exprOK e = true) ∧ (∀ es, exprsOKF sig es = true → exprsOK es = true) := by
  apply expr_induct <;> intros <;>
    simp_all only [exprOKF, exprsOKF, exprOK, exprsOK, Bool.and_eq_true, and_self, Bool.false_eq_true]

theorem exprsOKF_exprsOK (sig : List (String × Nat)) : (es : List Core.Expr) → exprsOKF sig es = true → exprsOK es = true :=
  (exprOKF_exprOK sig).2

theorem bodyOKB_exprOK (ps bad : List String) :
    (∀ e, bodyOKB ps bad e = true → exprOK e = true) ∧ (∀ es, bodysOKB ps bad es = true → exprsOK es = true) := by
  apply expr_induct <;> intros <;>
    simp_all only [bodyOKB, bodysOKB, exprOK, exprsOK, Bool.and_eq_true, and_self, Bool.false_eq_true]

theorem bodysOKB_exprsOK (ps bad : List String) : (es : List Core.Expr) → bodysOKB ps bad es = true → exprsOK es = true :=
  (bodyOKB_exprOK ps bad).2

theorem bodyOKB_BodyOK (ps bad : List String) (x : String) (envc : List (String × Core.Val)) (hx : x ∈ bad)
    (henv : ∀ g, g ∉ bad → Core.lookup g envc = none) :
    (∀ e, bodyOKB ps bad e = true → BodyOK ps x envc e) ∧ (∀ es, bodysOKB ps bad es = true → BodyOKs ps x envc es) := by
  apply expr_induct
  case call =>
    intro g args ih h
    simp only [bodyOKB, Bool.and_eq_true, Bool.not_eq_true', List.contains_eq_mem, decide_eq_false_iff_not] at h
    exact ⟨h.1.1, fun e => h.1.2 (e ▸ hx), henv g h.1.2, ih h.2⟩
  all_goals intros; simp_all only [bodyOKB, bodysOKB, BodyOK, BodyOKs, Bool.and_eq_true, and_self, Bool.false_eq_true,
    List.contains_eq_mem, decide_eq_true_eq]

theorem bodysOKB_BodyOKs (ps bad : List String) (x : String) (envc : List (String × Core.Val)) (hx : x ∈ bad)
    (henv : ∀ g, g ∉ bad → Core.lookup g envc = none) : (es : List Core.Expr) → bodysOKB ps bad es = true → BodyOKs ps x envc es :=
  (bodyOKB_BodyOK ps bad x envc hx henv).2

theorem bodyOKB_BodyC (ps bad : List String) (x : String) (cur : Scope) (hx : x ∈ bad)
    (hv : ∀ g, g ∉ bad → Scope.lookup g cur.vars = none) (hf : ∀ g, g ∉ bad → overloadCells g cur.funcs = []) :
    (∀ e, bodyOKB ps bad e = true → BodyC ps x cur e) ∧ (∀ es, bodysOKB ps bad es = true → BodyCs ps x cur es) := by
  apply expr_induct
  case call =>
    intro g args ih h
    simp only [bodyOKB, Bool.and_eq_true, Bool.not_eq_true', List.contains_eq_mem, decide_eq_false_iff_not] at h
    exact ⟨h.1.1, fun e => h.1.2 (e ▸ hx), hv g h.1.2, hf g h.1.2, ih h.2⟩
  all_goals intros; simp_all only [bodyOKB, bodysOKB, BodyC, BodyCs, Bool.and_eq_true, and_self, Bool.false_eq_true,
    List.contains_eq_mem, decide_eq_true_eq]

theorem bodysOKB_BodyCs (ps bad : List String) (x : String) (cur : Scope) (hx : x ∈ bad)
    (hv : ∀ g, g ∉ bad → Scope.lookup g cur.vars = none) (hf : ∀ g, g ∉ bad → overloadCells g cur.funcs = []) :
    (es : List Core.Expr) → bodysOKB ps bad es = true → BodyCs ps x cur es :=
  (bodyOKB_BodyC ps bad x cur hx hv hf).2

structure InvC (bad : List String) (sig : List (String × Nat)) (cur : Scope) : Prop where
  height : cur.height = 0
  forwards : cur.forwards = []
  reqs : ∀ k, cur.cellReqs k = []
  allVar : ∀ c ∈ cur.cells, c = .var
  varsLt : ∀ x k, Scope.lookup x cur.vars = some k → k < cur.cells.length
  funs : ∀ x k, Scope.lookup x cur.funcs = some k →
    k < cur.cells.length ∧ overloadCells x cur.funcs = [k] ∧ Scope.lookup x cur.vars = none
  varsBad : ∀ x k, Scope.lookup x cur.vars = some k → x ∈ bad
  funsBad : ∀ x k, Scope.lookup x cur.funcs = some k → x ∈ bad
  funsig : ∀ x, (Scope.lookup x cur.funcs).isSome = (Scope.lookup x sig).isSome

theorem invC_notFun {bad : List String} {sig : List (String × Nat)} {cur : Scope} (inv : InvC bad sig cur) {x : String}
    (h : Scope.lookup x sig = none) : Scope.lookup x cur.funcs = none := by
  have := inv.funsig x
  rw [h] at this
  cases hq : Scope.lookup x cur.funcs with
  | none => rfl
  | some k => rw [hq] at this; simp at this

theorem invC_unbound {bad : List String} {sig : List (String × Nat)} {cur : Scope} (inv : InvC bad sig cur) {g : String}
    (hg : g ∉ bad) : Scope.lookup g cur.vars = none ∧ overloadCells g cur.funcs = [] := by
  constructor
  · cases hq : Scope.lookup g cur.vars with
    | none => rfl
    | some k => exact absurd (inv.varsBad g k hq) hg
  · apply overloadCells_of_lookup_none
    cases hq : Scope.lookup g cur.funcs with
    | none => rfl
    | some k => exact absurd (inv.funsBad g k hq) hg

theorem cells_var_of_lt (cur : Scope) (h : ∀ c ∈ cur.cells, c = .var) (k : Nat) (hk : k < cur.cells.length) :
    cur.cells[k]? = some .var := by
  have : cur.cells[k]? = some cur.cells[k] := by simp [hk]
  rw [this, h _ (List.getElem_mem hk)]

theorem GI_root (bad : List String) (sig : List (String × Nat)) (cur : Scope) (inv : InvC bad sig cur) (x : String) :
    GI [] cur cur.vars cur.funcs x := by
  simp only [GI]
  cases hv : Scope.lookup x cur.vars with
  | some k =>
    simp only []
    rw [getItem_var cur [] x k hv (cells_var_of_lt cur inv.allVar k (inv.varsLt x k hv)), inv.reqs]
  | none =>
    cases hf : Scope.lookup x cur.funcs with
    | some k =>
      obtain ⟨hlt, hov, -⟩ := inv.funs x k hf
      simp [getItem, hv, hov, candsOf, cells_var_of_lt cur inv.allVar k hlt, inv.reqs, Except.map]
    | none =>
      simp [getItem, hv, overloadCells_of_lookup_none x _ hf]

theorem cws_root (bad : List String) (sig : List (String × Nat)) (cur : Scope) (inv : InvC bad sig cur) :
    (es : List Core.Expr) → exprsOK es = true → CWs [] cur cur.vars cur.funcs es :=
  (cw_of_GI [] cur cur.vars cur.funcs (GI_root bad sig cur inv)).2

structure InvR (bad : List String) (sig : List (String × Nat)) (fr : Core.Frame) (cur : Scope) (rfr : RFrame) (N : Nat) : Prop where
  self : fr.self = none
  height : rfr.height = fr.height
  tid : rfr.tmpl.id = []
  rel : ∀ x, RelAt ⟨fr, cur.vars, cur.funcs, rfr⟩ x
  names : ∀ x v, Core.lookup x fr.env = some v → x ∈ bad
  sigOK : ∀ x, match Scope.lookup x sig with
    | some n => ∃ f envc, Core.lookup x fr.env = some (.clos f [] envc) ∧ f.params.length = n
    | none => ∀ v, Core.lookup x fr.env = some v → closFree v = true
  uninit : ∀ k, cur.cells.length ≤ k → k < N → rfr.cells[k]? = some (.owned .uninit)

theorem wf_root (bad : List String) (sig : List (String × Nat)) (fr : Core.Frame) (cur : Scope) (rfr : RFrame) (N : Nat)
    (inv : InvR bad sig fr cur rfr N) :
    (∀ e, exprOKF sig e = true → WF ⟨fr, cur.vars, cur.funcs, rfr⟩ e) ∧
    (∀ es, exprsOKF sig es = true → WFs ⟨fr, cur.vars, cur.funcs, rfr⟩ es) := by
  apply expr_induct
  case var =>
    intro x h
    simp only [exprOKF, Option.isNone_iff_eq_none] at h
    have := inv.sigOK x
    rw [h] at this
    exact ⟨this, inv.rel x⟩
  case call =>
    intro f args ih h
    simp only [exprOKF, Bool.and_eq_true] at h
    refine ⟨inv.rel f, ?_, inv.height, ih h.2⟩
    -- a closure under `f` is one of the declared functions, called with its arity
    intro fc ds envc hl
    have := inv.sigOK f
    cases hs : Scope.lookup f sig with
    | some n =>
      rw [hs] at this
      obtain ⟨f0, envc0, hl0, hn⟩ := this
      cases hl.symm.trans hl0
      have h1 := h.1
      rw [hs] at h1
      rw [hn]; exact (by simpa using h1 : args.length = n).symm
    | none =>
      rw [hs] at this
      simpa [closFree] using this _ hl
  all_goals intros; simp_all only [exprOKF, exprsOKF, WF, WFs, Bool.and_eq_true, and_self, Bool.false_eq_true]

theorem wfs_root (bad : List String) (sig : List (String × Nat)) (fr : Core.Frame) (cur : Scope) (rfr : RFrame) (N : Nat)
    (inv : InvR bad sig fr cur rfr N) : (es : List Core.Expr) → exprsOKF sig es = true → WFs ⟨fr, cur.vars, cur.funcs, rfr⟩ es :=
  (wf_root bad sig fr cur rfr N inv).2

theorem core_evalDflts_none (cfg : Core.Cfg) (fr : Core.Frame) (st : St) : ∀ (F : Nat) (ps : List Core.Param),
    (∀ p ∈ ps, p.dflt = none) →
    Core.evalDflts F cfg fr ps st = if ps.length < F then (.ok [], st) else (.error .oof, st) := by
  intro F
  induction F with
  | zero => intro ps _; simp [Core.evalDflts]
  | succ m ih =>
    intro ps hd
    cases ps with
    | nil => simp [Core.evalDflts]
    | cons p rest =>
      have hp : p.dflt = none := hd p (by simp)
      simp only [Core.evalDflts, hp, ih rest (fun q hq => hd q (by simp [hq])), List.length_cons]
      by_cases h : rest.length < m <;> simp [h]

theorem cell_evalDflts_skip (cfg : Core.Cfg) (fr : RFrame) (st : St) : ∀ (F skip : Nat),
    evalDflts F cfg fr skip [] st = if skip < F then (.ok [], st) else (.error .oof, st) := by
  intro F
  induction F with
  | zero => intro skip; simp [evalDflts]
  | succ m ih =>
    intro skip
    cases skip with
    | zero => simp [evalDflts]
    | succ s =>
      simp only [evalDflts, ih s]
      by_cases h : s < m <;> simp [h]

theorem fromSpecs_fun (n : Nat) (fr : RFrame) :
    fromSpecs (List.replicate n Cell.var ++ [Cell.recur]) (some fr) = .ok (List.replicate n ECell.uninit ++ [ECell.localRec]) := by
  induction n with
  | zero => simp [fromSpecs, fromSpec]
  | succ m ih => simp [List.replicate_succ, fromSpecs, fromSpec, ih]

theorem mk_both (cfg : Core.Cfg) (F : Nat) (fr : Core.Frame) (rfr : RFrame) (st : St) (name : String)
    (ps : List Core.Param) (body : Core.Expr) (k : Nat) (hd : ∀ p ∈ ps, p.dflt = none) (hs : fr.self = none)
    (hid : rfr.tmpl.id = []) :
    (Core.mkClos F cfg fr (.mk (some name) ps [] body) st =
      if ps.length + 1 < F then (.val (.clos (.mk (some name) ps [] body) [] fr.env), st) else (.oof, st)) ∧
    (mkTemplate F cfg rfr k (cfOf (ps.map Core.Param.name) body) st =
      if ps.length + 1 < F then (.val (.fn (tmplOf k (.mk (some name) ps [] body))), st) else (.oof, st)) := by
  cases F with
  | zero => simp [Core.mkClos, mkTemplate]
  | succ G =>
    constructor
    · simp only [Core.mkClos, Core.Func.params, core_evalDflts_none cfg fr st G ps hd, hs]
      by_cases h : ps.length < G <;> simp [h]
    · simp only [mkTemplate, cfOf, CFunc.cells, CFunc.defaults, CFunc.paramLen, CFunc.decls, CFunc.out,
        List.length_map, fromSpecs_fun, List.length_nil, Nat.sub_zero, cell_evalDflts_skip cfg rfr st G ps.length, hid]
      by_cases h : ps.length < G <;> simp [h, tmplOf, Core.Func.params, Core.Func.body]

def sigAfter : List (String × Nat) → List Core.Decl → List (String × Nat)
  | sig, [] => sig
  | sig, .letD _ _ :: rest => sigAfter sig rest
  | sig, .fnD f :: rest => sigAfter ((f.name.getD "", f.params.length) :: sig) rest

def DeclRelF (bad : List String) (sigF : List (String × Nat)) (root : Scope)
    (a : Except Core.Res Core.Frame × St) (b : Except CRes RFrame × St) : Prop :=
  a.2 = b.2 ∧
  match a.1, b.1 with
  | .ok fr, .ok rfr => InvR bad sigF fr root rfr root.cells.length
  | .error r, .error r' => r' = cr r
  | _, _ => False

/-- the common part of `invR_let` and `invR_fn`: one more top-level binding `x ↦ w`, kept in the first free cell as `c` -/
theorem invR_bind (bad : List String) (sig sig' : List (String × Nat)) (fr : Core.Frame) (cur cur' : Scope)
    (cells0 : List TCell) (h0 : Nat) (sp0 : Option RFrame) (t0 : Tmpl) (N : Nat)
    (inv : InvR bad sig fr cur (.mk cells0 h0 sp0 t0) N) (x : String) (w : Core.Val) (c : CVal)
    (hb : x ∈ bad) (hN : cur.cells.length < N) (hc : cur'.cells = cur.cells ++ [.var])
    (hv : ∀ y, y ≠ x → Scope.lookup y cur'.vars = Scope.lookup y cur.vars)
    (hf : ∀ y, y ≠ x → Scope.lookup y cur'.funcs = Scope.lookup y cur.funcs)
    (hs : ∀ y, y ≠ x → Scope.lookup y sig' = Scope.lookup y sig)
    (hnew : (closFree w = true ∧ Scope.lookup x cur'.vars = some cur.cells.length ∧ c = ofCore w ∧
              Scope.lookup x sig' = none) ∨
            (∃ f envc, w = .clos f [] envc ∧ FunOK x f envc ∧ Scope.lookup x cur'.vars = none ∧
              Scope.lookup x cur'.funcs = some cur.cells.length ∧ c = .fn (tmplOf cur.cells.length f) ∧
              Scope.lookup x sig' = some f.params.length)) :
    InvR bad sig' { fr with env := (x, w) :: fr.env } cur'
      (.mk (cells0.set cur.cells.length (.owned (.value c))) h0 sp0 t0) N := by
  have hn := inv.uninit cur.cells.length (Nat.le_refl _) hN
  simp only [RFrame.cells] at hn
  have hlt : cur.cells.length < cells0.length := (List.getElem?_eq_some_iff.mp hn).1
  have hset : (cells0.set cur.cells.length (.owned (.value c)))[cur.cells.length]? = some (TCell.owned (.value c)) := by
    rw [List.getElem?_set]; simp [hlt]
  -- a cell that holds a value already is not the free one
  have hkeep : ∀ (k : Nat) (e : CVal), cells0[k]? = some (TCell.owned (.value e)) →
      (cells0.set cur.cells.length (.owned (.value c)))[k]? = some (TCell.owned (.value e)) := by
    intro k e hk
    have hne : cur.cells.length ≠ k := by intro e'; rw [e', hk] at hn; cases hn
    rw [List.getElem?_set_ne hne]; exact hk
  refine ⟨inv.self, inv.height, inv.tid, ?_, ?_, ?_, ?_⟩
  · intro y
    refine ⟨fun n c hs => (by rw [inv.self] at hs; cases hs), ?_⟩
    by_cases hy : y = x
    · subst hy
      simp only [Core.lookup, if_true, RFrame.cells]
      rcases hnew with ⟨h1, h2, rfl, -⟩ | ⟨f, envc, rfl, h2, h3, h4, rfl, -⟩
      · exact Or.inl ⟨h1, _, h2, hset⟩
      · exact Or.inr ⟨f, envc, _, rfl, h2, h3, h4, hset⟩
    · have old := (inv.rel y).2
      simp only [Core.lookup, hy, if_false, RFrame.cells, hv y hy, hf y hy] at old ⊢
      cases hl : Core.lookup y fr.env with
      | none => rw [hl] at old; exact old
      | some u =>
        rw [hl] at old
        rcases old with ⟨hu, k, hk, hc⟩ | ⟨f, envc, k, he, hfun, hvn, hfk, hc⟩
        · exact Or.inl ⟨hu, k, hk, hkeep k _ hc⟩
        · exact Or.inr ⟨f, envc, k, he, hfun, hvn, hfk, hkeep k _ hc⟩
  · intro y u hl
    simp only [Core.lookup] at hl
    split at hl
    · rename_i e; rw [e]; exact hb
    · exact inv.names y u hl
  · intro y
    by_cases hy : y = x
    · subst hy
      simp only [Core.lookup, if_true]
      rcases hnew with ⟨h1, -, -, h4⟩ | ⟨f, envc, rfl, -, -, -, -, h4⟩
      · rw [h4]; intro u hu; cases hu; exact h1
      · rw [h4]; exact ⟨f, envc, rfl, rfl⟩
    · have old := inv.sigOK y
      simpa only [Core.lookup, hy, if_false, hs y hy] using old
  · intro k hk1 hk2
    simp only [RFrame.cells]
    rw [hc] at hk1
    simp only [List.length_append, List.length_cons, List.length_nil] at hk1
    rw [List.getElem?_set_ne (by omega)]
    exact inv.uninit k (by omega) hk2

theorem invR_let (bad : List String) (sig : List (String × Nat)) (fr : Core.Frame) (cur : Scope)
    (cells0 : List TCell) (h0 : Nat) (sp0 : Option RFrame) (t0 : Tmpl) (N : Nat)
    (inv : InvR bad sig fr cur (.mk cells0 h0 sp0 t0) N) (x : String) (v : Core.Val) (hv : closFree v = true)
    (hx : Scope.lookup x sig = none) (hb : x ∈ bad) (hN : cur.cells.length < N) (cur3 : Scope)
    (hc3 : cur3.cells = cur.cells ++ [.var]) (hv3 : cur3.vars = (x, cur.cells.length) :: cur.vars)
    (hf3 : cur3.funcs = cur.funcs) :
    InvR bad sig { fr with env := (x, v) :: fr.env } cur3
      (.mk (cells0.set cur.cells.length (.owned (.value (ofCore v)))) h0 sp0 t0) N :=
  invR_bind bad sig sig fr cur cur3 cells0 h0 sp0 t0 N inv x v _ hb hN hc3
    (fun y hy => by simp [hv3, Scope.lookup, hy]) (fun y _ => by rw [hf3]) (fun _ _ => rfl)
    (Or.inl ⟨hv, by simp [hv3, Scope.lookup], rfl, hx⟩)

theorem invR_fn (bad : List String) (sig : List (String × Nat)) (fr : Core.Frame) (cur : Scope)
    (cells0 : List TCell) (h0 : Nat) (sp0 : Option RFrame) (t0 : Tmpl) (N : Nat)
    (inv : InvR bad sig fr cur (.mk cells0 h0 sp0 t0) N) (name : String) (ps : List Core.Param) (body : Core.Expr)
    (hd : ∀ p ∈ ps, p.dflt = none) (hnn : name ∉ ps.map Core.Param.name)
    (hb : name ∈ bad) (hbody : bodyOKB (ps.map Core.Param.name) bad body = true) (hN : cur.cells.length < N)
    (cur2 : Scope) (hc2 : cur2.cells = cur.cells ++ [.var]) (hv2 : cur2.vars = cur.vars)
    (hf2 : cur2.funcs = cur.funcs ++ [(name, cur.cells.length)])
    (hvn : Scope.lookup name cur.vars = none) (hfn : Scope.lookup name cur.funcs = none) :
    InvR bad ((name, ps.length) :: sig)
      { fr with env := (name, .clos (.mk (some name) ps [] body) [] fr.env) :: fr.env } cur2
      (.mk (cells0.set cur.cells.length (.owned (.value (.fn (tmplOf cur.cells.length (.mk (some name) ps [] body))))))
        h0 sp0 t0) N := by
  have hfun : FunOK name (.mk (some name) ps [] body) fr.env := by
    refine ⟨rfl, rfl, hd, hnn, ?_⟩
    apply (bodyOKB_BodyOK _ bad name fr.env hb _).1 body hbody
    intro g hg
    cases hl : Core.lookup g fr.env with
    | none => rfl
    | some w => exact absurd (inv.names g w hl) hg
  refine invR_bind bad sig _ fr cur cur2 cells0 h0 sp0 t0 N inv name _ _ hb hN hc2 (fun y _ => by rw [hv2]) ?_
    (fun y hy => by simp [Scope.lookup, hy])
    (Or.inr ⟨_, _, rfl, hfun, by rw [hv2]; exact hvn, by rw [hf2, lookup_append_or, hfn]; simp [Scope.lookup], rfl,
      by simp [Scope.lookup, Core.Func.params]⟩)
  intro y hy
  rw [hf2, lookup_append_or]
  cases Scope.lookup y cur.funcs <;> simp [Scope.lookup, hy]

theorem invC_let (bad : List String) (sig : List (String × Nat)) (cur cur3 : Scope) (inv : InvC bad sig cur) (x : String)
    (hx : Scope.lookup x sig = none) (hb : x ∈ bad)
    (hc : cur3.cells = cur.cells ++ [.var]) (hv : cur3.vars = (x, cur.cells.length) :: cur.vars)
    (hf : cur3.funcs = cur.funcs) (hfw : cur3.forwards = cur.forwards) (hr : cur3.reqs = cur.reqs)
    (hh : cur3.height = cur.height) : InvC bad sig cur3 := by
  have hxf := invC_notFun inv hx
  refine ⟨by rw [hh, inv.height], by rw [hfw, inv.forwards], ?_, ?_, ?_, ?_, ?_, ?_, ?_⟩
  · intro k; simp only [Scope.cellReqs, hr]; exact inv.reqs k
  · intro c hc'
    rw [hc] at hc'
    simp only [List.mem_append, List.mem_cons, List.not_mem_nil, or_false] at hc'
    rcases hc' with h | h
    · exact inv.allVar c h
    · exact h
  · intro y k h
    rw [hv] at h
    rw [hc]
    simp only [Scope.lookup] at h
    simp only [List.length_append, List.length_cons, List.length_nil]
    split at h
    · cases h; omega
    · have := inv.varsLt y k h; omega
  · intro y k h
    rw [hf] at h
    obtain ⟨h1, h2, h3⟩ := inv.funs y k h
    have hyx : y ≠ x := by intro e; rw [e, hxf] at h; cases h
    refine ⟨by rw [hc]; simp only [List.length_append, List.length_cons, List.length_nil]; omega, by rw [hf]; exact h2, ?_⟩
    rw [hv]; simp [Scope.lookup, hyx, h3]
  · intro y k h
    rw [hv] at h
    simp only [Scope.lookup] at h
    split at h
    · rename_i e; rw [e]; exact hb
    · exact inv.varsBad y k h
  · intro y k h; rw [hf] at h; exact inv.funsBad y k h
  · intro y; rw [hf]; exact inv.funsig y

theorem invC_fn (bad : List String) (sig : List (String × Nat)) (cur cur2 : Scope) (inv : InvC bad sig cur) (name : String)
    (n : Nat) (hx : Scope.lookup name sig = none) (hb : name ∈ bad) (hvn : Scope.lookup name cur.vars = none)
    (hc : cur2.cells = cur.cells ++ [.var]) (hv : cur2.vars = cur.vars)
    (hf : cur2.funcs = cur.funcs ++ [(name, cur.cells.length)]) (hfw : cur2.forwards = cur.forwards)
    (hr : cur2.reqs = (cur.cells.length, []) :: cur.reqs) (hh : cur2.height = cur.height) :
    InvC bad ((name, n) :: sig) cur2 := by
  have hxf := invC_notFun inv hx
  have hlk : ∀ y, Scope.lookup y (cur.funcs ++ [(name, cur.cells.length)]) =
      if y = name then some cur.cells.length else Scope.lookup y cur.funcs := by
    intro y
    rw [lookup_append_or]
    by_cases hy : y = name
    · subst hy; simp [hxf, Scope.lookup]
    · cases Scope.lookup y cur.funcs <;> simp [Scope.lookup, hy]
  refine ⟨by rw [hh, inv.height], by rw [hfw, inv.forwards], ?_, ?_, ?_, ?_, ?_, ?_, ?_⟩
  · intro k
    simp only [Scope.cellReqs, hr, lookupReqs]
    split
    · rfl
    · exact inv.reqs k
  · intro c hc'
    rw [hc] at hc'
    simp only [List.mem_append, List.mem_cons, List.not_mem_nil, or_false] at hc'
    rcases hc' with h | h
    · exact inv.allVar c h
    · exact h
  · intro y k h
    rw [hv] at h
    have := inv.varsLt y k h
    rw [hc]; simp only [List.length_append, List.length_cons, List.length_nil]; omega
  · intro y k h
    rw [hf, hlk] at h
    rw [hc, hf, hv, overloadCells_append]
    simp only [List.length_append, List.length_cons, List.length_nil]
    by_cases hy : y = name
    · subst hy
      simp only [if_true, Option.some.injEq] at h
      subst h
      refine ⟨by omega, ?_, hvn⟩
      simp [overloadCells_of_lookup_none _ _ hxf, overloadCells]
    · simp only [hy, if_false] at h
      obtain ⟨h1, h2, h3⟩ := inv.funs y k h
      refine ⟨by omega, ?_, h3⟩
      simp [h2, overloadCells, hy]
  · intro y k h; rw [hv] at h; exact inv.varsBad y k h
  · intro y k h
    rw [hf, hlk] at h
    by_cases hy : y = name
    · rw [hy]; exact hb
    · simp only [hy, if_false] at h; exact inv.funsBad y k h
  · intro y
    rw [hf, hlk]
    by_cases hy : y = name
    · simp [hy, Scope.lookup]
    · simp only [hy, if_false, Scope.lookup]; exact inv.funsig y

def fnScope (cur : Scope) (name : String) (f : CFunc) : Scope :=
  { cur with cells := cur.cells ++ [.var], reqs := (cur.cells.length, []) :: cur.reqs,
             funcs := cur.funcs ++ [(name, cur.cells.length)], decls := cur.decls ++ [.func cur.cells.length f] }

theorem addStaticFunc_ok (cur : Scope) (name : String) (names : List String) (body : Core.Expr)
    (hv : Scope.lookup name cur.vars = none) (hf : cur.forwards = []) :
    addStaticFunc cur name (cfOf names body) = .ok (fnScope cur name (cfOf names body)) := by
  simp [addStaticFunc, Scope.hasVariable, hv, hf, fulfil, fnScope, cfOf, CFunc.freqs]

/-- As `feed_run`, with the signature general too.  `D`: one `Value` per `let`, one `Function` per `fn`; that it does not
start with a `Parameter` declaration is for `runRoot_allVar`. -/
theorem feed_runF (cfg : Core.Cfg) (bad : List String) : ∀ (ds : List Core.Decl) (sig : List (String × Nat)) (cf : Nat)
    (cur root : Scope), declsOKF bad sig ds = true → InvC bad sig cur → feedDecls cf [] cur (ofDecls ds) = .ok root →
    InvC bad (sigAfter sig ds) root ∧ cur.cells.length ≤ root.cells.length ∧ ∃ D, root.decls = cur.decls ++ D ∧
    (∀ c a rest, D ≠ .param c a :: rest) ∧
    ∀ (fuel : Nat) (fr : Core.Frame) (rfr : RFrame) (st : St) (args : List CVal),
      InvR bad sig fr cur rfr root.cells.length →
      DeclRelF bad (sigAfter sig ds) root (Core.evalDecls fuel cfg fr ds st) (runDecls fuel cfg rfr D args st) := by
  intro ds
  induction ds with
  | nil =>
    intro sig cf cur root _ invc h
    cases cf with
    | zero => cases h
    | succ c =>
      simp only [ofDecls, feedDecls, Except.ok.injEq] at h
      subst h
      refine ⟨invc, Nat.le_refl _, [], by simp, (fun c a rest e => by cases e), ?_⟩
      intro fuel fr rfr st args invr
      cases fuel with
      | zero => simp [DeclRelF, Core.evalDecls, runDecls, cr]
      | succ F => simpa [DeclRelF, Core.evalDecls, runDecls, sigAfter] using invr
  | cons d rest ih =>
    intro sig cf cur root hok invc h
    cases d with
    | letD x e =>
      simp only [declsOKF, Bool.and_eq_true, Option.isNone_iff_eq_none, List.contains_eq_mem, decide_eq_true_eq] at hok
      obtain ⟨⟨⟨hoe, hxs⟩, hxb⟩, hrest⟩ := hok
      cases cf with
      | zero => cases h
      | succ c =>
        simp only [ofDecls, feedDecls] at h
        split at h
        · cases h
        · rename_i hp
          have hoe' := (exprOKF_exprOK sig).1 e hoe
          cases (parse_frag c).1 e hoe' [] cur _ hp
          split at h
          · cases h
          · rename_i hc
            cases (compile_fragF c).1 e [] cur cur.vars cur.funcs _
              ((cw_of_GI [] cur cur.vars cur.funcs (GI_root bad sig cur invc)).1 e hoe') hc
            rw [addVariable_ok cur x _ (invC_notFun invc hxs)] at h
            have inv3 := invC_let bad sig cur (letScope cur x (cxf cur.vars cur.funcs e)) invc x hxs hxb rfl rfl rfl rfl rfl rfl
            obtain ⟨invC', hlen, D', hD', hnp, hsim⟩ := ih sig c _ root hrest inv3 h
            simp only [letScope, List.length_append, List.length_cons, List.length_nil] at hlen
            refine ⟨by simpa [sigAfter] using invC', by omega,
              .value cur.cells.length (cxf cur.vars cur.funcs e) :: D', by rw [hD']; simp [letScope],
              (fun c a r e' => by cases e'), ?_⟩
            intro fuel fr rfr st args invr
            obtain ⟨cells0, h0, sp0, t0⟩ := rfr
            cases fuel with
            | zero => simp [DeclRelF, Core.evalDecls, runDecls, cr]
            | succ F =>
              have hw := (wf_root bad sig fr cur _ _ invr).1 e hoe
              obtain ⟨hev, hgood⟩ := (simF_all cfg F).1 e ⟨fr, cur.vars, cur.funcs, .mk cells0 h0 sp0 t0⟩ false st hw
              simp only [Core.evalDecls, runDecls, hev, sigAfter]
              cases hr : Core.eval F cfg fr e false st with
              | mk r s1 =>
                rw [hr] at hgood
                cases r with
                | val v =>
                  simp only [Good] at hgood
                  have hn := invr.uninit cur.cells.length (Nat.le_refl _) (by omega)
                  simp only [RFrame.cells] at hn
                  simp only [cr, RFrame.put, putCell, RFrame.cells, hn]
                  exact hsim F _ _ s1 args
                    (invR_let bad sig fr cur cells0 h0 sp0 t0 _ invr x v hgood hxs hxb (by omega) (letScope cur x (cxf cur.vars cur.funcs e)) rfl rfl rfl)
                | viol k => simp [DeclRelF, cr]
                | tail a => simp [Good] at hgood
                | stuck w => simp [DeclRelF, cr]
                | oof => simp [DeclRelF, cr]
    | fnD f =>
      obtain ⟨nm, ps, fds, body⟩ := f
      cases nm with
      | none => simp [declsOKF] at hok
      | some name =>
        cases fds with
        | cons _ _ => simp [declsOKF] at hok
        | nil =>
          simp only [declsOKF, Bool.and_eq_true, Option.isNone_iff_eq_none, List.contains_eq_mem, decide_eq_true_eq,
            Bool.not_eq_true', decide_eq_false_iff_not, List.all_eq_true] at hok
          obtain ⟨⟨⟨⟨⟨hd', hnn⟩, hxs⟩, hxb⟩, hbody⟩, hrest⟩ := hok
          have hd : ∀ p ∈ ps, p.dflt = none := fun p hp => hd' p hp
          cases cf with
          | zero => cases h
          | succ c =>
            simp only [ofDecls, feedDecls, Option.getD_some] at h
            split at h
            · cases h
            · rename_i hcl
              cases close_fun c cur name ps body _ hd hnn ((bodyOKB_exprOK _ bad).1 body hbody)
                ((bodyOKB_BodyC _ bad name cur hxb (fun g hg => (invC_unbound invc hg).1) (fun g hg => (invC_unbound invc hg).2)).1 body hbody) hcl
              cases hvn : Scope.lookup name cur.vars with
              | some k => simp [addStaticFunc, Scope.hasVariable, hvn] at h
              | none =>
                rw [addStaticFunc_ok cur name _ body hvn invc.forwards] at h
                have inv2 := invC_fn bad sig cur (fnScope cur name (cfOf (ps.map Core.Param.name) body)) invc name
                  ps.length hxs hxb hvn rfl rfl rfl rfl rfl rfl
                obtain ⟨invC', hlen, D', hD', hnp, hsim⟩ := ih _ c _ root hrest inv2 h
                simp only [fnScope, List.length_append, List.length_cons, List.length_nil] at hlen
                refine ⟨by simpa [sigAfter, Core.Func.name, Core.Func.params] using invC', by omega,
                  .func cur.cells.length (cfOf (ps.map Core.Param.name) body) :: D', by rw [hD']; simp [fnScope],
                  (fun c a r e' => by cases e'), ?_⟩
                intro fuel fr rfr st args invr
                obtain ⟨cells0, h0, sp0, t0⟩ := rfr
                cases fuel with
                | zero => simp [DeclRelF, Core.evalDecls, runDecls, cr]
                | succ F =>
                  obtain ⟨hm1, hm2⟩ := mk_both cfg F fr (.mk cells0 h0 sp0 t0) st name ps body cur.cells.length hd
                    invr.self invr.tid
                  simp only [Core.evalDecls, runDecls, hm1, hm2, sigAfter, Core.Func.name, Core.Func.params, Option.getD_some]
                  by_cases hF : ps.length + 1 < F
                  · have hn := invr.uninit cur.cells.length (Nat.le_refl _) (by omega)
                    simp only [RFrame.cells] at hn
                    simp only [hF, if_true, RFrame.put, putCell, RFrame.cells, hn]
                    exact hsim F _ _ st args
                      (invR_fn bad sig fr cur cells0 h0 sp0 t0 _ invr name ps body hd hnn hxb hbody (by omega)
                        (fnScope cur name (cfOf (ps.map Core.Param.name) body)) rfl rfl rfl hvn (invC_notFun invc hxs))
                  · simp [hF, DeclRelF, cr]

theorem compile_correct_program_funs (cfg : Core.Cfg) (ds : List Core.Decl) (hok : progOKF ds = true) (cf : Nat)
    (root : Scope) (hc : compileProgram cf (ofDecls ds) = .ok root) (hdl : cfg.depthLimit ≠ some 0) (fuel : Nat) :
    DeclRelF (declNames ds) (sigAfter [] ds) root (Core.runProgram fuel cfg ds) (runRoot fuel cfg root) := by
  have invc0 : InvC (declNames ds) [] ({} : Scope) :=
    ⟨rfl, rfl, by intro k; rfl, by intro c hc; simp at hc, by intro x k h; simp [Scope.lookup] at h,
     by intro x k h; simp [Scope.lookup] at h, by intro x k h; simp [Scope.lookup] at h,
     by intro x k h; simp [Scope.lookup] at h, by intro x; rfl⟩
  obtain ⟨invcR, -, D, hD, hnp, hsim⟩ := feed_runF cfg (declNames ds) ds [] cf {} root hok invc0 hc
  simp only [List.nil_append] at hD
  rw [runRoot_allVar fuel cfg root invcR.allVar (hD ▸ hnp) hdl, hD]
  apply hsim fuel { env := [], self := none, height := 0 } _ {} []
  refine ⟨rfl, rfl, rfl, ?_, ?_, ?_, ?_⟩
  · intro x
    simp only [RelAt]
    exact ⟨fun n c hs => (by cases hs), (by simp [Core.lookup, Scope.lookup])⟩
  · intro x v h; simp [Core.lookup] at h
  · intro x; simp [Scope.lookup, Core.lookup]
  · intro k _ hk
    simp only [RFrame.cells]
    rw [List.getElem?_replicate]
    simp [hk]

end XrayModel.CellRun
