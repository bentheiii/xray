/-
Round trip of the integer <-> text conversion (`XrayModel/IntText.lean`).
-/
import XrayModel.IntText
import XrayProofs.LazyInt
namespace XrayModel.Text
open XrayModel

def val (r : Nat) (ds : List Nat) (acc : Nat) : Nat := ds.foldl (fun a d => a * r + d) acc

theorem val_nil (r acc : Nat) : val r [] acc = acc := rfl
theorem val_cons (r d : Nat) (ds : List Nat) (acc : Nat) : val r (d :: ds) acc = val r ds (acc * r + d) := rfl
theorem val_append (r : Nat) (ds es : List Nat) (acc : Nat) : val r (ds ++ es) acc = val r es (val r ds acc) :=
  List.foldl_append ..

theorem le_val (r : Nat) (hr : 1 ≤ r) (ds : List Nat) : ∀ acc, acc ≤ val r ds acc := by
  induction ds with
  | nil => intro acc; exact Nat.le_refl _
  | cons d ds ih =>
    intro acc
    have := ih (acc * r + d)
    have : acc ≤ acc * r := Nat.le_mul_of_pos_right acc hr
    rw [val_cons]; omega

theorem natDigitsAux_spec (r : Nat) (hr : 2 ≤ r) : ∀ (fuel n : Nat) (acc : List Nat), n ≤ fuel →
    ∃ pre, natDigitsAux fuel r n acc = pre ++ acc ∧ val r pre 0 = n ∧ (∀ d ∈ pre, d < r) ∧ (n ≠ 0 → pre ≠ []) := by
  intro fuel
  induction fuel with
  | zero => intro n acc h; exact ⟨[], rfl, by rw [val_nil]; omega, nofun, fun h0 => absurd (by omega) h0⟩
  | succ fuel ih =>
    intro n acc h
    unfold natDigitsAux
    split
    next h0 => exact ⟨[], rfl, h0.symm, nofun, fun h => absurd h0 h⟩
    next h0 =>
      obtain ⟨pre, he, hv, hlt, _⟩ := ih (n / r) (n % r :: acc)
        (by have := Nat.div_lt_self (Nat.pos_of_ne_zero h0) hr; omega)
      refine ⟨pre ++ [n % r], by rw [he, List.append_assoc]; rfl, ?_, ?_, fun _ => by simp⟩
      · rw [val_append, hv, val_cons, val_nil, Nat.div_add_mod' n r]
      · intro d hd
        rcases List.mem_append.mp hd with hd | hd
        · exact hlt d hd
        · rw [List.mem_singleton.mp hd]; exact Nat.mod_lt _ (by omega)

theorem natDigits_spec (r : Nat) (hr : 2 ≤ r) (n : Nat) :
    val r (natDigits r n) 0 = n ∧ (∀ d ∈ natDigits r n, d < r) ∧ natDigits r n ≠ [] := by
  unfold natDigits
  split
  next h0 => subst h0; exact ⟨by simp [val], fun d hd => by rw [List.mem_singleton.mp hd]; omega, nofun⟩
  next h0 =>
    obtain ⟨pre, he, hv, hlt, hne⟩ := natDigitsAux_spec r hr n n [] (Nat.le_refl _)
    rw [he, List.append_nil]
    exact ⟨hv, hlt, hne h0⟩

theorem charVal_digitChar_fin : ∀ d : Fin 36, charVal (digitChar d.val) = some d.val := by decide

theorem charVal_digitChar (d : Nat) (h : d < 36) : charVal (digitChar d) = some d :=
  charVal_digitChar_fin ⟨d, h⟩

theorem charDigit_digitChar (d r : Nat) (hd : d < r) (hr : r ≤ 36) : charDigit (digitChar d) r = some d := by
  unfold charDigit
  rw [charVal_digitChar d (by omega)]
  exact if_pos hd

/-- `BigUint`'s digit classes give the same values as `char::to_digit` -/
theorem bigDigit_eq_charDigit (c : Char) (r : Nat) : bigDigit c r = charDigit c r := by
  unfold bigDigit charDigit charVal
  simp only []
  congr 1
  exact ite_congr rfl (fun _ => rfl) fun _ => ite_congr rfl (fun h => congrArg some (by omega)) fun _ =>
    ite_congr rfl (fun h => congrArg some (by omega)) fun _ => rfl

/-- a digit character is none of the characters without a digit value (`+`, `-`, `_`) -/
theorem digitChar_ne (d : Nat) (h : d < 36) (c : Char) (hc : charVal c = none) : digitChar d ≠ c := by
  intro e
  rw [← e, charVal_digitChar d h] at hc
  cases hc

def signed (neg : Bool) (n : Nat) : Int := if neg then -(n : Int) else n

/-- the largest magnitude an `i128` of sign `neg` can have -/
def bound (neg : Bool) : Nat := if neg then 170141183460469231731687303715884105728 else 170141183460469231731687303715884105727

theorem signed_out (neg : Bool) (n : Nat) : (signed neg n < I128_MIN ∨ I128_MAX < signed neg n) ↔ bound neg < n := by
  cases neg <;> simp only [signed, bound, I128_MIN, I128_MAX, if_true, if_false, Bool.false_eq_true] <;> omega

theorem signed_mul (neg : Bool) (n r : Nat) : signed neg n * r = signed neg (n * r) := by
  cases neg <;> simp only [signed, if_true, if_false, Bool.false_eq_true, Int.natCast_mul, Int.neg_mul]

theorem signed_step (neg : Bool) (n d : Nat) :
    (if neg then signed neg n - d else signed neg n + d) = signed neg (n + d) := by
  cases neg <;> simp only [signed, if_true, if_false, Bool.false_eq_true, Int.natCast_add] <;> omega

theorem signed_natAbs (v : Int) : signed (decide (v < 0)) v.natAbs = v := by
  unfold signed; split <;> rename_i h <;> simp only [decide_eq_true_eq] at h <;> omega

theorem i128Loop_digits (neg : Bool) (r : Nat) (hr1 : 1 ≤ r) (hr : r ≤ 36) : ∀ (ds : List Nat), (∀ d ∈ ds, d < r) →
    ∀ acc : Nat, acc ≤ bound neg →
    i128Loop neg r (ds.map digitChar) (signed neg acc) =
      if val r ds acc ≤ bound neg then .ok (signed neg (val r ds acc))
      else if neg then .negOverflow else .posOverflow := by
  intro ds
  induction ds with
  | nil => intro _ acc h; rw [val_nil, if_pos h]; rfl
  | cons d ds ih =>
    intro hds acc hacc
    have hmono := le_val r hr1 ds (acc * r + d)
    rw [val_cons]
    simp only [List.map_cons, i128Loop, charDigit_digitChar d r (hds d List.mem_cons_self) hr, signed_mul,
      signed_step, signed_out]
    by_cases h1 : bound neg < acc * r
    · rw [if_pos h1, if_neg (show ¬ val r ds (acc * r + d) ≤ bound neg by omega)]
    · rw [if_neg h1]
      by_cases h2 : bound neg < acc * r + d
      · rw [if_pos h2, if_neg (show ¬ val r ds (acc * r + d) ≤ bound neg by omega)]
      · rw [if_neg h2]
        exact ih (fun x hx => hds x (List.mem_cons_of_mem _ hx)) (acc * r + d) (by omega)

/-- the sign as `toStrRadix` writes it -/
def signText (neg : Bool) : List Char := if neg then ['-'] else []

theorem parseI128_digits (neg : Bool) (r d : Nat) (ds : List Nat) (hd : d < 36) :
    parseI128 (signText neg ++ (d :: ds).map digitChar) r = i128Loop neg r ((d :: ds).map digitChar) 0 := by
  cases neg
  · have h1 := digitChar_ne d hd '+' (by decide)
    have h2 := digitChar_ne d hd '-' (by decide)
    simp only [signText, Bool.false_eq_true, if_false, List.nil_append, List.map_cons, parseI128, h1, h2, or_self]
  · simp only [signText, if_true, List.singleton_append, List.map_cons, parseI128, or_true, reduceCtorEq, if_false]
    rfl

theorem mapM_bigDigit (r : Nat) (hr : r ≤ 36) : ∀ (ds : List Nat), (∀ d ∈ ds, d < r) →
    (ds.map digitChar).mapM (fun c => bigDigit c r) = some ds := by
  intro ds
  induction ds with
  | nil => intro _; rfl
  | cons d ds ih =>
    intro h
    rw [List.map_cons, List.mapM_cons, bigDigit_eq_charDigit, charDigit_digitChar d r (h d List.mem_cons_self) hr,
      ih (fun x hx => h x (List.mem_cons_of_mem _ hx))]
    rfl

theorem parseBig_digits (neg : Bool) (r d : Nat) (ds : List Nat) (hr : r ≤ 36) (h : ∀ x ∈ d :: ds, x < r) :
    parseBig (signText neg ++ (d :: ds).map digitChar) r = some (signed neg (val r (d :: ds) 0)) := by
  have hd : d < 36 := by have := h d List.mem_cons_self; omega
  have h1 := digitChar_ne d hd '+' (by decide)
  have h2 := digitChar_ne d hd '-' (by decide)
  have hu : parseBigU ((d :: ds).map digitChar) r = some (val r (d :: ds) 0) := by
    unfold parseBigU
    have e : stripPlus ((d :: ds).map digitChar) = (d :: ds).map digitChar := by
      rw [List.map_cons]; unfold stripPlus; split
      next heq => exact absurd (List.cons.inj heq).1 h1
      next => rfl
    simp only [e]
    rw [if_neg (by simp), mapM_bigDigit r hr _ h]
    rfl
  cases neg
  · simp only [signText, Bool.false_eq_true, if_false, List.nil_append, signed]
    unfold parseBig
    split
    next heq => rw [List.map_cons] at heq; exact absurd (List.cons.inj heq).1 h2
    next => rw [hu]; rfl
  · simp only [signText, if_true, List.singleton_append, signed]
    unfold parseBig
    simp only []
    have e : afterMinus ('-' :: (d :: ds).map digitChar) ((d :: ds).map digitChar) = (d :: ds).map digitChar := by
      unfold afterMinus; split
      next heq => rw [List.map_cons] at heq; exact absurd (List.cons.inj heq).1 h1
      next => rfl
    rw [e, hu]; rfl

theorem roundtrip (v : Int) (r : Nat) (h2 : 2 ≤ r) (h36 : r ≤ 36) :
    LB.fromStrRadix (toStrRadix v r) r = some (LB.ofInt v) := by
  obtain ⟨hval, hlt, hne⟩ := natDigits_spec r h2 v.natAbs
  obtain ⟨d, ds, hds⟩ := List.exists_cons_of_ne_nil hne
  rw [hds] at hval hlt
  have hd36 : ∀ x ∈ d :: ds, x < 36 := fun x hx => by have := hlt x hx; omega
  have htxt : toStrRadix v r = signText (decide (v < 0)) ++ (d :: ds).map digitChar := by
    simp only [toStrRadix, natToStr, signText, hds, decide_eq_true_eq]
  have hsig := signed_natAbs v
  unfold LB.fromStrRadix
  rw [htxt, parseI128_digits _ r d ds (hd36 d List.mem_cons_self)]
  have hl := i128Loop_digits (decide (v < 0)) r (by omega) h36 (d :: ds) hlt 0 (Nat.zero_le _)
  rw [show signed (decide (v < 0)) 0 = 0 by cases decide (v < 0) <;> rfl, hval, hsig] at hl
  rw [hl]
  by_cases hfit : v.natAbs ≤ bound (decide (v < 0))
  · rw [if_pos hfit]
  · have hc : (signText (decide (v < 0)) ++ (d :: ds).map digitChar).contains '_' = false := by
      rw [List.contains_eq_mem, decide_eq_false_iff_not, List.mem_append, List.mem_map]
      rintro (hm | ⟨x, hx, e⟩)
      · cases hdec : decide (v < 0) <;> rw [hdec] at hm <;> simp [signText] at hm
      · exact digitChar_ne x (hd36 x hx) '_' (by decide) e
    have hb := parseBig_digits (decide (v < 0)) r d ds h36 hlt
    rw [hval, hsig] at hb
    rw [if_neg hfit]
    generalize decide (v < 0) = neg at hc hb ⊢
    cases neg <;> simp only [Bool.false_eq_true, if_false, if_true, hc, hb, Option.map_some]

end XrayModel.Text
