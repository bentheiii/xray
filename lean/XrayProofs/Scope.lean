/-
Lemmas for C03 over the compile-time scope model (XrayModel/Scope.lean): closing a scope into its parent
(`into_static_ud`) keeps what every cell reads (`R`, `close_step`, `closeAllX_reads`), what `require_forwards` lets pass,
a use reads the declaration that was found (`useCand_reads`), cells are only appended (`Ext`), names and cells (`NameInv`).
-/
import XrayModel.Scope
namespace XrayModel.Scope

theorem resolve_fuel : ∀ (f1 f2 : Nat) (chain : List (List Cell)) (i : Nat),
    chain.length ≤ f1 → chain.length ≤ f2 → resolve f1 chain i = resolve f2 chain i := by
  intro f1
  induction f1 with
  | zero =>
    intro f2 chain i h1 h2
    have : chain = [] := by cases chain <;> simp_all
    subst this
    cases f2 <;> simp [resolve]
  | succ n ih =>
    intro f2 chain i h1 h2
    cases chain with
    | nil => cases f2 <;> simp [resolve]
    | cons cs rest =>
      cases f2 with
      | zero => simp at h2
      | succ m =>
        simp only [resolve]
        cases hc : cs[i]? with
        | none => rfl
        | some c =>
          cases c with
          | var => rfl
          | recur => rfl
          | cap d k =>
            simp only
            split
            · rfl
            · have hl : (rest.drop (d - 1)).length ≤ rest.length := by simp
              simp only [List.length_cons] at h1 h2
              rw [ih m (rest.drop (d - 1)) k (by omega) (by omega)]

/-- the reading of cell `i` of the innermost scope of `chain` -/
def R (chain : List (List Cell)) (i : Nat) : Option (Nat × Nat) := resolve chain.length chain i

theorem R_nil (i : Nat) : R [] i = none := by simp [R, resolve]

theorem R_cons (cs : List Cell) (rest : List (List Cell)) (i : Nat) :
    R (cs :: rest) i =
      match cs[i]? with
      | none => none
      | some .var => some (0, i)
      | some .recur => some (0, i)
      | some (.cap d k) =>
        if d = 0 then none
        else match R (rest.drop (d - 1)) k with
          | none => none
          | some (d', k') => some (d + d', k') := by
  simp only [R, List.length_cons, resolve]
  cases hc : cs[i]? with
  | none => rfl
  | some c =>
    cases c with
    | var => rfl
    | recur => rfl
    | cap d k =>
      simp only
      split
      · rfl
      · rw [resolve_fuel rest.length (rest.drop (d - 1)).length (rest.drop (d - 1)) k (by simp) (Nat.le_refl _)]
        rfl

theorem threadCells_cons_deep (d k : Nat) (rest : List Cell) (n : Nat) (h : 2 ≤ d) :
    threadCells (.cap d k :: rest) n =
      (.cap 1 n :: (threadCells rest (n + 1)).1, .cap (d - 1) k :: (threadCells rest (n + 1)).2) := by
  simp [threadCells, Nat.lt_of_succ_le h]

theorem threadCells_cons_keep (c : Cell) (rest : List Cell) (n : Nat) (h : ∀ d k, c = .cap d k → d ≤ 1) :
    threadCells (c :: rest) n = (c :: (threadCells rest n).1, (threadCells rest n).2) := by
  cases c with
  | cap d k => simp [threadCells, Nat.not_lt.mpr (h d k rfl)]
  | _ => rfl

theorem cell_deep_or_keep (c : Cell) : (∃ d k, c = .cap d k ∧ 2 ≤ d) ∨ (∀ d k, c = .cap d k → d ≤ 1) := by
  cases c with
  | cap d k => exact (Nat.lt_or_ge 1 d).imp (fun h => ⟨d, k, rfl, h⟩) (fun h _ _ e => by cases e; exact h)
  | _ => exact .inr (by simp)

theorem threadCells_length (cs : List Cell) (n : Nat) : (threadCells cs n).1.length = cs.length := by
  induction cs generalizing n with
  | nil => rfl
  | cons c rest ih =>
    rcases cell_deep_or_keep c with ⟨d, k, rfl, h⟩ | h
    · simp [threadCells_cons_deep _ _ _ _ h, ih]
    · simp [threadCells_cons_keep _ _ _ h, ih]

theorem threadCells_none (cs : List Cell) (n i : Nat) (h : cs[i]? = none) : (threadCells cs n).1[i]? = none := by
  rw [List.getElem?_eq_none_iff] at h ⊢
  rw [threadCells_length]; exact h

theorem threadCells_keep (cs : List Cell) (n i : Nat) (c : Cell) (h : cs[i]? = some c)
    (hc : ∀ d k, c = .cap d k → d ≤ 1) : (threadCells cs n).1[i]? = some c := by
  induction cs generalizing n i with
  | nil => simp at h
  | cons c' rest ih =>
    cases i with
    | zero =>
      obtain rfl : c' = c := by simpa using h
      simp [threadCells_cons_keep _ _ _ hc]
    | succ j =>
      rcases cell_deep_or_keep c' with ⟨d, k, rfl, h'⟩ | h'
      · simpa [threadCells_cons_deep _ _ _ _ h'] using ih _ _ h
      · simpa [threadCells_cons_keep _ _ _ h'] using ih _ _ h

theorem threadCells_deep (cs : List Cell) (n i d k : Nat) (h : cs[i]? = some (.cap d k)) (hd : 2 ≤ d) :
    ∃ j, (threadCells cs n).1[i]? = some (.cap 1 (n + j)) ∧ (threadCells cs n).2[j]? = some (.cap (d - 1) k) := by
  induction cs generalizing n i with
  | nil => simp at h
  | cons c rest ih =>
    cases i with
    | zero =>
      obtain rfl : c = .cap d k := by simpa using h
      exact ⟨0, by simp [threadCells_cons_deep _ _ _ _ hd]⟩
    | succ i =>
      rcases cell_deep_or_keep c with ⟨d', k', rfl, h'⟩ | h'
      · obtain ⟨j, h1, h2⟩ := ih (n + 1) _ h
        exact ⟨j + 1, by simp [threadCells_cons_deep _ _ _ _ h', h1, Nat.add_assoc, Nat.add_comm 1],
          by simp [threadCells_cons_deep _ _ _ _ h', h2]⟩
      · obtain ⟨j, h1, h2⟩ := ih n _ h
        exact ⟨j, by simp [threadCells_cons_keep _ _ _ h', h1], by simp [threadCells_cons_keep _ _ _ h', h2]⟩

/-- every capture of a closed function has depth at most 1 (`// todo i'm pretty sure this is always 1`) -/
theorem threadCells_depth_le_one (cs : List Cell) (n d k : Nat) (h : Cell.cap d k ∈ (threadCells cs n).1) : d ≤ 1 := by
  induction cs generalizing n with
  | nil => simp [threadCells] at h
  | cons c rest ih =>
    rcases cell_deep_or_keep c with ⟨d', k', rfl, h'⟩ | h'
    · rw [threadCells_cons_deep _ _ _ _ h'] at h
      rcases List.mem_cons.mp h with h | h
      · cases h; exact Nat.le_refl 1
      · exact ih _ h
    · rw [threadCells_cons_keep _ _ _ h'] at h
      rcases List.mem_cons.mp h with h | h
      · exact h' d k h.symm
      · exact ih _ h

theorem threadCells_nocap (cs : List Cell) (n : Nat) (h : ∀ c ∈ cs, c = .var ∨ c = .recur) :
    threadCells cs n = (cs, []) := by
  induction cs with
  | nil => rfl
  | cons c rest ih =>
    rw [threadCells_cons_keep _ _ _ (by rcases h c (by simp) with rfl | rfl <;> simp), ih fun c hc => h c (by simp [hc])]

theorem R_append_head (cs extra : List Cell) (rest : List (List Cell)) (i : Nat) (h : i < cs.length) :
    R ((cs ++ extra) :: rest) i = R (cs :: rest) i := by
  rw [R_cons, R_cons, List.getElem?_append_left h]

def HeadOK (c0 c1 : List Cell) : Prop := ∀ k, Cell.cap 1 k ∈ c0 → k < c1.length

/-- A depth-1 capture is kept and reads as before because it points inside `c1` (`HeadOK`), whatever is appended.
`cap (d + 2) k` becomes `cap 1 (c1.length + j)`, and the parent's cell `c1.length + j` is the request `cap (d + 1) k`:
`1 + ((d + 1) + d') = (d + 2) + d'`. -/
theorem close_step (c0 c1 extra : List Cell) (rest : List (List Cell)) (i : Nat) (hok : HeadOK c0 c1) :
    R ((threadCells c0 c1.length).1 :: (c1 ++ (threadCells c0 c1.length).2 ++ extra) :: rest) i
      = R (c0 :: c1 :: rest) i := by
  rw [R_cons, R_cons]
  cases hc : c0[i]? with
  | none => rw [threadCells_none _ _ _ hc]
  | some c =>
    cases c with
    | var => rw [threadCells_keep _ _ _ _ hc (by simp)]
    | recur => rw [threadCells_keep _ _ _ _ hc (by simp)]
    | cap d k =>
      match d, hc with
      | 0, hc => rw [threadCells_keep _ _ _ _ hc (fun _ _ e => by cases e; exact Nat.zero_le 1)]; rfl
      | 1, hc =>
        rw [threadCells_keep _ _ _ _ hc (fun _ _ e => by cases e; exact Nat.le_refl 1)]
        have hk : k < c1.length := hok k (List.mem_of_getElem? hc)
        simp only [Nat.sub_self, List.drop_zero]
        rw [List.append_assoc, R_append_head _ _ _ _ hk]
      | d + 2, hc =>
        obtain ⟨j, h1, h2⟩ := threadCells_deep c0 c1.length i (d + 2) k hc (Nat.le_add_left 2 d)
        have hj : j < (threadCells c0 c1.length).2.length := (List.getElem?_eq_some_iff.mp h2).1
        have hreq : (c1 ++ (threadCells c0 c1.length).2 ++ extra)[c1.length + j]? = some (.cap (d + 1) k) := by
          rw [List.append_assoc, List.getElem?_append_right (Nat.le_add_right _ _), Nat.add_sub_cancel_left,
            List.getElem?_append_left hj, h2]
          rfl
        rw [h1]
        simp only [Nat.sub_self, List.drop_zero, if_false, R_cons, hreq, Nat.add_one_ne_zero,
          show d + 2 - 1 = d + 1 from rfl, Nat.add_sub_cancel, List.drop_succ_cons]
        cases R (List.drop d rest) k with
        | none => rfl
        | some p => simp only [Option.some.injEq, Prod.mk.injEq, and_true]; omega

/-! ### closing a nest of scopes, innermost first; `es`: the cells the rest of each parent's compilation pushes after
its child was closed -/

def closeAllX : List (List Cell) → List (List Cell) → List (List Cell)
  | [], _ => []
  | [c], _ => [c]
  | c0 :: c1 :: rest, es =>
    (threadCells c0 c1.length).1 ::
      closeAllX ((c1 ++ (threadCells c0 c1.length).2 ++ es.headD []) :: rest) es.tail
termination_by chain => chain.length

def OKX : List (List Cell) → List (List Cell) → Prop
  | [], _ => True
  | [_], _ => True
  | c0 :: c1 :: rest, es =>
    HeadOK c0 c1 ∧ OKX ((c1 ++ (threadCells c0 c1.length).2 ++ es.headD []) :: rest) es.tail
termination_by chain => chain.length

/-- no congruence without `hdepth`: a deeper capture skips into `rest.drop` -/
theorem R_cons_congr (cs : List Cell) (rest rest' : List (List Cell)) (i : Nat)
    (hdepth : ∀ d k, Cell.cap d k ∈ cs → d ≤ 1) (hrest : ∀ k, R rest' k = R rest k) :
    R (cs :: rest') i = R (cs :: rest) i := by
  rw [R_cons, R_cons]
  cases hc : cs[i]? with
  | none => rfl
  | some c =>
    cases c with
    | var => rfl
    | recur => rfl
    | cap d k =>
      have := hdepth d k (List.mem_of_getElem? hc)
      simp only
      split
      · rfl
      · have hd1 : d = 1 := by omega
        subst hd1
        simp only [Nat.sub_self, List.drop_zero, hrest]

theorem closeAllX_reads (chain es : List (List Cell)) (hok : OKX chain es) (i : Nat) :
    R (closeAllX chain es) i = R chain i := by
  fun_induction closeAllX chain es generalizing i with
  | case1 | case2 => rfl
  | case3 c0 c1 rest es ih =>
    rw [OKX] at hok
    rw [R_cons_congr _ _ _ i (threadCells_depth_le_one c0 c1.length) (ih hok.2)]
    exact close_step c0 c1 _ rest i hok.1

def Declares (s : Scope) (x : String) : Prop := lookup x s.vars ≠ none ∨ overloadCells x s.funcs ≠ []

theorem getItem_var (s : Scope) (ps : List Scope) (x : String) (k : Nat)
    (h : lookup x s.vars = some k) (hc : s.cells[k]? = some .var) :
    getItem (s :: ps) x = .ok (some (.value (s.height, k, s.cellReqs k))) := by
  simp [getItem, h, hc]

theorem getItem_skip (s : Scope) (ps : List Scope) (x : String) (h : ¬ Declares s x) :
    getItem (s :: ps) x = getItem ps x := by
  simp only [Declares, not_or, ne_eq, Decidable.not_not] at h
  simp [getItem, h.1, h.2]

theorem forwardRef_congr (cur cur' : Scope) (ps : List Scope) (r : FwdReq)
    (hh : cur'.height = cur.height) (hf : cur'.forwards = cur.forwards) :
    forwardRef (cur' :: ps) r = forwardRef (cur :: ps) r := by
  simp only [forwardRef, hh]
  cases hn : cur.height - r.height with
  | zero => simp only [List.getElem?_cons_zero, hf]
  | succ n => rfl

theorem behindStep_fwdReqs (cur : Scope) (X : List FwdReq) (ps : List Scope) (r : FwdReq) :
    behindStep ({ cur with fwdReqs := X } :: ps) r = behindStep (cur :: ps) r := by
  simp only [behindStep]
  cases hn : cur.height - r.height <;> rfl

theorem unfulfilledBehindAux_fwdReqs (cur : Scope) (X : List FwdReq) (ps : List Scope) :
    ∀ (n : Nat) (pending seen : List FwdReq),
    unfulfilledBehindAux n ({ cur with fwdReqs := X } :: ps) pending seen = unfulfilledBehindAux n (cur :: ps) pending seen := by
  intro n
  induction n with
  | zero => intro pending seen; rfl
  | succ m ih =>
    intro pending seen
    cases pending with
    | nil => rfl
    | cons r rest => simp only [unfulfilledBehindAux, behindStep_fwdReqs, ih]

theorem unfulfilledBehind_fwdReqs (cur : Scope) (X : List FwdReq) (ps : List Scope) (r : FwdReq) :
    unfulfilledBehind ({ cur with fwdReqs := X } :: ps) r = unfulfilledBehind (cur :: ps) r :=
  unfulfilledBehindAux_fwdReqs cur X ps _ _ _

/-- reachability through implemented forward functions (`behindStep … = .ok (true, more)`: implemented, and its cell
records the requirements `more`) -/
inductive Reach (chain : List Scope) : FwdReq → FwdReq → Prop where
  | refl (r : FwdReq) : Reach chain r r
  | step (r r1 r2 : FwdReq) (more : List FwdReq) : behindStep chain r = .ok (true, more) → r1 ∈ more →
      Reach chain r1 r2 → Reach chain r r2

/-- the loop invariant: everything the walk was asked about lies in a set whose new members are either implemented,
with the requirements of their implementation in the set, or unimplemented and reported -/
theorem unfulfilledBehindAux_inv (chain : List Scope) : ∀ (n : Nat) (pending seen ms : List FwdReq),
    unfulfilledBehindAux n chain pending seen = .ok ms →
    ∃ S : List FwdReq, (∀ x ∈ seen, x ∈ S) ∧ (∀ x ∈ pending, x ∈ S) ∧
      (∀ x ∈ S, x ∈ seen ∨ (∃ more, behindStep chain x = .ok (true, more) ∧ ∀ y ∈ more, y ∈ S) ∨
                (x ∈ ms ∧ ∃ more, behindStep chain x = .ok (false, more))) ∧
      (∀ m ∈ ms, ∃ more, behindStep chain m = .ok (false, more)) := by
  intro n
  induction n with
  | zero => intro pending seen ms h; cases h
  | succ k ih =>
    intro pending seen ms h
    cases pending with
    | nil =>
      simp only [unfulfilledBehindAux, Except.ok.injEq] at h
      subst h
      exact ⟨seen, fun x hx => hx, by simp, fun x hx => Or.inl hx, by simp⟩
    | cons r rest =>
      simp only [unfulfilledBehindAux] at h
      split at h
      · -- `r` was visited before
        rename_i hseen
        obtain ⟨S, h1, h2, h3, h4⟩ := ih rest seen ms h
        exact ⟨S, h1, List.forall_mem_cons.mpr ⟨h1 _ hseen, h2⟩, h3, h4⟩
      · split at h
        · cases h
        · -- `r` is not implemented: it is reported
          rename_i more hs
          cases hrec : unfulfilledBehindAux k chain rest (r :: seen) with
          | error e => rw [hrec] at h; cases h
          | ok ms' =>
            rw [hrec] at h
            cases h
            obtain ⟨S, h1, h2, h3, h4⟩ := ih _ _ _ hrec
            obtain ⟨hr, h1⟩ := List.forall_mem_cons.mp h1
            refine ⟨S, h1, List.forall_mem_cons.mpr ⟨hr, h2⟩, fun x hx => ?_, List.forall_mem_cons.mpr ⟨⟨more, hs⟩, h4⟩⟩
            rcases h3 x hx with hx' | hx' | hx'
            · rcases List.mem_cons.mp hx' with rfl | hx'
              · exact .inr (.inr ⟨List.mem_cons_self, more, hs⟩)
              · exact .inl hx'
            · exact .inr (.inl hx')
            · exact .inr (.inr ⟨List.mem_cons_of_mem _ hx'.1, hx'.2⟩)
        · -- `r` is implemented: what its implementation needs is asked about next
          rename_i more hs
          obtain ⟨S, h1, h2, h3, h4⟩ := ih _ _ _ h
          obtain ⟨hr, h1⟩ := List.forall_mem_cons.mp h1
          refine ⟨S, h1, List.forall_mem_cons.mpr ⟨hr, fun x hx => h2 x (List.mem_append_right _ hx)⟩, fun x hx => ?_, h4⟩
          rcases h3 x hx with hx' | hx' | hx'
          · rcases List.mem_cons.mp hx' with rfl | hx'
            · exact .inr (.inl ⟨more, hs, fun y hy => h2 y (List.mem_append_left _ (List.mem_reverse.mpr hy))⟩)
            · exact .inl hx'
          · exact .inr (.inl hx')
          · exact .inr (.inr hx')

theorem recordMissing_frame (ps : List Scope) (cur cur' : Scope) (ms : List FwdReq)
    (h : recordMissing ps cur ms = .ok cur') :
    cur' = { cur with fwdReqs := cur'.fwdReqs } ∧ (∀ r ∈ cur.fwdReqs, r ∈ cur'.fwdReqs) ∧
    (∀ m ∈ ms, m.height ≠ cur.height ∧ m ∈ cur'.fwdReqs) := by
  induction ms generalizing cur with
  | nil => simp only [recordMissing, Except.ok.injEq] at h; subst h; simp
  | cons m rest ih =>
    simp only [recordMissing] at h
    split at h
    · split at h <;> cases h
    · rename_i hne
      obtain ⟨h1, h2, h3⟩ := ih _ h
      have hsub : ∀ r ∈ cur.fwdReqs, r ∈ cur'.fwdReqs := fun r hr => h2 r (by split <;> simp [hr])
      have hm : m ∈ cur'.fwdReqs := h2 m (by split <;> simp [*])
      exact ⟨h1, hsub, fun m' hm' => (List.mem_cons.mp hm').elim (fun e => e ▸ ⟨hne, hm⟩) (h3 m')⟩

theorem requireForwards_frame (ps : List Scope) (cur cur' : Scope) (rs : List FwdReq)
    (h : requireForwards ps cur rs = .ok cur') :
    cur' = { cur with fwdReqs := cur'.fwdReqs } ∧ (∀ r ∈ cur.fwdReqs, r ∈ cur'.fwdReqs) := by
  induction rs generalizing cur with
  | nil => simp only [requireForwards, Except.ok.injEq] at h; subst h; simp
  | cons r rest ih =>
    simp only [requireForwards] at h
    split at h
    · cases h
    · split at h
      · cases h
      · rename_i cur1 hrec
        obtain ⟨a1, a2, -⟩ := recordMissing_frame _ _ _ _ hrec
        obtain ⟨b1, b2⟩ := ih _ h
        exact ⟨by rw [b1, a1], fun r' hr' => b2 r' (a2 r' hr')⟩

/-- what `require_forwards` lets pass: no unfulfilled forward function behind a requirement is a declaration of the
current scope (`m.height ≠ cur.height`), and all of them are recorded in the scope's own requirements, which become the
requirements of the function being compiled -/
theorem requireForwards_gate (ps : List Scope) (cur cur' : Scope) (rs : List FwdReq)
    (h : requireForwards ps cur rs = .ok cur') :
    ∀ r ∈ rs, ∀ ms, unfulfilledBehind (cur :: ps) r = .ok ms →
      ∀ m ∈ ms, m.height ≠ cur.height ∧ m ∈ cur'.fwdReqs := by
  induction rs generalizing cur with
  | nil => simp
  | cons r0 rest ih =>
    intro r hr ms hms m hm
    simp only [requireForwards] at h
    split at h
    · cases h
    · rename_i ms0 hms0
      split at h
      · cases h
      · rename_i cur1 hrec
        obtain ⟨a1, -, a3⟩ := recordMissing_frame _ _ _ _ hrec
        rcases List.mem_cons.mp hr with rfl | hr
        · cases hms0.symm.trans hms
          exact ⟨(a3 m hm).1, (requireForwards_frame _ _ _ _ h).2 m (a3 m hm).2⟩
        · rw [a1] at h
          exact ih _ h r hr ms ((unfulfilledBehind_fwdReqs cur _ ps r).trans hms) m hm

/-- `height: parent.height + ScopeDepth(1)` (compilation_scope.rs:195) -/
def Heights : List Scope → Prop
  | [] => True
  | [_] => True
  | s :: p :: rest => s.height = p.height + 1 ∧ Heights (p :: rest)

theorem heights_prefix (pre : List Scope) (s : Scope) (post : List Scope) (c : Scope) (rest : List Scope)
    (hc : c :: rest = pre ++ s :: post) (H : Heights (c :: rest)) : c.height = s.height + pre.length := by
  induction pre generalizing c rest with
  | nil => simp only [List.nil_append, List.cons.injEq] at hc; simp [hc.1]
  | cons p pre' ih =>
    simp only [List.cons_append, List.cons.injEq] at hc
    obtain ⟨rfl, hrest⟩ := hc
    cases rest with
    | nil => cases pre' <;> simp at hrest
    | cons c2 rest2 =>
      simp only [Heights] at H
      have := ih c2 rest2 hrest H.2
      simp only [List.length_cons]
      omega

def cellsOf (chain : List Scope) : List (List Cell) := chain.map (·.cells)

theorem useCand_reads (ps : List Scope) (cur cur' : Scope) (c : Cand) (e : XE)
    (pre : List Scope) (s : Scope) (post : List Scope)
    (hchain : cur :: ps = pre ++ s :: post) (hH : Heights (cur :: ps))
    (hc1 : c.1 = s.height) (hcell : s.cells[c.2.1]? = some .var ∨ s.cells[c.2.1]? = some .recur)
    (h : useCand ps cur c = .ok (e, cur')) :
    ∃ i, e = .val i ∧ R (cur'.cells :: cellsOf ps) i = some (pre.length, c.2.1) := by
  have hheight := heights_prefix pre s post cur ps hchain hH
  simp only [useCand] at h
  split at h
  · cases h
  rename_i cur1 hreq
  obtain ⟨hfr, -⟩ := requireForwards_frame _ _ _ _ hreq
  have hcells : cur1.cells = cur.cells := by rw [hfr]
  have hhe : cur1.height = cur.height := by rw [hfr]
  have hread : R (s.cells :: cellsOf post) c.2.1 = some (0, c.2.1) := by
    rw [R_cons]; rcases hcell with hc | hc <;> simp [hc]
  cases pre with
  | nil =>
    obtain ⟨rfl, rfl⟩ : cur = s ∧ ps = post := by simpa using hchain
    rw [if_pos (by omega)] at h
    cases h
    exact ⟨c.2.1, rfl, by rw [hcells]; exact hread⟩
  | cons p pre' =>
    -- declared `pre'.length + 1` levels up: the use pushes a capture cell of that depth
    obtain ⟨rfl, rfl⟩ : cur = p ∧ ps = pre' ++ s :: post := by simpa using hchain
    simp only [List.length_cons] at hheight
    rw [if_neg (by omega)] at h
    cases h
    refine ⟨cur1.cells.length, rfl, ?_⟩
    have hd : cur1.height - c.1 = pre'.length + 1 := by omega
    have hdrop : List.drop pre'.length (cellsOf (pre' ++ s :: post)) = s.cells :: cellsOf post := by
      simp [cellsOf]
    rw [R_cons]
    simp only [Scope.push, List.getElem?_concat_length, hd, Nat.add_one_ne_zero, if_false, Nat.add_sub_cancel, hdrop,
      hread, Nat.add_zero, List.length_cons]

def Ext (a b : Scope) : Prop := (∃ extra, b.cells = a.cells ++ extra) ∧ b.height = a.height

theorem Ext.refl (a : Scope) : Ext a a := ⟨⟨[], by simp⟩, rfl⟩

theorem Ext.trans {a b c : Scope} (h1 : Ext a b) (h2 : Ext b c) : Ext a c := by
  obtain ⟨⟨e1, h1⟩, g1⟩ := h1
  obtain ⟨⟨e2, h2⟩, g2⟩ := h2
  exact ⟨⟨e1 ++ e2, by rw [h2, h1, List.append_assoc]⟩, by rw [g2, g1]⟩

theorem Ext.reads {a b : Scope} (h : Ext a b) (rest : List (List Cell)) (i : Nat) (hi : i < a.cells.length) :
    R (b.cells :: rest) i = R (a.cells :: rest) i := by
  obtain ⟨⟨e, he⟩, -⟩ := h
  rw [he, R_append_head _ _ _ _ hi]

theorem addVariable_ext {cur cur' : Scope} {x : String} {e : XE} (h : addVariable cur x e = .ok cur') : Ext cur cur' := by
  simp only [addVariable] at h
  split at h <;> cases h
  exact ⟨⟨[.var], rfl⟩, rfl⟩

theorem addParameter_ext {cur cur' : Scope} {x : String} {i : Nat} (h : addParameter cur x i = .ok cur') : Ext cur cur' := by
  simp only [addParameter] at h
  split at h <;> cases h
  exact ⟨⟨[.var], rfl⟩, rfl⟩

theorem addRecourse_ext {cur cur' : Scope} {x : String} (h : addRecourse cur x = .ok cur') : Ext cur cur' := by
  simp only [addRecourse] at h
  split at h <;> cases h
  exact ⟨⟨[.recur], rfl⟩, rfl⟩

theorem addStaticFunc_ext {cur cur' : Scope} {x : String} {f : CFunc} (h : addStaticFunc cur x f = .ok cur') : Ext cur cur' := by
  simp only [addStaticFunc] at h
  split at h
  · cases h
  · split at h
    · cases h; exact ⟨⟨[], by simp⟩, rfl⟩
    · cases h; exact ⟨⟨[.var], rfl⟩, rfl⟩

theorem addForwardFunc_ext {cur cur' : Scope} {x : String} (h : addForwardFunc cur x = .ok cur') : Ext cur cur' := by
  simp only [addForwardFunc] at h
  split at h <;> cases h
  exact ⟨⟨[.var], rfl⟩, rfl⟩

theorem addAnonymousFunc_ext (cur : Scope) (f : CFunc) : Ext cur (addAnonymousFunc cur f).2 :=
  ⟨⟨[.var], rfl⟩, rfl⟩

theorem requireForwards_ext {ps : List Scope} {cur cur' : Scope} {rs : List FwdReq}
    (h : requireForwards ps cur rs = .ok cur') : Ext cur cur' := by
  obtain ⟨h1, -⟩ := requireForwards_frame _ _ _ _ h
  exact ⟨⟨[], by rw [h1]; simp⟩, by rw [h1]⟩

theorem useCand_ext {ps : List Scope} {cur cur' : Scope} {c : Cand} {e : XE}
    (h : useCand ps cur c = .ok (e, cur')) : Ext cur cur' := by
  simp only [useCand] at h
  split at h
  · cases h
  · rename_i cur1 hreq
    have h1 := requireForwards_ext hreq
    split at h
    · simp only [Except.ok.injEq, Prod.mk.injEq] at h; rw [← h.2]; exact h1
    · simp only [Except.ok.injEq, Prod.mk.injEq] at h; rw [← h.2]
      exact h1.trans ⟨⟨[_], rfl⟩, rfl⟩

theorem compileIdent_ext {ps : List Scope} {cur cur' : Scope} {x : String} {e : XE}
    (h : compileIdent ps cur x = .ok (e, cur')) : Ext cur cur' := by
  simp only [compileIdent] at h
  split at h
  · cases h
  · cases h
  · exact useCand_ext h
  · exact useCand_ext h
  · cases h

structure NameInv (s : Scope) : Prop where
  varLt : ∀ x k, lookup x s.vars = some k → k < s.cells.length
  funLt : ∀ x k, k ∈ overloadCells x s.funcs → k < s.cells.length
  varInj : ∀ x y k, lookup x s.vars = some k → lookup y s.vars = some k → x = y
  varFun : ∀ x y k, lookup x s.vars = some k → k ∈ overloadCells y s.funcs → False
  funInj : ∀ x y k, k ∈ overloadCells x s.funcs → k ∈ overloadCells y s.funcs → x = y

theorem overloadCells_append (x : String) (a b : List (String × Nat)) :
    overloadCells x (a ++ b) = overloadCells x a ++ overloadCells x b := by
  induction a with
  | nil => rfl
  | cons p rest ih =>
    obtain ⟨y, k⟩ := p
    simp only [List.cons_append, overloadCells]
    split <;> simp [ih]

theorem overloadCells_of_lookup_none (x : String) : ∀ (l : List (String × Nat)), lookup x l = none → overloadCells x l = [] := by
  intro l
  induction l with
  | nil => intro _; rfl
  | cons p rest ih =>
    obtain ⟨y, k⟩ := p
    intro h
    simp only [lookup] at h
    split at h
    · cases h
    · rename_i hne; simp [overloadCells, hne, ih h]

theorem lookup_append_or (y : String) (a b : List (String × Nat)) :
    lookup y (a ++ b) = (lookup y a).or (lookup y b) := by
  induction a with
  | nil => rfl
  | cons p rest ih =>
    obtain ⟨z, k⟩ := p
    simp only [List.cons_append, lookup]
    split
    · rfl
    · exact ih

theorem NameInv.empty (h : Nat) : NameInv { height := h } :=
  ⟨by simp [lookup], by simp [overloadCells], by simp [lookup], by simp [lookup], by simp [overloadCells]⟩

theorem NameInv.consVar {s : Scope} (inv : NameInv s) (x : String) (c : Cell) (d : List CDecl) :
    NameInv { s with cells := s.cells ++ [c], vars := (x, s.cells.length) :: s.vars, decls := d } := by
  constructor
  · intro y k h
    simp only [lookup] at h
    simp only [List.length_append, List.length_cons, List.length_nil]
    split at h
    · cases h; omega
    · have := inv.varLt y k h; omega
  · intro y k h
    have := inv.funLt y k h
    simp only [List.length_append, List.length_cons, List.length_nil]; omega
  · intro y z k hy hz
    simp only [lookup] at hy hz
    split at hy <;> split at hz
    · simp_all
    · cases hy; have := inv.varLt z _ hz; omega
    · cases hz; have := inv.varLt y _ hy; omega
    · exact inv.varInj y z k hy hz
  · intro y z k hy hz
    simp only [lookup] at hy
    split at hy
    · cases hy; have := inv.funLt z _ hz; omega
    · exact inv.varFun y z k hy hz
  · exact inv.funInj

theorem NameInv.snocFun {s : Scope} (inv : NameInv s) (x : String) (c : Cell) (t : Scope)
    (hc : t.cells = s.cells ++ [c]) (hv : t.vars = s.vars) (hf : t.funcs = s.funcs ++ [(x, s.cells.length)]) :
    NameInv t := by
  have hmem : ∀ y k, k ∈ overloadCells y t.funcs → k ∈ overloadCells y s.funcs ∨ (y = x ∧ k = s.cells.length) := by
    intro y k h
    rw [hf, overloadCells_append] at h
    simp only [List.mem_append] at h
    rcases h with h | h
    · exact Or.inl h
    · simp only [overloadCells] at h
      split at h
      · simp only [List.mem_cons, List.not_mem_nil, or_false] at h; exact Or.inr ⟨‹_›, h⟩
      · simp at h
  constructor
  · intro y k h
    rw [hv] at h
    have := inv.varLt y k h
    rw [hc]; simp only [List.length_append, List.length_cons, List.length_nil]; omega
  · intro y k h
    rw [hc]; simp only [List.length_append, List.length_cons, List.length_nil]
    rcases hmem y k h with h | ⟨-, rfl⟩
    · have := inv.funLt y k h; omega
    · omega
  · intro y z k hy hz
    rw [hv] at hy hz
    exact inv.varInj y z k hy hz
  · intro y z k hy hz
    rw [hv] at hy
    rcases hmem z k hz with h | ⟨-, rfl⟩
    · exact inv.varFun y z k hy h
    · have := inv.varLt y _ hy; omega
  · intro y z k hy hz
    rcases hmem y k hy with h1 | ⟨e1, e1'⟩ <;> rcases hmem z k hz with h2 | ⟨e2, e2'⟩
    · exact inv.funInj y z k h1 h2
    · have := inv.funLt y _ h1; omega
    · have := inv.funLt z _ h2; omega
    · rw [e1, e2]

theorem NameInv.moreCells {s t : Scope} (inv : NameInv s) (extra : List Cell)
    (hc : t.cells = s.cells ++ extra) (hv : t.vars = s.vars) (hf : t.funcs = s.funcs) : NameInv t := by
  constructor
  · intro y k h; rw [hv] at h; have := inv.varLt y k h; rw [hc]; simp only [List.length_append]; omega
  · intro y k h; rw [hf] at h; have := inv.funLt y k h; rw [hc]; simp only [List.length_append]; omega
  · intro y z k hy hz; rw [hv] at hy hz; exact inv.varInj y z k hy hz
  · intro y z k hy hz; rw [hv] at hy; rw [hf] at hz; exact inv.varFun y z k hy hz
  · intro y z k hy hz; rw [hf] at hy hz; exact inv.funInj y z k hy hz

theorem addVariable_inv {cur cur' : Scope} {x : String} {e : XE} (inv : NameInv cur)
    (h : addVariable cur x e = .ok cur') : NameInv cur' := by
  simp only [addVariable] at h
  split at h <;> cases h
  exact inv.consVar x .var _

theorem addParameter_inv {cur cur' : Scope} {x : String} {i : Nat} (inv : NameInv cur)
    (h : addParameter cur x i = .ok cur') : NameInv cur' := by
  simp only [addParameter] at h
  split at h <;> cases h
  exact inv.consVar x .var _

theorem addRecourse_inv {cur cur' : Scope} {x : String} (inv : NameInv cur)
    (h : addRecourse cur x = .ok cur') : NameInv cur' := by
  simp only [addRecourse] at h
  split at h <;> cases h
  exact inv.snocFun x .recur _ rfl rfl rfl

theorem addForwardFunc_inv {cur cur' : Scope} {x : String} (inv : NameInv cur)
    (h : addForwardFunc cur x = .ok cur') : NameInv cur' := by
  simp only [addForwardFunc] at h
  split at h <;> cases h
  exact inv.snocFun x .var _ rfl rfl rfl

theorem addStaticFunc_inv {cur cur' : Scope} {x : String} {f : CFunc} (inv : NameInv cur)
    (h : addStaticFunc cur x f = .ok cur') : NameInv cur' := by
  simp only [addStaticFunc] at h
  split at h
  · cases h
  · split at h
    · cases h; exact inv.moreCells [] (by simp) rfl rfl
    · cases h; exact inv.snocFun x .var _ rfl rfl rfl

theorem addParams_inv {s s' : Scope} (inv : NameInv s) (names : List String) (i : Nat)
    (h : addParams s names i = .ok s') : NameInv s' := by
  induction names generalizing s i with
  | nil => simp only [addParams, Except.ok.injEq] at h; subst h; exact inv
  | cons x rest ih =>
    simp only [addParams] at h
    split at h
    · cases h
    · rename_i s1 h1
      exact ih (addParameter_inv inv h1) _ h

theorem fromParent_inv {parent s : Scope} {names : List String} {r : String}
    (h : fromParent parent names r = .ok s) : NameInv s := by
  simp only [fromParent, fromParentLambda] at h
  split at h
  · cases h
  · rename_i s1 h1
    exact addRecourse_inv (addParams_inv (NameInv.empty _) names 0 h1) h

theorem fromParentLambda_inv {parent s : Scope} {names : List String}
    (h : fromParentLambda parent names = .ok s) : NameInv s :=
  addParams_inv (NameInv.empty _) names 0 h

theorem lookup_addVariable {cur cur' : Scope} {x : String} {e : XE} (h : addVariable cur x e = .ok cur') (y : String) :
    lookup y cur'.vars = if y = x then some cur.cells.length else lookup y cur.vars := by
  simp only [addVariable] at h
  split at h <;> cases h
  simp [lookup]

theorem compile_ext : ∀ fuel : Nat,
    (∀ ps cur e r, parseExpr fuel ps cur e = .ok r → Ext cur r.2) ∧
    (∀ ps cur es r, parseList fuel ps cur es = .ok r → Ext cur r.2) ∧
    (∀ ps cur params r, parseDefaults fuel ps cur params = .ok r → Ext cur r.2) ∧
    (∀ ps cur e r, compileExpr fuel ps cur e = .ok r → Ext cur r.2) ∧
    (∀ ps cur es r, compileList fuel ps cur es = .ok r → Ext cur r.2) ∧
    (∀ ps cur rn f r, closeFunc fuel ps cur rn f = .ok r → Ext cur r.2) ∧
    (∀ ps cur ds r, feedDecls fuel ps cur ds = .ok r → Ext cur r) := by
  intro fuel
  induction fuel with
  | zero => refine ⟨?_, ?_, ?_, ?_, ?_, ?_, ?_⟩ <;> intros <;> rename_i h <;> cases h
  | succ n ih =>
    obtain ⟨i1, i2, i3, i4, i5, i6, i7⟩ := ih
    have j1 : ∀ {ps cur e a b}, parseExpr n ps cur e = .ok (a, b) → Ext cur b := fun h => i1 _ _ _ _ h
    have j2 : ∀ {ps cur e a b}, parseList n ps cur e = .ok (a, b) → Ext cur b := fun h => i2 _ _ _ _ h
    have j3 : ∀ {ps cur e a b}, parseDefaults n ps cur e = .ok (a, b) → Ext cur b := fun h => i3 _ _ _ _ h
    have j4 : ∀ {ps cur e a b}, compileExpr n ps cur e = .ok (a, b) → Ext cur b := fun h => i4 _ _ _ _ h
    have j5 : ∀ {ps cur e a b}, compileList n ps cur e = .ok (a, b) → Ext cur b := fun h => i5 _ _ _ _ h
    have j6 : ∀ {ps cur rn f a b}, closeFunc n ps cur rn f = .ok (a, b) → Ext cur b := fun h => i6 _ _ _ _ _ h
    refine ⟨?_, ?_, ?_, ?_, ?_, ?_, ?_⟩
    · intro ps cur e r h
      cases e with
      | lit v | ident x => simp only [parseExpr] at h; cases h; exact Ext.refl _
      | call f args =>
        simp only [parseExpr] at h
        split at h
        · cases h
        · rename_i h1
          split at h <;> cases h
          rename_i h2
          exact (j1 h1).trans (j2 h2)
      | tup es | arr es => simp only [parseExpr] at h; split at h <;> cases h; rename_i h1; exact j2 h1
      | member e i => simp only [parseExpr] at h; split at h <;> cases h; rename_i h1; exact j1 h1
      | lam f => simp only [parseExpr] at h; split at h <;> cases h; rename_i h1; exact j6 h1
    · intro ps cur es r h
      cases es with
      | nil => simp only [parseList] at h; cases h; exact Ext.refl _
      | cons e rest =>
        simp only [parseList] at h
        split at h
        · cases h
        · rename_i h1
          split at h <;> cases h
          rename_i h2
          exact (j1 h1).trans (j2 h2)
    · intro ps cur params r h
      cases params with
      | nil => simp only [parseDefaults] at h; cases h; exact Ext.refl _
      | cons p rest =>
        obtain ⟨pn, pd⟩ := p
        cases pd with
        | none => simp only [parseDefaults] at h; exact j3 h
        | some d =>
          simp only [parseDefaults] at h
          split at h
          · cases h
          · rename_i h1
            split at h <;> cases h
            rename_i h2
            exact (j1 h1).trans (j3 h2)
    · intro ps cur e r h
      cases e with
      | lit v => simp only [compileExpr] at h; cases h; exact Ext.refl _
      | val i | bcall nm args => simp only [compileExpr] at h; cases h
      | ident x => simp only [compileExpr] at h; exact compileIdent_ext h
      | lamF f =>
        simp only [compileExpr] at h
        split at h <;> cases h
        rename_i h1
        exact (requireForwards_ext h1).trans (addAnonymousFunc_ext _ _)
      | tup es | arr es => simp only [compileExpr] at h; split at h <;> cases h; rename_i h1; exact j5 h1
      | member e i => simp only [compileExpr] at h; split at h <;> cases h; rename_i h1; exact j4 h1
      | call f args =>
        simp only [compileExpr] at h
        split at h
        · cases h
        · rename_i args' cur1 h1
          have e1 := j5 h1
          have general : ∀ r, (match compileExpr n ps cur1 f with
              | .error e => Except.error e
              | .ok (f', cur2) => Except.ok (XE.call f' args', cur2)) = Except.ok r → Ext cur r.2 := by
            intro r hg
            split at hg <;> cases hg
            rename_i h2
            exact e1.trans (j4 h2)
          split at h
          · split at h
            · cases h
            · cases h; exact e1
            · split at h <;> cases h
              rename_i h2
              exact e1.trans (useCand_ext h2)
            · cases h
            · exact general _ h
          · exact general _ h
    · intro ps cur es r h
      cases es with
      | nil => simp only [compileList] at h; cases h; exact Ext.refl _
      | cons e rest =>
        simp only [compileList] at h
        split at h
        · cases h
        · rename_i h1
          split at h <;> cases h
          rename_i h2
          exact (j4 h1).trans (j5 h2)
    · intro ps cur rn f r h
      obtain ⟨params, decls, out⟩ := f
      simp only [closeFunc] at h
      split at h
      · cases h
      · rename_i h1
        split at h
        · cases h
        · rename_i h2
          -- the sub-scope is dropped; the enclosing scope only receives its capture requests
          repeat' split at h
          all_goals cases h
          exact ((j3 h1).trans (j5 h2)).trans ⟨⟨_, rfl⟩, rfl⟩
    · intro ps cur ds r h
      cases ds with
      | nil => simp only [feedDecls] at h; cases h; exact Ext.refl _
      | cons d rest =>
        cases d with
        | letD x e =>
          simp only [feedDecls] at h
          split at h
          · cases h
          · rename_i h1
            split at h
            · cases h
            · rename_i h2
              split at h
              · cases h
              · rename_i h3
                exact (((j1 h1).trans (j4 h2)).trans (addVariable_ext h3)).trans (i7 _ _ _ _ h)
        | fnD name f =>
          simp only [feedDecls] at h
          split at h
          · cases h
          · rename_i h1
            split at h
            · cases h
            · rename_i h2
              exact ((j6 h1).trans (addStaticFunc_ext h2)).trans (i7 _ _ _ _ h)
        | fwdD name =>
          simp only [feedDecls] at h
          split at h
          · cases h
          · rename_i h1
            exact (addForwardFunc_ext h1).trans (i7 _ _ _ _ h)

theorem namesOf_nil (root : Scope) (ms : List FwdReq) (h : namesOf root ms = some []) : ms = [] := by
  cases ms with
  | nil => rfl
  | cons m rest =>
    simp only [namesOf] at h
    split at h
    · cases h
    · cases hn : namesOf root rest <;> simp [hn] at h

theorem unmetNames_nil (root : Scope) (rs : List FwdReq) (h : unmetNames root rs = some []) :
    ∀ r ∈ rs, unfulfilledBehind [root] r = .ok [] := by
  induction rs with
  | nil => simp
  | cons r0 rest ih =>
    intro r hr
    simp only [unmetNames] at h
    split at h
    · cases h
    · rename_i ms hms
      split at h
      · rename_i a b ha hb
        simp only [Option.some.injEq, List.append_eq_nil_iff] at h
        obtain ⟨rfl, rfl⟩ := h
        simp only [List.mem_cons] at hr
        rcases hr with rfl | hr
        · rw [hms, namesOf_nil root ms ha]
        · exact ih hb r hr
      · cases h

/-- for closed examples -/
def errOf (r : Except Err Scope) : Option Err := match r with | .error e => some e | .ok _ => none

end XrayModel.Scope
