/- `firstErr`, and what `evalList` hands on (core evaluator, XrayModel/Core.lean). -/
import XrayProofs.CoreShape
namespace XrayModel.Core

theorem firstErr_isErr {vs : List Val} {e : Val} (h : firstErr vs = some e) : e.isErr = true := by
  induction vs with
  | nil => simp [firstErr] at h
  | cons v rest ih =>
    simp only [firstErr] at h
    split at h
    · cases h; assumption
    · exact ih h

theorem firstErr_none_iff (vs : List Val) : firstErr vs = none ↔ ∀ v ∈ vs, v.isErr = false := by
  induction vs with
  | nil => simp [firstErr]
  | cons v rest ih =>
    simp only [firstErr, List.mem_cons, forall_eq_or_imp]
    split
    · simp_all
    · simp_all

theorem evalList_ok_noErr (fuel : Nat) (cfg : Cfg) (fr : Frame) (es : List Expr) (st st' : St) (vs : List Val)
    (h : evalList fuel cfg fr es st = (.ok vs, st')) : ∀ v ∈ vs, v.isErr = false := by
  induction fuel generalizing es st vs with
  | zero => rw [evalList] at h; cases h
  | succ n ih =>
    cases es with
    | nil => rw [evalList] at h; cases h; exact fun _ hv => nomatch hv
    | cons e rest =>
      rw [evalList_cons] at h
      obtain ⟨v, s, -, hk⟩ := onValE_eq_ok h
      cases v with
      | err m => cases hk
      | _ =>
        obtain ⟨vs1, hy, rfl⟩ := consOk_eq_ok hk
        exact List.forall_mem_cons.mpr ⟨rfl, ih _ _ _ hy⟩

theorem evalList_error_not_value (fuel : Nat) (cfg : Cfg) (fr : Frame) (es : List Expr) (st st' : St) (v : Val)
    (h : evalList fuel cfg fr es st = (.error (.val v), st')) (hv : v.isErr = false) : False := by
  induction fuel generalizing es st with
  | zero => rw [evalList] at h; cases h
  | succ n ih =>
    cases es with
    | nil => rw [evalList] at h; cases h
    | cons e rest =>
      rw [evalList_cons] at h
      -- an error value at the head ends the list with itself, which is not `v`
      generalize eval n cfg fr e false st = x at h
      rcases x with ⟨w | _ | _ | _ | _, s⟩
      case val =>
        cases w with
        | err m => cases h; cases hv
        | _ =>
          rcases hy : evalList n cfg fr rest s with ⟨r | _, s2⟩ <;> rw [onValE, hy] at h <;> cases h
          exact ih _ _ hy
      all_goals cases h

end XrayModel.Core
