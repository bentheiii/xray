/-
`LazyBigint` as a representation of `Int`: the canonical-form invariant `wf` (`short` exactly when the value fits an
`i64`), `Correct` (an operation succeeded with a canonical result of a given value) and the tests `is_zero`,
`is_one`, `is_negative`, `is_positive` as facts about the denoted integer.
-/
import XrayModel.LazyInt
import XrayModel.IntBuiltins
namespace XrayModel
open LB

theorem fits_iff (v : Int) : fits v = true ↔ (-9223372036854775808 ≤ v ∧ v ≤ 9223372036854775807) := by
  unfold fits I64_MIN I64_MAX
  rw [Bool.and_eq_true, decide_eq_true_iff, decide_eq_true_iff]

theorem fits_false_iff (v : Int) : fits v = false ↔ (v < -9223372036854775808 ∨ 9223372036854775807 < v) := by
  rw [← Bool.not_eq_true, fits_iff]; omega

def Correct (r : LB.R) (v : Int) : Prop := ∃ x, r = .ok x ∧ x.wf ∧ x.den = v

theorem wf_short (v : Int) : (short v).wf ↔ (-9223372036854775808 ≤ v ∧ v ≤ 9223372036854775807) := fits_iff v

theorem wf_long (v : Int) : (long v).wf ↔ (v < -9223372036854775808 ∨ 9223372036854775807 < v) := fits_false_iff v

theorem den_short (v : Int) : (short v).den = v := rfl
theorem den_long (v : Int) : (long v).den = v := rfl

theorem ofInt_wf (v : Int) : (ofInt v).wf := by
  unfold ofInt; split
  · assumption
  · exact eq_false_of_ne_true ‹_›

theorem ofInt_den (v : Int) : (ofInt v).den = v := by
  unfold ofInt; split <;> rfl

theorem ofInt_den_self (a : LB) (ha : a.wf) : ofInt a.den = a := by
  cases a with
  | short v => exact if_pos ha
  | long v => exact if_neg (ne_true_of_eq_false ha)

theorem correct_ok (x : LB) (w : Int) : Correct (.ok x) w ↔ (x.wf ∧ x.den = w) :=
  ⟨fun ⟨_, h, hw, hd⟩ => by cases h; exact ⟨hw, hd⟩, fun ⟨hw, hd⟩ => ⟨x, rfl, hw, hd⟩⟩

theorem correct_error (e : String) (w : Int) : Correct (.error e) w ↔ False :=
  ⟨fun ⟨_, h, _⟩ => (nomatch h), False.elim⟩

theorem Correct.eq {r : LB.R} {v : Int} (h : Correct r v) : r = .ok (ofInt v) := by
  obtain ⟨x, rfl, hw, rfl⟩ := h
  rw [ofInt_den_self x hw]

theorem correct_ofInt (v : Int) : Correct (.ok (ofInt v)) v := ⟨_, rfl, ofInt_wf v, ofInt_den v⟩

theorem correct_self {a : LB} (ha : a.wf) : Correct (.ok a) a.den := ⟨a, rfl, ha, rfl⟩

theorem correct_assertLong {v : Int} (h : fits v = false) : Correct (assertLong v) v := by
  unfold assertLong; rw [if_neg (ne_true_of_eq_false h)]; exact correct_self h

/-- the overflow-checked arm of the binary operations -/
theorem correct_checked (v : Int) : Correct (if fits v then .ok (short v) else assertLong v) v := by
  split
  · exact correct_self ‹_›
  · exact correct_assertLong (eq_false_of_ne_true ‹_›)

theorem isShort0_den {a : LB} (h : isShort0 a = true) : a.den = 0 := by
  cases a with
  | short v => exact beq_iff_eq.mp h
  | long v => cases h

theorem isZero_iff (a : LB) (ha : a.wf) : LB.isZero a = true ↔ a.den = 0 := by
  cases a with
  | short v => exact beq_iff_eq
  | long v =>
    rw [wf_long] at ha
    simp only [LB.isZero, den_long, Bool.false_eq_true, false_iff]; omega

theorem isZero_false_iff (a : LB) (ha : a.wf) : LB.isZero a = false ↔ a.den ≠ 0 := by
  rw [← Bool.not_eq_true, isZero_iff a ha]

theorem isNegative_iff (a : LB) : LB.isNegative a = true ↔ a.den < 0 := decide_eq_true_iff

theorem isPositive_iff (a : LB) : LB.isPositive a = true ↔ 0 < a.den := decide_eq_true_iff

theorem isOne_iff (a : LB) (ha : a.wf) : LB.isOne a = true ↔ a.den = 1 := by
  cases a with
  | short v => exact beq_iff_eq
  | long v =>
    rw [wf_long] at ha
    simp only [LB.isOne, den_long, Bool.false_eq_true, false_iff]; omega

end XrayModel
