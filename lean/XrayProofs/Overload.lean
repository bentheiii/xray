/-
For C05 (overload resolution).  `resolve` in closed form (`resolve_eq`): the first matching short-circuit candidate
wins; without one the loop is three filters (`inBucket`) followed by `decide3`, and `decide3` is the verdict (`pick`) of
the first rank that has a match.  Permutation, irrelevance, winner, errors and renaming are read off that form.
Renaming generic parameters renames the keys of what `bindIn` binds (`renB`), so it changes neither `matches` nor the
outcome.
-/
import XrayModel.Overload
import XrayProofs.Types
namespace XrayModel

def NoSC (cs : List Cand) (args : List Ty) : Prop := ∀ c ∈ cs, c.matches args = true → c.spec.shortCircuit = false

def inBucket (isUnk : Bool) (args : List Ty) (k : Nat) (c : Cand) : Bool :=
  c.matches args && (c.bucket isUnk == k)

theorem bucket_cases (c : Cand) (u : Bool) : c.bucket u = 0 ∨ c.bucket u = 1 ∨ c.bucket u = 2 := by
  unfold Cand.bucket
  cases c.kind with
  | dynamic => simp
  | static => by_cases h : (c.spec.isGeneric != u) = true <;> simp [h]

/-- a candidate at which the loop returns at once -/
def shortCut (args : List Ty) (c : Cand) : Bool := c.matches args && c.spec.shortCircuit

theorem resolveLoop_eq (u : Bool) (args : List Ty) (cs e g d : List Cand) :
    resolveLoop u args cs e g d =
      match cs.find? (shortCut args) with
      | some c => .ok c.id
      | none => decide3 u (e ++ cs.filter (inBucket u args 0)) (g ++ cs.filter (inBucket u args 1))
          (d ++ cs.filter (inBucket u args 2)) := by
  induction cs generalizing e g d with
  | nil => simp [resolveLoop]
  | cons c cs ih =>
    rw [resolveLoop]
    by_cases hm : c.matches args = true
    · by_cases hs : c.spec.shortCircuit = true
      · simp [shortCut, hm, hs]
      · rcases bucket_cases c u with hb | hb | hb <;> simp [hb, inBucket, hm, hs, ih, shortCut]
    · simp [hm, inBucket, shortCut, ih]

-- `find?` takes the first in list order, while a permutation of the candidates permutes each filter: this is why
-- `resolve_perm` asks for `NoSC` (of two matching short-circuit candidates the one declared first wins).
theorem resolve_eq (cs : List Cand) (args : List Ty) :
    resolve cs args =
      match cs.find? (shortCut args) with
      | some c => .ok c.id
      | none => decide3 (anyUnknown args) (cs.filter (inBucket (anyUnknown args) args 0))
          (cs.filter (inBucket (anyUnknown args) args 1)) (cs.filter (inBucket (anyUnknown args) args 2)) :=
  resolveLoop_eq _ _ _ [] [] []

theorem resolve_eq_filter (cs : List Cand) (args : List Ty) (h : NoSC cs args) :
    resolve cs args =
      decide3 (anyUnknown args) (cs.filter (inBucket (anyUnknown args) args 0))
        (cs.filter (inBucket (anyUnknown args) args 1)) (cs.filter (inBucket (anyUnknown args) args 2)) := by
  rw [resolve_eq, List.find?_eq_none.mpr fun c hc hs => by
    have hs := Bool.and_eq_true_iff.mp hs
    simp [h c hc hs.1] at hs]

def pick (isGeneric : Bool) : List Cand → Option Res
  | [] => none
  | [c] => some (.ok c.id)
  | l => some (.ambiguous isGeneric l.length)

theorem decide3_eq (u : Bool) (e g d : List Cand) :
    decide3 u e g d = ((pick u e).or ((pick (!u) g).or (pick true d))).getD .noOverload := by
  match e, g, d with
  | [_], _, _ | _ :: _ :: _, _, _ | [], [_], _ | [], _ :: _ :: _, _ | [], [], [_] | [], [], _ :: _ :: _
  | [], [], [] => rfl

theorem pick_perm (b : Bool) {l l' : List Cand} (h : l.Perm l') : pick b l = pick b l' := by
  match l, h with
  | [], h => rw [← h.nil_eq]
  | [a], h => rw [List.perm_singleton.mp h.symm]
  | _ :: _ :: _, h =>
    match l', h.length_eq with
    | _ :: _ :: _, hl => simp only [pick, hl]

theorem pick_eq_none {b : Bool} {l : List Cand} : pick b l = none ↔ l = [] := by
  match l with
  | [] | [_] | _ :: _ :: _ => simp [pick]

theorem pick_ne_noOverload {b : Bool} {l : List Cand} : pick b l ≠ some .noOverload := by
  match l with
  | [] | [_] | _ :: _ :: _ => simp [pick]

theorem pick_eq_ok {b : Bool} {l : List Cand} {i : Nat} : pick b l = some (.ok i) ↔ ∃ c, l = [c] ∧ c.id = i := by
  match l with
  | [] | [_] | _ :: _ :: _ => simp [pick]

theorem pick_rename (σ : String → String) (b : Bool) (l : List Cand) :
    pick b (l.map (Cand.rename σ)) = pick b l := by
  match l with
  | [] | [_] => rfl
  | _ :: _ :: _ => simp [pick]

theorem decide3_perm (u : Bool) {e e' g g' d d' : List Cand} (he : e.Perm e') (hg : g.Perm g') (hd : d.Perm d') :
    decide3 u e g d = decide3 u e' g' d' := by
  rw [decide3_eq, decide3_eq, pick_perm _ he, pick_perm _ hg, pick_perm _ hd]

theorem decide3_eq_ok (u : Bool) (e g d : List Cand) (i : Nat) :
    decide3 u e g d = .ok i ↔ (∃ c, e = [c] ∧ c.id = i) ∨
      e = [] ∧ ((∃ c, g = [c] ∧ c.id = i) ∨ g = [] ∧ ∃ c, d = [c] ∧ c.id = i) := by
  simp [decide3_eq, Option.getD_eq_iff, pick_eq_ok, pick_eq_none]

theorem decide3_eq_noOverload (u : Bool) (e g d : List Cand) :
    decide3 u e g d = .noOverload ↔ e = [] ∧ g = [] ∧ d = [] := by
  simp [decide3_eq, Option.getD_eq_iff, pick_eq_none, pick_ne_noOverload]

theorem noSC_perm {cs cs' : List Cand} {args : List Ty} (hp : cs.Perm cs') (h : NoSC cs args) : NoSC cs' args :=
  fun c hc => h c (hp.symm.subset hc)

def renB (σ : String → String) (b : Bnd) : Bnd := b.map fun e => (σ e.1, e.2)

theorem get_renB (σ : String → String) (hσ : Function.Injective σ) (b : Bnd) (k : String) :
    Bnd.get (renB σ b) (σ k) = Bnd.get b k := by
  induction b with
  | nil => rfl
  | cons e rest ih =>
    obtain ⟨k', v⟩ := e
    simp only [renB, List.map_cons, Bnd.get] at ih ⊢
    by_cases h : k' = k
    · subst h; simp
    · have : ¬ σ k' = σ k := fun e => h (hσ e)
      simp only [h, this, if_false]; exact ih

theorem insert_renB (σ : String → String) (hσ : Function.Injective σ) (b : Bnd) (k : String) (v : Ty) :
    Bnd.insert (renB σ b) (σ k) v = renB σ (Bnd.insert b k v) := by
  induction b with
  | nil => rfl
  | cons e rest ih =>
    obtain ⟨k', v'⟩ := e
    simp only [renB, List.map_cons, Bnd.insert] at ih ⊢
    by_cases h : k' = k
    · subst h; simp
    · have : ¬ σ k' = σ k := fun e => h (hσ e)
      simp only [h, this, if_false, List.map_cons, ih]

theorem mix_renB (σ : String → String) (hσ : Function.Injective σ) (self other : Bnd) :
    mix (renB σ self) (renB σ other) = (mix self other).map (renB σ) := by
  induction other generalizing self with
  | nil => rfl
  | cons e rest ih =>
    obtain ⟨k, v⟩ := e
    rw [show renB σ ((k, v) :: rest) = (σ k, v) :: renB σ rest from rfl, mix_cons, mix_cons, get_renB σ hσ]
    simp only [insert_renB σ hσ, ih, Option.map_bind]
    rfl

theorem renameList_length (σ : String → String) : (ts : List Ty) → (renameList σ ts).length = ts.length
  | [] => rfl
  | _ :: ts => congrArg (· + 1) (renameList_length σ ts)

/-- the two last steps of the function-type arms commute with the renaming -/
theorem tail_renB (σ : String → String) (hσ : Function.Injective σ) (z o : Option Bnd) :
    (match z.map (renB σ) with
      | none => none
      | some acc => match o.map (renB σ) with
        | none => none
        | some b => mix acc b) =
    (match z with
      | none => none
      | some acc => match o with
        | none => none
        | some b => mix acc b).map (renB σ) := by
  cases z with
  | none => rfl
  | some acc =>
    cases o with
    | none => rfl
    | some b => simp [mix_renB σ hσ]

theorem guard_renB {c : Prop} [Decidable c] {x y : Option Bnd} (σ : String → String) (h : x = y.map (renB σ)) :
    (if c then none else x) = (if c then none else y).map (renB σ) := by
  split <;> simp [h]

theorem bindIn_rename_all (σ : String → String) (hσ : Function.Injective σ) :
    (∀ r s, ground s = true → bindIn (renameTy σ r) s = (bindIn r s).map (renB σ)) ∧
    ∀ rs ss, groundList ss = true →
      (∀ acc, bindZip (renameList σ rs) ss (renB σ acc) = (bindZip rs ss acc).map (renB σ)) ∧
      bindZipRev (renameList σ rs) ss = (bindZipRev rs ss).map (renB σ) := by
  apply Ty.ind
  case bool | int | float | str =>
    intro s _
    simp only [renameTy]
    cases h : bindIn _ s with
    | none => rfl
    | some b => rw [((bindIn_atom rfl s b).mp h).2]; rfl
  case unknown => intro s hg; cases s <;> first | rfl | cases hg
  case generic => intro _ s hg; cases s <;> first | rfl | cases hg
  case func => intro _ _ _ _ _ _ s hg; cases s <;> first | rfl | cases hg
  case tuple =>
    intro rs ih s hg
    rw [show renameTy σ (.tuple rs) = .tuple (renameList σ rs) from rfl, bindIn_tuple, bindIn_tuple, renameList_length]
    cases s with
    | tuple ss => exact guard_renB σ ((ih ss hg).1 [])
    | _ => rfl
  case native =>
    intro n rs ih s hg
    rw [show renameTy σ (.native n rs) = .native n (renameList σ rs) from rfl, bindIn_native, bindIn_native]
    cases s with
    | native m ss => exact guard_renB σ ((ih ss hg).1 [])
    | _ => rfl
  case compound =>
    intro k n rs ih s hg
    rw [show renameTy σ (.compound k n rs) = .compound k n (renameList σ rs) from rfl, bindIn_compound, bindIn_compound]
    cases s with
    | compound k' m ss => exact guard_renB σ (ih ss hg).2
    | _ => rfl
  case callable =>
    intro ps r ihp ihr s hg
    rw [show renameTy σ (.callable ps r) = .callable (renameList σ ps) (renameTy σ r) from rfl, bindIn_callable,
      bindIn_callable, renameList_length]
    cases s with
    | callable ps' r' =>
      have hg := Bool.and_eq_true_iff.mp hg
      have hz : bindZip (renameList σ ps) ps' [] = _ := (ihp ps' hg.1).1 []
      refine guard_renB σ ?_
      rw [hz, ihr r' hg.2]
      exact tail_renB σ hσ _ _
    | func _ _ _ _ => cases hg
    | _ => rfl
  case nil => exact fun _ _ => ⟨fun _ => rfl, rfl⟩
  case cons =>
    intro r rs ihr ihrs ss hg
    cases ss with
    | nil => exact ⟨fun _ => rfl, rfl⟩
    | cons s ss =>
      have hg := Bool.and_eq_true_iff.mp hg
      obtain ⟨hz, hzr⟩ := ihrs ss hg.2
      rw [show renameList σ (r :: rs) = renameTy σ r :: renameList σ rs from rfl, bindZipRev_cons, bindZipRev_cons, hzr,
        ihr s hg.1]
      refine ⟨fun acc => ?_, ?_⟩
      · rw [bindZip_cons, bindZip_cons, ihr s hg.1]
        cases bindIn r s with
        | none => rfl
        | some sub =>
          simp only [Option.map_some, Option.bind_some, mix_renB σ hσ]
          cases mix acc sub with
          | none => rfl
          | some acc' => exact hz acc'
      · cases bindZipRev rs ss with
        | none => rfl
        | some acc =>
          cases bindIn r s with
          | none => rfl
          | some sub => exact mix_renB σ hσ acc sub

theorem bindIn_rename (σ : String → String) (hσ : Function.Injective σ) : (r s : Ty) → ground s = true →
    bindIn (renameTy σ r) s = (bindIn r s).map (renB σ) :=
  (bindIn_rename_all σ hσ).1
theorem bindZip_rename (σ : String → String) (hσ : Function.Injective σ) (rs ss : List Ty) (acc : Bnd)
    (hg : groundList ss = true) : bindZip (renameList σ rs) ss (renB σ acc) = (bindZip rs ss acc).map (renB σ) :=
  ((bindIn_rename_all σ hσ).2 rs ss hg).1 acc
theorem bindZipRev_rename (σ : String → String) (hσ : Function.Injective σ) : (rs ss : List Ty) →
    groundList ss = true → bindZipRev (renameList σ rs) ss = (bindZipRev rs ss).map (renB σ) :=
  fun rs ss hg => ((bindIn_rename_all σ hσ).2 rs ss hg).2

theorem specBind_rename (σ : String → String) (hσ : Function.Injective σ) (f : FuncSpec) (args : List Ty)
    (hg : groundList args = true) : specBind (f.rename σ) args = (specBind f args).map (renB σ) := by
  have hz : bindZip (renameList σ f.ps) args [] = _ := bindZip_rename σ hσ f.ps args [] hg
  have hl : (f.rename σ).ps.length = f.ps.length := renameList_length σ f.ps
  unfold specBind
  rw [hl]
  exact guard_renB σ hz

theorem matches_rename (σ : String → String) (hσ : Function.Injective σ) (c : Cand) (args : List Ty)
    (hg : groundList args = true) : (c.rename σ).matches args = c.matches args := by
  show (specBind (c.spec.rename σ) args).isSome = (specBind c.spec args).isSome
  rw [specBind_rename σ hσ c.spec args hg]
  cases specBind c.spec args <;> rfl

theorem bucket_rename (σ : String → String) (c : Cand) (u : Bool) : (c.rename σ).bucket u = c.bucket u := by
  obtain ⟨id, ⟨gens, ps, nreq, ret, sc⟩, kind, height, pending⟩ := c
  cases kind with
  | dynamic => rfl
  | static => cases gens <;> rfl

theorem decide3_rename (σ : String → String) (u : Bool) (e g d : List Cand) :
    decide3 u (e.map (Cand.rename σ)) (g.map (Cand.rename σ)) (d.map (Cand.rename σ)) = decide3 u e g d := by
  simp only [decide3_eq, pick_rename]

end XrayModel
