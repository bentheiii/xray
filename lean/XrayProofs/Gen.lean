/- The adaptors of the generator step machine against lists of items (C16, C10): `n` steps of an adaptor as a function
of `n` steps of its source (`outs_*`, with `after_*` for the state reached), and on top of these the finite denotations
(`Den`: yields exactly this list, then ends) of the adaptors, of chains, of `repeat`, of one round of `zip`. -/
import XrayModel.Gen
namespace XrayModel.Gen

def mapItem (f : F) : Item → Item
  | .viol => .viol
  | x => f x

/-- what `filter` does with one element: `none` = rejected -/
def filt (p : P) : Item → Option Item
  | .viol => some .viol
  | x => match p x with
    | .viol => some .viol
    | .err => some .err
    | .t => some x
    | .f => none

/-- `take_while` on a list of items -/
def twItems (p : P) : List Item → List Item
  | [] => []
  | x :: xs =>
    match x with
    | .viol => .viol :: twItems p xs
    | x => match p x with
      | .viol => .viol :: twItems p xs
      | .err => .err :: twItems p xs
      | .t => x :: twItems p xs
      | .f => []

/-- `skip_until` on a list of items -/
def suItems (p : P) : List Item → List Item
  | [] => []
  | x :: xs =>
    match x with
    | .viol => .viol :: suItems p xs
    | x => match p x with
      | .viol => .viol :: suItems p xs
      | .err => .err :: suItems p xs
      | .t => x :: xs
      | .f => suItems p xs

/-- `Slice(start, end)` on a list of items: discard `k` (a violation among them is not discarded),
then at most `t` -/
def sliceItems : Nat → Option Nat → List Item → List Item
  | _, some 0, _ => []
  | _, _, [] => []
  | 0, t, x :: xs => x :: sliceItems 0 (decTake t) xs
  | k + 1, t, x :: xs =>
    match x with
    | .viol => .viol :: sliceItems k (decTake t) xs
    | _ => sliceItems k t xs

/-- `aggregate` (a scan) on a list of items, after the initial state has been yielded -/
def scanItems (f : F2) : Item → List Item → List Item
  | _, [] => []
  | st, x :: xs =>
    match x with
    | .viol => .viol :: scanItems f st xs
    | x => match f st x with
      | .viol => .viol :: scanItems f st xs
      | r => r :: scanItems f r xs

def takeOpt {α : Type} : Option Nat → List α → List α
  | none, xs => xs
  | some n, xs => xs.take n

def Permits.covers : Permits → Nat → Prop
  | .unlimited, _ => True
  | .left k, m => m ≤ k
  | .dead, m => m = 0

/-- `none`: the iterator has answered `done` -/
def after (L : Option Nat) : Nat → It → Option It
  | 0, it => some it
  | n + 1, it =>
    match step L it with
    | .done => none
    | .skip s => after L n s
    | .yield _ s => after L n s

def noViol (xs : List Item) : Prop := ∀ x ∈ xs, x ≠ Item.viol

theorem covers_next_ok {perm : Permits} {m : Nat} (h : perm.covers (m + 1)) :
    ∃ perm', perm.next = (.ok, perm') ∧ perm'.covers m := by
  cases perm with
  | unlimited => exact ⟨.unlimited, rfl, trivial⟩
  | left k =>
    cases k with
    | zero => simp [Permits.covers] at h
    | succ k => exact ⟨.left k, rfl, Nat.le_of_succ_le_succ h⟩
  | dead => simp [Permits.covers] at h

theorem covers_mono {perm : Permits} {m m' : Nat} (h : perm.covers m) (hm : m' ≤ m) : perm.covers m' := by
  cases perm with
  | unlimited => trivial
  | left k => exact Nat.le_trans hm h
  | dead => exact Nat.le_zero.mp (h ▸ hm)

theorem covers_zero (perm : Permits) : perm.covers 0 := by
  cases perm <;> simp [Permits.covers]

theorem step_map (L it f) : step L (.map it f) =
    match step L it with
    | .done => .done
    | .skip s => .skip (.map s f)
    | .yield x s => .yield (mapItem f x) (.map s f) := by
  rw [step]
  cases step L it with
  | yield x s => cases x <;> rfl
  | _ => rfl

theorem step_chain (L : Option Nat) (cur : It) (rest : List G) : step L (.chain cur rest) =
    match step L cur with
    | .yield x s => .yield x (.chain s rest)
    | .skip s => .skip (.chain s rest)
    | .done =>
      match rest with
      | [] => .done
      | g :: r => .skip (.chain (g.start L) r) := by
  cases rest <;> rw [step] <;> cases step L cur <;> rfl

theorem step_repeat (L : Option Nat) (g : G) (cur : It) (fresh : Bool) : step L (.repeat_ g cur fresh) =
    match step L cur with
    | .yield x s => .yield x (.repeat_ g s false)
    | .skip s => .skip (.repeat_ g s fresh)
    | .done => if fresh then .done else .skip (.repeat_ g (g.start L) true) := by
  rw [step]; cases step L cur <;> rfl

theorem step_slice_zero (L it k perm) : step L (.slice it k perm (some 0)) = .done := by rw [step]

theorem step_slice (L it k perm) {t : Option Nat} (ht : t ≠ some 0) : step L (.slice it k perm t) =
    match step L it with
    | .done => .done
    | .skip s => .skip (.slice s k perm t)
    | .yield x s =>
      match k with
      | 0 => .yield x (.slice s 0 perm (decTake t))
      | k' + 1 =>
        match perm.next with
        | (.ok, perm') =>
          match x with
          | .viol => .yield .viol (.slice s k' perm' (decTake t))
          | _ => .skip (.slice s k' perm' t)
        | (_, perm') => .yield .viol (.slice s (k' + 1) perm' (decTake t)) := by
  rw [step]
  · rfl
  · exact ht

theorem step_aggregate_first (L : Option Nat) (it : It) (st : Item) (f : F2) :
    step L (.aggregate it st f true) = .yield st (.aggregate it st f false) := by
  rw [step]; rfl

theorem outs_map (L : Option Nat) (f : F) (n : Nat) (it : It) :
    outs L n (.map it f) = (outs L n it).map (mapItem f) := by
  fun_induction outs L n it <;> simp_all [outs, step_map]

theorem after_map (L : Option Nat) (f : F) (n : Nat) (it : It) :
    after L n (.map it f) = (after L n it).map (fun s => .map s f) := by
  fun_induction after L n it <;> simp_all [after, step_map]

theorem ended_map (L : Option Nat) (f : F) :
    ∀ n it, ended L n (.map it f) = ended L n it := by
  intro n it
  fun_induction ended L n it <;> simp_all [ended, step_map]

/-- `n` steps of `filter` while the permits last: the elements let through, and the source where its `n` steps
have left it -/
theorem filter_steps (L : Option Nat) (p : P) (n : Nat) (it : It) (perm : Permits)
    (hc : perm.covers (outs L n it).length) :
    ∃ perm', outs L n (.filter it p perm) = (outs L n it).filterMap (filt p) ∧
      after L n (.filter it p perm) = (after L n it).map (fun s => .filter s p perm') := by
  fun_induction outs L n it generalizing perm with
  | case1 => exact ⟨perm, rfl, rfl⟩
  | case2 n it hs => exact ⟨perm, by simp [outs, step, hs], by simp [after, step, hs]⟩
  | case3 n it s hs ih => simpa [outs, after, step, hs] using ih perm hc
  | case4 n it x s hs ih =>
    obtain ⟨perm', hn, hc'⟩ := covers_next_ok hc
    obtain ⟨q, ho, ha⟩ := ih perm' hc'
    refine ⟨q, ?_⟩
    rw [outs, after, after, step]
    simp only [hs, hn, List.filterMap_cons, ← ho, ← ha]
    cases x with
    | viol => exact ⟨rfl, rfl⟩
    | err => simp only [filt]; cases p .err <;> exact ⟨rfl, rfl⟩
    | val v => simp only [filt]; cases p (.val v) <;> exact ⟨rfl, rfl⟩

theorem outs_takeWhile (L : Option Nat) (p : P) (n : Nat) (it : It) :
    outs L n (.takeWhile it p) = twItems p (outs L n it) := by
  fun_induction outs L n it with
  | case1 => rfl
  | case2 n it hs => simp [outs, step, hs, twItems]
  | case3 n it s hs ih => simp [outs, step, hs, ih]
  | case4 n it x s hs ih =>
    rw [outs, step]
    simp only [hs, twItems, ← ih]
    cases x with
    | viol => rfl
    | err => dsimp only; cases p .err <;> rfl
    | val v => dsimp only; cases p (.val v) <;> rfl

theorem outs_skipUntil_found (L : Option Nat) (p : P) (perm : Permits) (n : Nat) (it : It) :
    outs L n (.skipUntil it p true perm) = outs L n it := by
  fun_induction outs L n it <;> simp_all [outs, step]

theorem outs_skipUntil (L : Option Nat) (p : P) (n : Nat) (it : It) (perm : Permits)
    (hc : perm.covers (outs L n it).length) :
    outs L n (.skipUntil it p false perm) = suItems p (outs L n it) := by
  fun_induction outs L n it generalizing perm with
  | case1 => rfl
  | case2 n it hs => simp [outs, step, hs, suItems]
  | case3 n it s hs ih => simp [outs, step, hs, ih perm hc]
  | case4 n it x s hs ih =>
    obtain ⟨perm', hn, hc'⟩ := covers_next_ok hc
    rw [outs, step]
    simp only [hs, hn, suItems, ← ih perm' hc', Bool.false_eq_true, ↓reduceIte]
    cases x with
    | viol => rfl
    | err => dsimp only; cases p .err <;> simp only [outs_skipUntil_found]
    | val v => dsimp only; cases p (.val v) <;> simp only [outs_skipUntil_found]

theorem sliceItems_nil (k : Nat) (t : Option Nat) : sliceItems k t [] = [] := by
  cases t with
  | none => cases k <;> rfl
  | some t => cases t <;> cases k <;> rfl

theorem sliceItems_cons {t : Option Nat} (ht : t ≠ some 0) (k : Nat) (x : Item) (xs : List Item) :
    sliceItems k t (x :: xs) =
      match k with
      | 0 => x :: sliceItems 0 (decTake t) xs
      | k + 1 =>
        match x with
        | .viol => .viol :: sliceItems k (decTake t) xs
        | _ => sliceItems k t xs := by
  cases t with
  | none => cases k <;> rfl
  | some t =>
    cases t with
    | zero => exact absurd rfl ht
    | succ t => cases k <;> rfl

theorem outs_slice (L : Option Nat) (n : Nat) (it : It) (k : Nat) (perm : Permits) (t : Option Nat)
    (hc : perm.covers k) : outs L n (.slice it k perm t) = sliceItems k t (outs L n it) := by
  induction n generalizing it k perm t with
  | zero => simp [outs, sliceItems_nil]
  | succ n ih =>
    by_cases ht : t = some 0
    · subst ht; simp [outs, step_slice_zero, sliceItems]
    · rw [outs, outs, step_slice L it k perm ht]
      cases step L it with
      | done => simp [sliceItems_nil]
      | skip s => exact ih s k perm t hc
      | «yield» x s =>
        rw [sliceItems_cons ht]
        cases k with
        | zero => simp [ih s 0 perm (decTake t) hc]
        | succ k =>
          obtain ⟨perm', hn, hc'⟩ := covers_next_ok hc
          simp only [hn]
          cases x <;> simp [ih s k perm' _ hc']

theorem takeOpt_cons {α : Type} {t : Option Nat} (ht : t ≠ some 0) (x : α) (xs : List α) :
    takeOpt t (x :: xs) = x :: takeOpt (decTake t) xs := by
  match t with
  | none => rfl
  | some 0 => exact absurd rfl ht
  | some (t + 1) => rfl

theorem sliceItems_noViol (xs : List Item) (k : Nat) (t : Option Nat) (hv : noViol xs) :
    sliceItems k t xs = takeOpt t (xs.drop k) := by
  induction xs generalizing k t with
  | nil => rw [sliceItems_nil]; cases t <;> simp [takeOpt]
  | cons x xs ih =>
    have ih := fun k t => ih k t fun y hy => hv y (List.mem_cons_of_mem _ hy)
    by_cases ht : t = some 0
    · subst ht; simp [sliceItems, takeOpt]
    · rw [sliceItems_cons ht]
      cases k with
      | zero => rw [ih, List.drop_zero, List.drop_zero, takeOpt_cons ht]
      | succ k =>
        cases x with
        | viol => exact absurd rfl (hv _ (List.mem_cons_self ..))
        | _ => exact ih k t

theorem outs_aggregate (L : Option Nat) (f : F2) (n : Nat) (it : It) (st : Item) :
    outs L n (.aggregate it st f false) = scanItems f st (outs L n it) := by
  fun_induction outs L n it generalizing st with
  | case1 => rfl
  | case2 n it hs => simp [outs, step, hs, scanItems]
  | case3 n it s hs ih => simp [outs, step, hs, ih]
  | case4 n it x s hs ih =>
    rw [outs, step]
    simp only [hs, scanItems, ← ih, Bool.false_eq_true, ↓reduceIte]
    cases x with
    | viol => rfl
    | err => dsimp only; cases f st .err <;> rfl
    | val v => dsimp only; cases f st (.val v) <;> rfl

theorem outs_aggregate_first (L : Option Nat) (f : F2) (n : Nat) (it : It) (st : Item) :
    outs L (n + 1) (.aggregate it st f true) = st :: scanItems f st (outs L n it) := by
  rw [outs, step_aggregate_first, ← outs_aggregate]

theorem outs_add (L : Option Nat) (k m : Nat) (it : It) :
    outs L (k + m) it = outs L k it ++ (match after L k it with | some s => outs L m s | none => []) := by
  fun_induction outs L k it <;> simp_all [after, outs, Nat.succ_add]

theorem after_add (L : Option Nat) (k m : Nat) (it : It) :
    after L (k + m) it = (after L k it).bind (after L m) := by
  fun_induction after L k it <;> simp_all [after, Nat.succ_add]

def Den (L : Option Nat) (it : It) (xs : List Item) : Prop :=
  ∃ n, after L n it = none ∧ outs L n it = xs

namespace Den

theorem done {L it} (h : step L it = .done) : Den L it [] :=
  ⟨1, by simp [after, h], by simp [outs, h]⟩

theorem skip {L it s xs} (h : step L it = .skip s) : Den L s xs → Den L it xs
  | ⟨n, h1, h2⟩ => ⟨n + 1, by simpa [after, h] using h1, by simpa [outs, h] using h2⟩

theorem yield {L it x s xs} (h : step L it = .yield x s) : Den L s xs → Den L it (x :: xs)
  | ⟨n, h1, h2⟩ => ⟨n + 1, by simpa [after, h] using h1, by simpa [outs, h] using h2⟩

/-- `Den` is the least relation closed under the three rules above -/
theorem ind {L} {motive : ∀ it xs, Den L it xs → Prop}
    (done : ∀ {it} (hs : step L it = .done), motive it [] (.done hs))
    (skip : ∀ {it s xs} (hs : step L it = .skip s) (h : Den L s xs), motive s xs h → motive it xs (.skip hs h))
    (yield : ∀ {it x s xs} (hs : step L it = .yield x s) (h : Den L s xs), motive s xs h →
      motive it (x :: xs) (.yield hs h)) :
    ∀ it xs (h : Den L it xs), motive it xs h := by
  rintro it xs ⟨n, h1, h2⟩
  induction n generalizing it xs with
  | zero => simp [after] at h1
  | succ n ih =>
    simp only [after, outs] at h1 h2
    cases hs : step L it with
    | done => simp only [hs] at h2; subst h2; exact done hs
    | skip s => simp only [hs] at h1 h2; exact skip hs _ (ih s xs h1 h2)
    | «yield» x s => simp only [hs] at h1 h2; subst h2; exact yield hs _ (ih s _ h1 rfl)

theorem ind_vals {L} {motive : ∀ it (vs : List V), Den L it (vs.map .val) → Prop}
    (done : ∀ {it} (hs : step L it = .done), motive it [] (.done hs))
    (skip : ∀ {it s vs} (hs : step L it = .skip s) (h : Den L s (vs.map .val)), motive s vs h →
      motive it vs (.skip hs h))
    (yield : ∀ {it v s vs} (hs : step L it = .yield (.val v) s) (h : Den L s (vs.map .val)), motive s vs h →
      motive it (v :: vs) (.yield hs h)) :
    ∀ it vs (h : Den L it (vs.map .val)), motive it vs h := by
  have key : ∀ it xs (h : Den L it xs) vs (e : vs.map Item.val = xs), motive it vs (e ▸ h) := by
    intro it xs h
    induction it, xs, h using ind with
    | done hs => intro vs e; cases vs <;> simp at e; exact done hs
    | skip hs h ih => intro vs e; subst e; exact skip hs h (ih vs rfl)
    | yield hs h ih =>
      intro vs e
      cases vs with
      | nil => simp at e
      | cons v vs =>
        obtain ⟨rfl, rfl⟩ := List.cons.inj e
        exact yield hs h (ih vs rfl)
  exact fun it vs h => key it _ h vs rfl

end Den

theorem den_arr (L : Option Nat) (vs : List V) : Den L (.arr vs) (vs.map Item.val) := by
  induction vs with
  | nil => exact .done rfl
  | cons v vs ih => exact .yield rfl ih

theorem den_map {L it xs} (f : F) (h : Den L it xs) : Den L (.map it f) (xs.map (mapItem f)) := by
  obtain ⟨n, h1, h2⟩ := h
  exact ⟨n, by simp [after_map, h1], by simp [outs_map, h2]⟩

theorem den_filter {L it xs} (p : P) (perm : Permits) (h : Den L it xs) (hc : perm.covers xs.length) :
    Den L (.filter it p perm) (xs.filterMap (filt p)) := by
  obtain ⟨n, h1, rfl⟩ := h
  obtain ⟨q, ho, ha⟩ := filter_steps L p n it perm hc
  exact ⟨n, by simp [ha, h1], ho⟩

theorem den_budget {L it xs} (perm : Permits) (h : Den L it xs) (hc : perm.covers xs.length) :
    Den L (.budget it perm) xs := by
  induction it, xs, h using Den.ind generalizing perm with
  | done hs => exact .done (by simp [step, hs])
  | skip hs _ ih => exact .skip (by simp [step, hs]) (ih perm hc)
  | yield hs _ ih =>
    obtain ⟨perm', hn, hc'⟩ := covers_next_ok hc
    exact .yield (by simp [step, hs, hn]) (ih perm' hc')

theorem den_prepend {L s s' ys zs} (N : Nat) (ho : outs L N s = ys) (ha : after L N s = some s')
    (h : Den L s' zs) : Den L s (ys ++ zs) := by
  obtain ⟨m, h1, h2⟩ := h
  exact ⟨N + m, by rw [after_add, ha]; exact h1, by rw [outs_add, ha, ho]; exact congrArg _ h2⟩

inductive DenParts (L : Option Nat) : List G → List Item → Prop
  | nil : DenParts L [] []
  | cons {g r ys zs} : Den L (g.start L) ys → DenParts L r zs → DenParts L (g :: r) (ys ++ zs)

theorem den_chain_parts {L parts zs} (hp : DenParts L parts zs) {cur xs} (h : Den L cur xs) :
    Den L (.chain cur parts) (xs ++ zs) := by
  induction hp generalizing cur xs with
  | nil =>
    induction cur, xs, h using Den.ind with
    | done hs => exact .done (by rw [step_chain, hs])
    | skip hs _ ih => exact .skip (by rw [step_chain, hs]) ih
    | yield hs _ ih => exact .yield (by rw [step_chain, hs]) ih
  | cons hg _ ihp =>
    induction cur, xs, h using Den.ind with
    | done hs => exact .skip (by rw [step_chain, hs]) (ihp hg)
    | skip hs _ ih => exact .skip (by rw [step_chain, hs]) ih
    | yield hs _ ih => exact .yield (by rw [step_chain, hs]) ih

theorem denParts_append {L p0 p1 xs ys} (h0 : DenParts L p0 xs) (h1 : DenParts L p1 ys) :
    DenParts L (p0 ++ p1) (xs ++ ys) := by
  induction h0 with
  | nil => exact h1
  | cons hg _ ih => rw [List.append_assoc]; exact .cons hg ih

theorem drain_den (L : Option Nat) {it vs} (h : Den L it (vs.map Item.val)) (acc : List V) :
    ∃ n, drain L n it acc = .ok (acc.reverse ++ vs) := by
  induction it, vs, h using Den.ind_vals generalizing acc with
  | done hs => exact ⟨1, by simp [drain, hs]⟩
  | skip hs _ ih => obtain ⟨n, hn⟩ := ih acc; exact ⟨n + 1, by simpa [drain, hs] using hn⟩
  | yield hs _ ih => obtain ⟨n, hn⟩ := ih (_ :: acc); exact ⟨n + 1, by simpa [drain, hs] using hn⟩

theorem noViol_takeOpt_drop {xs : List Item} (t : Option Nat) (k : Nat) (h : noViol xs) :
    noViol (takeOpt t (xs.drop k)) := by
  intro x hx
  apply h x
  cases t with
  | none => exact List.mem_of_mem_drop hx
  | some t => exact List.mem_of_mem_drop (List.mem_of_mem_take hx)

/-- the end of two merged slices (`generators.rs:505-509`) -/
def mergeEnd (iend : Option Nat) (end_ : Option Nat) (istart : Nat) : Option Nat :=
  match iend, end_.map (· + istart) with
  | none, none => none
  | some a, none => some a
  | none, some b => some b
  | some a, some b => some (min a b)

theorem slice_slice_list (xs : List Item) (a c : Nat) (b d : Option Nat) :
    takeOpt (d.map (· - c)) ((takeOpt (b.map (· - a)) (xs.drop a)).drop c) =
    takeOpt ((mergeEnd b d a).map (· - (a + c))) (xs.drop (a + c)) := by
  have hd : ∀ d, d + a - (a + c) = d - c := fun d => by rw [Nat.add_comm a c, Nat.add_sub_add_right]
  cases b <;> cases d <;>
    simp only [mergeEnd, takeOpt, Option.map_none, Option.map_some, List.drop_drop, List.drop_take, List.take_take,
      Nat.sub_sub, ← Nat.sub_min_sub_right, hd]
  rw [Nat.min_comm]

theorem outs_start_slice (L : Option Nat) (n : Nat) (g : G) (a : Nat) (b : Option Nat)
    (hc : (Permits.ofLimit L).covers a) (hv : noViol (outs L n (g.start L))) :
    outs L n ((G.slice g a b).start L) = takeOpt (b.map (· - a)) ((outs L n (g.start L)).drop a) := by
  rw [G.start, outs_slice L n _ a _ _ hc, sliceItems_noViol _ _ _ hv]

theorem mkSlice_slice (inner : G) (a : Nat) (b : Option Nat) (c : Nat) (d : Option Nat)
    (h : ¬ (c = 0 ∧ d = none)) :
    G.mkSlice (.slice inner a b) c d = .slice inner (a + c) (mergeEnd b d a) := by
  have : (c == 0 && d.isNone) = false := by cases d <;> simp_all
  simp only [G.mkSlice, this]
  rfl

def G.parts : G → List G
  | .chain ps => ps
  | g => [g]

theorem mkChain_parts (a b : G) : a.mkChain b = .chain (a.parts ++ b.parts) := by
  unfold G.mkChain
  split <;> simp [G.parts, *]

theorem startAll_map (L : Option Nat) : ∀ (gs : List G), G.startAll L gs = gs.map (G.start L)
  | [] => rfl
  | g :: gs => by rw [G.startAll, startAll_map L gs]; rfl

/-- `with_count` on a list of items -/
def wcItems (eq : V → V → Bool) : List (V × Nat) → List Item → List Item
  | _, [] => []
  | seen, x :: xs =>
    match x with
    | .viol => .viol :: wcItems eq seen xs
    | .err => .err :: wcItems eq seen xs
    | .val v => .val (.tup [v, .int (bump eq v seen).1]) :: wcItems eq (bump eq v seen).2 xs

theorem wcItems_length (eq : V → V → Bool) (seen : List (V × Nat)) (xs : List Item) :
    (wcItems eq seen xs).length = xs.length := by
  induction xs generalizing seen with
  | nil => rfl
  | cons x xs ih => cases x <;> simp [wcItems, ih]

theorem outs_withCount (L : Option Nat) (eq : V → V → Bool) (n : Nat) (it : It) (seen : List (V × Nat)) :
    outs L n (.withCount it eq seen) = wcItems eq seen (outs L n it) := by
  fun_induction outs L n it generalizing seen with
  | case4 n it x s hs ih => cases x <;> simp [outs, step, hs, wcItems, ih]
  | _ => simp_all [outs, step, wcItems]

/-- sliding windows of width `size` over a list of items, `mem` being the elements already held -/
def winItems (size : Nat) : List V → List Item → List Item
  | _, [] => []
  | mem, x :: xs =>
    match x with
    | .val v =>
      if (mem ++ [v]).length == size then .val (.seq (mem ++ [v])) :: winItems size (mem ++ [v]).tail xs
      else winItems size (mem ++ [v]) xs
    | x => x :: winItems size mem xs

theorem outs_windows (L : Option Nat) (size : Nat) (n : Nat) (it : It) (mem : List V) (perm : Permits)
    (hc : perm.covers (outs L n it).length) :
    outs L n (.windows it size mem perm) = winItems size mem (outs L n it) := by
  fun_induction outs L n it generalizing mem perm with
  | case1 => rfl
  | case2 n it hs => simp [outs, step, hs, winItems]
  | case3 n it s hs ih => simp [outs, step, hs, ih mem perm hc]
  | case4 n it x s hs ih =>
    obtain ⟨perm', hn, hc'⟩ := covers_next_ok hc
    rw [outs, step]
    simp only [hs, hn, winItems, ← ih _ perm' hc']
    cases x with
    | val v => dsimp only; cases (mem ++ [v]).length == size <;> rfl
    | _ => rfl

/-- one pass of `repeat`: while the pass runs the repetition is the pass; when the pass ends after having
yielded something, the next pass starts from the generator value again -/
theorem repeat_pass (L : Option Nat) (g : G) {cur xs} (h : Den L cur xs) (fresh : Bool) :
    ∃ k, outs L k (.repeat_ g cur fresh) = xs ∧
      after L k (.repeat_ g cur fresh) =
        (if fresh && xs.isEmpty then none else some (.repeat_ g (g.start L) true)) := by
  induction cur, xs, h using Den.ind generalizing fresh with
  | done hs => exact ⟨1, by cases fresh <;> simp [outs, after, step_repeat, hs]⟩
  | skip hs _ ih =>
    obtain ⟨k, hk⟩ := ih fresh
    exact ⟨k + 1, by simpa [outs, after, step_repeat, hs] using hk⟩
  | yield hs _ ih =>
    obtain ⟨k, hk⟩ := ih false
    exact ⟨k + 1, by simpa [outs, after, step_repeat, hs] using hk⟩

theorem repeat_cycles (L : Option Nat) (g : G) (xs : List Item) (h : Den L (g.start L) xs) (hne : xs ≠ []) (m : Nat) :
    ∃ k, outs L k (.repeat_ g (g.start L) true) = (List.replicate m xs).flatten ∧
      after L k (.repeat_ g (g.start L) true) = some (.repeat_ g (g.start L) true) := by
  induction m with
  | zero => exact ⟨0, rfl, rfl⟩
  | succ m ih =>
    obtain ⟨k, hk1, hk2⟩ := ih
    obtain ⟨j, hj1, hj2⟩ := repeat_pass L g h true
    rw [List.isEmpty_eq_false_iff.mpr hne] at hj2
    exact ⟨k + j, by simp [outs_add, hk1, hk2, hj1, List.replicate_succ'], by simp [after_add, hk2, hj2]⟩

def skipsTo (L : Option Nat) : Nat → It → It → Prop
  | 0, it, it' => it = it'
  | n + 1, it, it' => ∃ s, step L it = .skip s ∧ skipsTo L n s it'

theorem skipsTo_run {L j it it'} (h : skipsTo L j it it') (m : Nat) :
    outs L (j + m) it = outs L m it' ∧ after L (j + m) it = after L m it' := by
  induction j generalizing it with
  | zero => rw [Nat.zero_add]; cases h; exact ⟨rfl, rfl⟩
  | succ j ih =>
    obtain ⟨s, hs, hr⟩ := h
    simp only [Nat.succ_add, outs, after, hs]
    exact ih hr

theorem skipsTo_congr {L} (C : It → It) (hC : ∀ it s, step L it = .skip s → step L (C it) = .skip (C s))
    {j it it'} (h : skipsTo L j it it') : skipsTo L j (C it) (C it') := by
  induction j generalizing it with
  | zero => exact congrArg C h
  | succ j ih =>
    obtain ⟨s, hs, hr⟩ := h
    exact ⟨C s, hC it s hs, ih hr⟩

theorem skipsTo_snoc {L j it it' s} (h : skipsTo L j it it') (hs : step L it' = .skip s) :
    skipsTo L (j + 1) it s := by
  induction j generalizing it with
  | zero => cases h; exact ⟨s, hs, rfl⟩
  | succ j ih =>
    obtain ⟨t, ht, hr⟩ := h
    exact ⟨t, ht, ih hr⟩

def pairItem : Item → Item → Item
  | .val a, .val b => .val (.tup [a, b])
  | _, _ => .err

theorem step_zip_skip (L : Option Nat) (rest pulled : List It) (acc : List V) (bad : Bool) (it s : It)
    (hs : step L it = .skip s) :
    step L (.zip (it :: rest) pulled acc bad) = .skip (.zip (s :: rest) pulled acc bad) := by
  rw [step]; simp [hs]

theorem zip_pull {L j it it1 x s} (h : skipsTo L j it it1) (hy : step L it1 = .yield x s) (hx : x ≠ .viol)
    (r : It) (rs pulled : List It) (acc : List V) (bad : Bool) :
    ∃ acc' bad', skipsTo L (j + 1) (.zip (it :: r :: rs) pulled acc bad) (.zip (r :: rs) (s :: pulled) acc' bad') ∧
      ((∃ v, x = .val v ∧ acc' = v :: acc ∧ bad' = bad) ∨ (x = .err ∧ acc' = acc ∧ bad' = true)) := by
  have h1 := skipsTo_congr (fun c => It.zip (c :: r :: rs) pulled acc bad)
    (step_zip_skip L (r :: rs) pulled acc bad) h
  cases x with
  | viol => exact absurd rfl hx
  | err => exact ⟨acc, true, skipsTo_snoc h1 (by rw [step]; simp [hy]), .inr ⟨rfl, rfl, rfl⟩⟩
  | val v => exact ⟨v :: acc, bad, skipsTo_snoc h1 (by rw [step]; simp [hy]), .inl ⟨v, rfl, rfl, rfl⟩⟩

theorem zip_pull_done {L j it it1} (h : skipsTo L j it it1) (hd : step L it1 = .done)
    (rest pulled : List It) (acc : List V) (bad : Bool) :
    outs L (j + 1) (.zip (it :: rest) pulled acc bad) = [] ∧
    after L (j + 1) (.zip (it :: rest) pulled acc bad) = none := by
  have h1 := skipsTo_run (skipsTo_congr (fun c => It.zip (c :: rest) pulled acc bad)
    (step_zip_skip L rest pulled acc bad) h) 1
  have : step L (.zip (it1 :: rest) pulled acc bad) = .done := by rw [step]; simp [hd]
  simpa [outs, after, this] using h1

/-- one round of `zip(a, b)`: whatever the two parts yield next — values or error values — the round takes
exactly one element from each and yields the pair (or the error): the parts stay aligned (182c226) -/
theorem zip_round (L : Option Nat) (a a1 a' b b1 b' : It) (ja jb : Nat) (x y : Item)
    (ha : skipsTo L ja a a1) (hxa : step L a1 = .yield x a') (hx : x ≠ .viol)
    (hb : skipsTo L jb b b1) (hyb : step L b1 = .yield y b') (hy : y ≠ .viol) :
    outs L (ja + (1 + (jb + 1))) (.zip [a, b] [] [] false) = [pairItem x y] ∧
    after L (ja + (1 + (jb + 1))) (.zip [a, b] [] [] false) = some (.zip [a', b'] [] [] false) := by
  obtain ⟨acc', bad', h1, hcase⟩ := zip_pull ha hxa hx b [] [] [] false
  have h2 := skipsTo_run (skipsTo_congr (fun c => It.zip [c] [a'] acc' bad') (step_zip_skip L [] [a'] acc' bad') hb) 1
  have h3 : step L (.zip [b1] [a'] acc' bad') = .yield (pairItem x y) (.zip [a', b'] [] [] false) := by
    rw [step]; simp only [hyb]
    rcases hcase with ⟨v, rfl, rfl, rfl⟩ | ⟨rfl, rfl, rfl⟩ <;> cases y <;> first | exact absurd rfl hy | rfl
  rw [← Nat.add_assoc, (skipsTo_run h1 _).1, (skipsTo_run h1 _).2, h2.1, h2.2]
  simp [outs, after, h3]

/-- `group` on a list of items: what is yielded while the source runs, and the group still open at its end -/
def grpRun (eq : P2) : List V → List Item → List Item × List V
  | cur, [] => ([], cur)
  | cur, x :: xs =>
    match x with
    | .val v =>
      match cur with
      | [] => grpRun eq [v] xs
      | k :: ks =>
        match eq (.val k) (.val v) with
        | .t => grpRun eq (k :: ks ++ [v]) xs
        | .f => (.val (.seq (k :: ks)) :: (grpRun eq [v] xs).1, (grpRun eq [v] xs).2)
        | .err => (.err :: (grpRun eq (k :: ks) xs).1, (grpRun eq (k :: ks) xs).2)
        | .viol => (.viol :: (grpRun eq (k :: ks) xs).1, (grpRun eq (k :: ks) xs).2)
    | .err => (.err :: (grpRun eq cur xs).1, (grpRun eq cur xs).2)
    | .viol => (.viol :: (grpRun eq cur xs).1, (grpRun eq cur xs).2)

/-- the last group is flushed when the source ends -/
def flushGroup : List V → List Item
  | [] => []
  | c => [.val (.seq c)]

theorem den_group (L : Option Nat) (eq : P2) {it xs} (h : Den L it xs) (cur : List V) (perm : Permits)
    (hc : perm.covers (xs.length + 1)) :
    Den L (.group it eq cur perm false) ((grpRun eq cur xs).1 ++ flushGroup (grpRun eq cur xs).2) := by
  induction it, xs, h using Den.ind generalizing cur perm with
  | @done it hs =>
    obtain ⟨perm', hn, _⟩ := covers_next_ok hc
    cases cur with
    | nil => exact .done (by simp [step, hs, hn])
    | cons c cs =>
      have h1 : step L (.group it eq (c :: cs) perm false) =
          .yield (.val (.seq (c :: cs))) (.group it eq [] perm' true) := by simp [step, hs, hn]
      exact .yield h1 (.done (by simp [step]))
  | skip hs _ ih => exact .skip (by simp [step, hs]) (ih cur perm hc)
  | @yield it x s xs hs _ ih =>
    obtain ⟨perm', hn, hc'⟩ := covers_next_ok hc
    have ih := fun cur => ih cur perm' hc'
    cases x with
    | viol => exact .yield (by simp [step, hs, hn]) (ih cur)
    | err => exact .yield (by simp [step, hs, hn]) (ih cur)
    | val v =>
      cases cur with
      | nil => exact .skip (by simp [step, hs, hn]) (ih [v])
      | cons k ks =>
        rw [grpRun]
        cases he : eq (.val k) (.val v) with
        | t => exact .skip (by simp [step, hs, hn, he]) (ih _)
        | f => exact .yield (by simp [step, hs, hn, he]) (ih _)
        | err => exact .yield (by simp [step, hs, hn, he]) (ih _)
        | viol => exact .yield (by simp [step, hs, hn, he]) (ih _)

end XrayModel.Gen
