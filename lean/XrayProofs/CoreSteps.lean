/-
Fuel-indexed evaluators in general: a family `f : Nat → α × β` of outcomes with a distinguished
"out of fuel" outcome, in which one more unit of fuel never changes a finished outcome.  Used for
each of the ten functions of XrayModel/Core.lean and of XrayModel/CoreX.lean.
-/
namespace XrayModel

theorem fuel_mono {α β : Type} {f : Nat → α × β} {oof : α}
    (step : ∀ n r s, f n = (r, s) → r ≠ oof → f (n + 1) = (r, s))
    {n m : Nat} (hle : n ≤ m) {r : α} {s : β} (h : f n = (r, s)) (hne : r ≠ oof) : f m = (r, s) := by
  induction hle with
  | refl => exact h
  | step _ ih => exact step _ _ _ ih hne

theorem fuel_det {α β : Type} {f : Nat → α × β} {oof : α}
    (step : ∀ n r s, f n = (r, s) → r ≠ oof → f (n + 1) = (r, s))
    {n m : Nat} {r1 r2 : α} {s1 s2 : β} (h1 : f n = (r1, s1)) (h2 : f m = (r2, s2))
    (hn1 : r1 ≠ oof) (hn2 : r2 ≠ oof) : r1 = r2 ∧ s1 = s2 := by
  rcases Nat.le_total n m with hle | hle
  · exact Prod.mk.inj ((fuel_mono step hle h1 hn1).symm.trans h2)
  · exact Prod.mk.inj (h1.symm.trans (fuel_mono step hle h2 hn2))

/-- a conditional whose `else` branch gets one more unit of fuel -/
theorem ite_mono {α : Type} {c : Prop} [Decidable c] {a b b' x : α}
    (h : (if c then a else b) = x) (hb : b = x → b' = x) : (if c then a else b') = x := by
  split at h
  · rename_i hc; rw [if_pos hc]; exact h
  · rename_i hc; rw [if_neg hc]; exact hb h

end XrayModel
