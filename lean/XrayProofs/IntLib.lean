/-
Specifications of the hand model of the xray-written integer library (`XrayModel/IntLib.lean`), the model C14 is
tied through.  (`gcd`, `abs`, `sign` also exist as translator output, `XrayGen` in Generated/StdInt.lean, for C20:
those are proved in `XrayProofs/ConvFrac.lean`.)
-/
import Mathlib.Data.Nat.GCD.Basic
import Mathlib.Data.Nat.Factorial.Basic
import Mathlib.Algebra.Order.Ring.Int
import XrayModel.IntLib
import XrayProofs.LazyInt
namespace XrayModel.LibP
open XrayModel

theorem abs_eq (i : Int) : Lib.abs i = (i.natAbs : Int) := by
  unfold Lib.abs; split <;> omega

theorem gcdHelper_spec : ∀ (fuel m n : Nat), m < fuel →
    Lib.gcdHelper fuel (m : Int) (n : Int) = some ((Nat.gcd m n : Nat) : Int) := by
  intro fuel
  induction fuel with
  | zero => intro m n h; omega
  | succ fuel ih =>
    intro m n h
    unfold Lib.gcdHelper
    by_cases hm : m = 0
    · subst hm; simp
    · have : ¬ ((m : Int) = 0) := by omega
      rw [if_neg this, Int.fmod_eq_emod_of_nonneg _ (by omega), ← Int.natCast_mod]
      have hlt : n % m < m := Nat.mod_lt _ (by omega)
      rw [ih (n % m) m (by omega), Nat.gcd_rec m n]

theorem gcd_spec (a b : Int) : Lib.gcd a b = some ((Int.gcd a b : Nat) : Int) := by
  unfold Lib.gcd
  simp only [abs_eq]
  have e : Int.gcd a b = Nat.gcd a.natAbs b.natAbs := rfl
  split
  · rw [Int.toNat_natCast, gcdHelper_spec _ _ _ (by omega), e]
  · rw [Int.toNat_natCast, gcdHelper_spec _ _ _ (by omega), e, Nat.gcd_comm]

theorem lcm_spec (a b : Int) : Lib.lcm a b = some ((Int.lcm a b : Nat) : Int) := by
  unfold Lib.lcm
  rw [gcd_spec]
  simp only [abs_eq]
  have e : Int.lcm a b = Nat.lcm a.natAbs b.natAbs := rfl
  have eg : Int.gcd a b = Nat.gcd a.natAbs b.natAbs := rfl
  rw [e, eg]
  by_cases hg : Nat.gcd a.natAbs b.natAbs = 0
  · have := Nat.gcd_eq_zero_iff.mp hg
    rw [hg, this.1, this.2]; simp
  · have hg' : ¬ (((Nat.gcd a.natAbs b.natAbs : Nat) : Int) = 0) := by omega
    rw [if_neg hg', Int.fdiv_eq_ediv_of_nonneg _ (by omega), ← Int.natCast_div, ← Int.natCast_mul]
    congr 2
    unfold Nat.lcm
    exact Nat.div_mul_right_comm (Nat.gcd_dvd_left _ _) _

theorem range_down_fold : ∀ (fuel k : Nat) (acc : Int), k < fuel →
    (Lib.rangeList fuel (k : Int) 0 (-1)).foldl (fun acc x => acc * x) acc = acc * (k.factorial : Nat) := by
  intro fuel
  induction fuel with
  | zero => intro k acc h; omega
  | succ fuel ih =>
    intro k acc h
    unfold Lib.rangeList
    cases k with
    | zero => simp
    | succ k =>
      have hc : ((0 : Int) < -1 ∧ ((k + 1 : Nat) : Int) < 0) ∨ ((-1 : Int) < 0 ∧ (0 : Int) < ((k + 1 : Nat) : Int)) := by
        right; omega
      rw [if_pos hc, List.foldl_cons]
      have e : ((k + 1 : Nat) : Int) + -1 = (k : Int) := by omega
      rw [e, ih k _ (by omega), Nat.factorial_succ]
      push_cast
      rw [Int.mul_assoc]

theorem rangeGuard_none {start stop step : Int} (h1 : fits start = true) (h2 : fits stop = true)
    (h3 : fits step = true) (h0 : step ≠ 0) : Lib.rangeGuard start stop step = none := by
  unfold Lib.rangeGuard
  rw [h1, h2, h3, if_neg h0]; rfl

theorem factorial_spec (n : Nat) (hn : (n : Int) ≤ 9223372036854775807) :
    Lib.factorial n 1 = .ok ((n.factorial : Nat) : Int) := by
  unfold Lib.factorial Lib.range
  rw [if_neg (by omega), rangeGuard_none ((fits_iff _).mpr (by omega)) (by decide) (by decide) (by decide)]
  simp only []
  have := range_down_fold ((0 - (n : Int)).natAbs + 1) n 1 (by omega)
  rw [this, Int.one_mul]

theorem factorial_negative (n step : Int) (hn : n < 0) :
    Lib.factorial n step = .error "cannot get factorial of negative number" := by
  unfold Lib.factorial; rw [if_pos hn]

theorem bisect_spec (p : Int → Prop) [DecidablePred p] :
    ∀ (fuel : Nat) (lo : Int) (len : Nat) (offset : Int), len < fuel →
    (∀ x y : Int, lo ≤ x → x ≤ y → y < lo + len → p y → p x) →
    ∃ k : Nat, k ≤ len ∧ Lib.bisectHelper (fun x => .ok (decide (p x))) fuel lo len offset = some (.ok (offset + k)) ∧
      (∀ x : Int, lo ≤ x → x < lo + k → p x) ∧ (k < len → ¬ p (lo + k)) := by
  intro fuel
  induction fuel with
  | zero => intro lo len offset h; omega
  | succ fuel ih =>
    intro lo len offset hlen hmono
    unfold Lib.bisectHelper
    by_cases h0 : len = 0
    · subst h0
      refine ⟨0, Nat.le_refl _, by simp, fun x h1 h2 => by omega, fun h => by omega⟩
    · have hmid : len / 2 < len := Nat.div_lt_self (by omega) (by decide)
      generalize len / 2 = mid at hmid
      simp only [Nat.ne_of_lt hmid, if_false]
      by_cases hq : p (lo + (mid : Int))
      · rw [decide_eq_true hq]
        simp only []
        obtain ⟨k, hk, hb, hall, hstop⟩ := ih (lo + (mid : Int) + 1) (len - (mid + 1)) (offset + (mid : Int) + 1)
          (by omega) (fun x y h1 h2 h3 => hmono x y (by omega) h2 (by omega))
        refine ⟨mid + 1 + k, by omega, ?_, ?_, ?_⟩
        · rw [hb]; congr 2; omega
        · intro x h1 h2
          by_cases hx : x ≤ lo + (mid : Int)
          · exact hmono x _ h1 hx (by omega) hq
          · exact hall x (by omega) (by omega)
        · intro h
          have := hstop (by omega)
          rwa [show lo + (mid : Int) + 1 + k = lo + ((mid + 1 + k : Nat) : Int) by omega] at this
      · rw [decide_eq_false hq]
        simp only []
        obtain ⟨k, hk, hb, hall, hstop⟩ := ih lo mid offset (by omega)
          (fun x y h1 h2 h3 => hmono x y h1 h2 (by omega))
        refine ⟨k, by omega, hb, hall, fun _ => ?_⟩
        by_cases hk2 : k < mid
        · exact hstop hk2
        · rw [show k = mid by omega]; exact hq

theorem self_lt_succ_pow (a : Int) (b : Nat) (ha : 0 ≤ a) (hb : 1 ≤ b) : a < (a + 1) ^ b :=
  calc a < a + 1 := Int.lt_succ a
    _ = (a + 1) ^ 1 := (pow_one _).symm
    _ ≤ (a + 1) ^ b := pow_le_pow_right₀ (by omega) hb

end XrayModel.LibP
