/- the product odometer enumerates the lexicographic product (C16) -/
import XrayProofs.GenProduct
namespace XrayModel.Gen

def Lists (L : Option Nat) (fuel : Nat) : List V → It → Prop
  | [], it => next L fuel it = .done
  | x :: xs, it => ∃ s, next L fuel it = .item (.val x) s ∧ Lists L fuel xs s

/-- one position of the odometer: the part generator, the list it denotes, its running iterator, the element
it contributes to the current tuple, the elements still to come in this pass -/
structure PPos where
  g : G
  xs : List V
  it : It
  c : V
  r : List V

def PPos.ok (L : Option Nat) (fuel : Nat) (p : PPos) : Prop :=
  Lists L fuel p.xs (p.g.start L) ∧ Lists L fuel p.r p.it ∧ p.xs ≠ []

/-- the carry loop on positions, rightmost position first (the list is reversed) -/
def bumpR (L : Option Nat) (fuel : Nat) : List PPos → Option (List PPos × Bool)
  | [] => some ([], false)
  | p :: rest =>
    match next L fuel p.it with
    | .item (.val v) s => some ({ p with it := s, c := v, r := p.r.tail } :: rest, true)
    | .done =>
      match next L fuel (p.g.start L) with
      | .item (.val v) s =>
        match bumpR L fuel rest with
        | some (rest', f) => some ({ p with it := s, c := v, r := p.xs.tail } :: rest', f)
        | none => none
      | _ => none
    | _ => none

theorem get_mid {α : Type} {a : List α} {n : Nat} (h : a.length = n) (x : α) (b : List α) :
    (a ++ x :: b)[n]? = some x := by
  subst h; simp

theorem set_mid {α : Type} {a : List α} {n : Nat} (h : a.length = n) (x y : α) (b : List α) :
    (a ++ x :: b).set n y = a ++ y :: b := by
  subst h; simp

/-- the index-based loop of the model is the list recursion `bumpR` -/
theorem pbump_mech (L : Option Nat) (fuel : Nat) : ∀ (rpre post rpre' : List PPos) (f : Bool),
    bumpR L fuel rpre = some (rpre', f) →
    pbump L fuel ((rpre.reverse ++ post).map PPos.g) rpre.length
        ((rpre.reverse ++ post).map PPos.it) ((rpre.reverse ++ post).map PPos.c) =
      .inr ((rpre'.reverse ++ post).map PPos.it, (rpre'.reverse ++ post).map PPos.c, f) := by
  intro rpre
  induction rpre with
  | nil => intro post rpre' f h; cases h; rfl
  | cons p rest ih =>
    intro post rpre' f h
    have hl : ∀ {β : Type} (φ : PPos → β), (rest.reverse.map φ).length = rest.length := by simp
    simp only [List.reverse_cons, List.append_assoc, List.singleton_append, List.map_append, List.map_cons,
      List.length_cons, pbump, get_mid (hl _), set_mid (hl _)]
    -- follow the case split of `bumpR`: every branch that fails contradicts `h`
    rw [bumpR] at h
    split at h
    next v s hn => cases h; simp [hn]
    next hn =>
      split at h
      next v s hr =>
        split at h
        next rest' f' hb =>
          cases h
          simpa [hn, hr] using ih ({ p with it := s, c := v, r := p.xs.tail } :: post) _ _ hb
        next => cases h
      next => cases h
    next => cases h

def curR (rps : List PPos) : List V := rps.map PPos.c

/-- the tuples still to come after the current one; positions and tuples are kept rightmost first, because the carry
loop (`pbump`, `bumpR`) starts at the last part -/
def remR : List PPos → List (List V)
  | [] => []
  | a :: rest => a.r.map (· :: curR rest) ++ (remR rest).flatMap (fun t => a.xs.map (· :: t))

/-- the product with the first factor varying fastest, tuples reversed: the order of `remR` -/
def cartR : List (List V) → List (List V)
  | [] => [[]]
  | xs :: rest => (cartR rest).flatMap (fun t => xs.map (· :: t))

theorem bumpR_den (L : Option Nat) (fuel : Nat) : ∀ (rps : List PPos), (∀ p ∈ rps, p.ok L fuel) →
    ∃ rps' f, bumpR L fuel rps = some (rps', f) ∧ (∀ p ∈ rps', p.ok L fuel) ∧
      rps'.map PPos.g = rps.map PPos.g ∧ rps'.map PPos.xs = rps.map PPos.xs ∧
      (f = true → remR rps = curR rps' :: remR rps') ∧ (f = false → remR rps = []) := by
  intro rps
  induction rps with
  | nil => intro _; exact ⟨[], false, rfl, by simp, rfl, rfl, by simp, by simp [remR]⟩
  | cons a rest ih =>
    intro hok
    have ha : a.ok L fuel := hok a (by simp)
    obtain ⟨hxs, hr, hne⟩ := ha
    cases har : a.r with
    | cons x r' =>
      rw [har] at hr
      obtain ⟨s, hn, hs⟩ := hr
      refine ⟨{ a with it := s, c := x, r := a.r.tail } :: rest, true, by simp [bumpR, hn], ?_, by simp, by simp, ?_, by simp⟩
      · intro p hp
        rcases List.mem_cons.mp hp with rfl | hp
        · exact ⟨hxs, by simpa [har] using hs, hne⟩
        · exact hok p (by simp [hp])
      · intro _
        simp [remR, curR, har]
    | nil =>
      rw [har] at hr
      have hd : next L fuel a.it = .done := hr
      cases hax : a.xs with
      | nil => exact absurd hax hne
      | cons h t =>
        have hxs0 := hxs
        rw [hax] at hxs
        obtain ⟨s, hn, hs⟩ := hxs
        obtain ⟨rest', f, hb, hok', hg, hx, ht, hf⟩ := ih (fun p hp => hok p (by simp [hp]))
        refine ⟨{ a with it := s, c := h, r := a.xs.tail } :: rest', f, by simp [bumpR, hd, hn, hb], ?_, by simp [hg], by simp [hx], ?_, ?_⟩
        · intro p hp
          rcases List.mem_cons.mp hp with rfl | hp
          · exact ⟨hxs0, by simpa [hax] using hs, hne⟩
          · exact hok' p hp
        · intro hf'
          simp [remR, curR, har, hax, ht hf']
        · intro hf'
          simp [remR, har, hf hf']

theorem init_all : ∀ (rps : List PPos), (∀ p ∈ rps, p.xs = p.c :: p.r) →
    curR rps :: remR rps = cartR (rps.map PPos.xs) := by
  intro rps
  induction rps with
  | nil => intro _; rfl
  | cons a rest ih =>
    intro h
    have ha := h a (by simp)
    have := ih (fun p hp => h p (by simp [hp]))
    simp only [List.map_cons, cartR, ← this, ha]
    simp [remR, curR, ha]

theorem cartR_empty : ∀ (rxss : List (List V)), [] ∈ rxss → cartR rxss = [] := by
  intro rxss
  induction rxss with
  | nil => intro h; simp at h
  | cons xs rest ih =>
    intro h
    rcases List.mem_cons.mp h with h | h
    · simp [cartR, ← h]
    · simp [cartR, ih h]

theorem pfirsts_lists_tail (L : Option Nat) (fuel : Nat) : ∀ (ps : List (G × List V)) (tailIts doneIts : List It) (acc : List V),
    (∀ p ∈ ps, Lists L fuel p.2 (p.1.start L) ∧ p.2 ≠ []) →
    ∃ poss : List PPos, poss.map PPos.g = ps.map Prod.fst ∧ (∀ q ∈ poss, q.ok L fuel ∧ q.xs = q.c :: q.r) ∧
      poss.map PPos.xs = ps.map Prod.snd ∧
      pfirsts L fuel (ps.map (fun p => p.1.start L) ++ tailIts) doneIts acc =
        pfirsts L fuel tailIts ((poss.map PPos.it).reverse ++ doneIts) ((poss.map PPos.c).reverse ++ acc) := by
  intro ps
  induction ps with
  | nil => intro t d a _; exact ⟨[], rfl, nofun, rfl, rfl⟩
  | cons p ps ih =>
    intro t d a h
    obtain ⟨hl, hne⟩ := h p (List.mem_cons_self ..)
    obtain ⟨g, xs⟩ := p
    cases xs with
    | nil => exact absurd rfl hne
    | cons x tl =>
      have ⟨s, hn, hs⟩ := hl
      obtain ⟨poss, hg, hq, hx, hp⟩ := ih t (s :: d) (x :: a) fun q hq => h q (List.mem_cons_of_mem _ hq)
      refine ⟨⟨g, x :: tl, s, x, tl⟩ :: poss, by simp [hg],
        List.forall_mem_cons.mpr ⟨⟨⟨hl, hs, nofun⟩, rfl⟩, hq⟩, by simp [hx], ?_⟩
      simp only [List.map_cons, List.cons_append, pfirsts, hn, hp]
      simp

theorem pfirsts_done (L : Option Nat) (fuel : Nat) : ∀ (ps : List (G × List V)) (doneIts : List It) (acc : List V),
    (∀ p ∈ ps, Lists L fuel p.2 (p.1.start L)) → [] ∈ ps.map Prod.snd →
    ∃ its, pfirsts L fuel (ps.map (fun p => p.1.start L)) doneIts acc = .inl (.done, its) := by
  intro ps
  induction ps with
  | nil => intro _ _ _ h; simp at h
  | cons p ps ih =>
    intro d a h hmem
    have hl := h p (by simp)
    obtain ⟨g, xs⟩ := p
    cases xs with
    | nil =>
      have hd : next L fuel (g.start L) = .done := hl
      exact ⟨d.reverse ++ g.start L :: ps.map (fun p => p.1.start L), by simp only [List.map_cons, pfirsts, hd]⟩
    | cons x t =>
      obtain ⟨s, hn, _⟩ := hl
      have hmem' : [] ∈ ps.map Prod.snd := by simpa using hmem
      obtain ⟨its, hi⟩ := ih (s :: d) (x :: a) (fun q hq => h q (by simp [hq])) hmem'
      exact ⟨its, by simp only [List.map_cons, pfirsts, hn, hi]⟩

theorem ptake_from (L : Option Nat) (fuel : Nat) : ∀ (n : Nat) (rps : List PPos), (∀ p ∈ rps, p.ok L fuel) →
    ptake L fuel n ⟨rps.reverse.map PPos.g, rps.reverse.map PPos.it, some (rps.reverse.map PPos.c)⟩ =
      some (((remR rps).take n).map (fun t => V.tup t.reverse)) := by
  intro n
  induction n with
  | zero => intro rps _; simp [ptake]
  | succ n ih =>
    intro rps hok
    obtain ⟨rps', f, hb, hok', hg, _, ht, hf⟩ := bumpR_den L fuel rps hok
    have hm := pbump_mech L fuel rps [] rps' f hb
    simp only [List.append_nil] at hm
    have hlen : (rps.reverse.map PPos.c).length = rps.length := by simp
    simp only [ptake, pnext, hlen, hm]
    cases f with
    | false => simp [hf rfl]
    | true =>
      have hg' : rps.reverse.map PPos.g = rps'.reverse.map PPos.g := by
        rw [List.map_reverse, List.map_reverse, hg]
      simp only [hg', ih rps' hok', ht rfl]
      simp [curR, List.map_reverse]

/-- first factor of the reversed list fastest, i.e. last part fastest -/
theorem ptake_cartR (L : Option Nat) (fuel : Nat) (ps : List (G × List V)) (n : Nat)
    (h : ∀ p ∈ ps, Lists L fuel p.2 (p.1.start L)) :
    ptake L fuel n (pstart L (ps.map Prod.fst)) =
      some (((cartR (ps.map Prod.snd).reverse).take n).map (fun t => V.tup t.reverse)) := by
  have hst : pstart L (ps.map Prod.fst) = ⟨ps.map Prod.fst, ps.map (fun p => p.1.start L), none⟩ := by
    simp [pstart, startAll_map]
  by_cases hemp : [] ∈ ps.map Prod.snd
  · obtain ⟨its, hi⟩ := pfirsts_done L fuel ps [] [] h hemp
    have : cartR (ps.map Prod.snd).reverse = [] := cartR_empty _ (by simpa using hemp)
    cases n with
    | zero => simp [ptake]
    | succ n => simp [ptake, pnext, hst, hi, this]
  · have hne : ∀ p ∈ ps, Lists L fuel p.2 (p.1.start L) ∧ p.2 ≠ [] := by
      intro p hp
      refine ⟨h p hp, ?_⟩
      intro he
      exact hemp (by simpa using ⟨p.1, by rw [← he]; exact hp⟩)
    obtain ⟨poss, hg, hq, hx, hp⟩ := pfirsts_lists_tail L fuel ps [] [] [] hne
    simp only [List.append_nil, pfirsts, List.reverse_reverse] at hp
    cases n with
    | zero => simp [ptake]
    | succ n =>
      have hall := init_all poss.reverse (fun p hp' => (hq p (by simpa using hp')).2)
      have hfrom := ptake_from L fuel n poss.reverse (fun p hp' => (hq p (by simpa using hp')).1)
      simp only [List.reverse_reverse] at hfrom
      simp only [ptake, pnext, hst, hp]
      rw [← hg, hfrom]
      have hx' : (poss.reverse.map PPos.xs) = (ps.map Prod.snd).reverse := by
        rw [List.map_reverse, hx]
      rw [← hx', ← hall]
      simp [curR, List.map_reverse]

/-- the cartesian product of lists, last factor fastest (`itertools.product`) -/
def cart : List (List V) → List (List V)
  | [] => [[]]
  | xs :: xss => xs.flatMap (fun x => (cart xss).map (x :: ·))

theorem cartR_snoc : ∀ (a : List (List V)) (xs : List V),
    cartR (a ++ [xs]) = xs.flatMap (fun x => (cartR a).map (· ++ [x])) := by
  intro a
  induction a with
  | nil =>
    intro xs
    induction xs with
    | nil => rfl
    | cons x xs ih => simp_all [cartR]
  | cons y a ih =>
    intro xs
    -- both sides become `xs.flatMap fun x => (cartR a).flatMap fun t => y.map fun z => z :: (t ++ [x])`
    simp only [List.cons_append, cartR, ih, List.flatMap_assoc, List.flatMap_map, List.map_flatMap, List.map_map]
    rfl

theorem cart_eq_cartR : ∀ (xss : List (List V)), cart xss = (cartR xss.reverse).map List.reverse := by
  intro xss
  induction xss with
  | nil => rfl
  | cons xs xss ih =>
    simp only [List.reverse_cons, cartR_snoc, cart, ih, List.map_flatMap, List.map_map]
    congr 1
    funext x
    simp [Function.comp_def]

theorem lists_arr (L : Option Nat) (fuel : Nat) : ∀ (vs : List V), Lists L (fuel + 1) vs (.arr vs)
  | [] => next_arr_nil L fuel
  | v :: vs => ⟨.arr vs, next_arr_cons L fuel v vs, lists_arr L fuel vs⟩

def Strm (L : Option Nat) (fuel : Nat) : Nat → (Nat → V) → It → Prop
  | 0, _, _ => True
  | n + 1, f, it => ∃ s, next L fuel it = .item (.val (f 0)) s ∧ Strm L fuel n (fun k => f (k + 1)) s

/-- while the last part keeps yielding, only it advances -/
theorem ptake_stream (L : Option Nat) (fuel : Nat) : ∀ (n : Nat) (f : Nat → V) (p : PPos) (rest : List PPos),
    Strm L fuel n f p.it →
    ptake L fuel n ⟨(p :: rest).reverse.map PPos.g, (p :: rest).reverse.map PPos.it, some ((p :: rest).reverse.map PPos.c)⟩ =
      some ((List.range n).map (fun k => V.tup ((rest.reverse.map PPos.c) ++ [f k]))) := by
  intro n
  induction n with
  | zero => intro f p rest _; simp [ptake]
  | succ n ih =>
    intro f p rest hs
    obtain ⟨s, hn, hs'⟩ := hs
    have hb : bumpR L fuel (p :: rest) = some ({ p with it := s, c := f 0, r := p.r.tail } :: rest, true) := by
      simp [bumpR, hn]
    have hm := pbump_mech L fuel (p :: rest) [] _ true hb
    simp only [List.append_nil] at hm
    have hlen : ((p :: rest).reverse.map PPos.c).length = (p :: rest).length := by simp
    have := ih (fun k => f (k + 1)) { p with it := s, c := f 0, r := p.r.tail } rest hs'
    simp only [ptake, pnext, hlen, hm]
    have hg : (p :: rest).reverse.map PPos.g = ({ p with it := s, c := f 0, r := p.r.tail } :: rest).reverse.map PPos.g := by simp
    rw [hg, this]
    simp [List.range_succ_eq_map, Function.comp_def]

theorem heads_of_poss : ∀ (poss : List PPos), (∀ q ∈ poss, q.xs = q.c :: q.r) →
    (poss.map PPos.xs).filterMap List.head? = poss.map PPos.c := by
  intro poss
  induction poss with
  | nil => intro _; rfl
  | cons q poss ih =>
    intro h
    simp [h q (by simp), ih (fun p hp => h p (by simp [hp]))]

end XrayModel.Gen
