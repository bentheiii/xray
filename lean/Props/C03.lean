/-
C03 — Lexical scoping, closures and one-time defaults.

Compile-time half over the scope model (XrayModel/Scope.lean, mirror of compilation_scope.rs + the scope
handling of parser.rs): name resolution, capture cells, capture re-threading, the forward gate.
Run-time half over the core evaluator (XrayModel/Core.lean): closures keep the environment of their creation,
defaults are computed once, at creation.  The run-time resolution of a pending (forward) capture is stated over
XrayModel/ScopeRun.lean; `compile_correct` (in part) over the cell machine XrayModel/CellRun.lean, which runs what the
scope model compiles, against the core evaluator.

`intern_injective` (distinct spellings are distinct identifiers; the names of the scope model are the symbols
the interner returns) is proved over the interner model of XrayModel/Lex.lean in Props/C12.lean
(`XrayModel.C12.intern_injective`); here the interner is tied by the spelling sweep of checklib/c03.py.
-/
import XrayProofs.Scope
import XrayProofs.Closure
import XrayModel.ScopeRun
import XrayProofs.CompileProg
import XrayProofs.CompileFun
import XrayProofs.CompileFunProg
namespace XrayModel.C03
open XrayModel.Scope XrayModel.Core XrayModel.ScopeRun

/-! ## capture threading -/

/-- **capture_threading.** Take any nest of scopes `chain` (innermost first), each with arbitrary cells, and
close it as the compiler does: innermost first, `into_static_ud` turning every capture deeper than one level
into `Capture{1, n}` plus a request `Capture{depth-1, cell}` pushed into the parent, which then goes on
compiling (arbitrary further cells `es`) before it is closed in turn.  Reading any cell of the innermost
function through the closed structure — following `Capture{1, k}` into the parent's cells, level by level, as
`from_spec` does at run time — gives exactly what the original `Capture{depth, cell}` named.
No bound on the nesting depth, the number of captures or the cells in between. -/
theorem capture_threading (chain es : List (List Cell)) (hok : OKX chain es) (i : Nat) :
    R (closeAllX chain es) i = R chain i :=
  closeAllX_reads chain es hok i

/-- the explicit form: the capture `Capture{d, k}` of a Variable/Recourse cell `k` of the `d`-th ancestor is
read, after all the re-threading, as (that ancestor, that cell) -/
theorem capture_threading_explicit (c0 : List Cell) (rest es : List (List Cell)) (hok : OKX (c0 :: rest) es)
    (i d k : Nat) (hd : 1 ≤ d) (hc : c0[i]? = some (.cap d k)) (anc : List Cell) (ha : rest[d - 1]? = some anc)
    (hk : anc[k]? = some .var ∨ anc[k]? = some .recur) :
    R (closeAllX (c0 :: rest) es) i = some (d, k) := by
  rw [capture_threading _ _ hok, R_cons, hc]
  have hd0 : ¬ d = 0 := by omega
  simp only [hd0, if_false]
  have hdrop : rest.drop (d - 1) = anc :: rest.drop (d - 1 + 1) := by
    rw [List.drop_eq_getElem?_toList_append, ha]; rfl
  rw [hdrop, R_cons]
  rcases hk with h | h <;> simp [h]

/-- in a closed function every capture has depth 1 (`CellSpec::Capture`: "i'm pretty sure this is always 1") -/
theorem closed_capture_depth_one (cells : List Cell) (parentLen d k : Nat)
    (h : Cell.cap d k ∈ (threadCells cells parentLen).1) : d ≤ 1 :=
  threadCells_depth_le_one cells parentLen d k h

/-- hypotheses satisfiable, and the statement is about real re-threading: a capture at distance 3 -/
example :
    let chain : List (List Cell) := [[.var, .cap 3 0, .cap 1 0], [.var, .recur], [.var], [.var, .var]]
    OKX chain [[.var], []] ∧ closeAllX chain [[.var], []] =
      [[.var, .cap 1 2, .cap 1 0], [.var, .recur, .cap 1 1, .var], [.var, .cap 1 0], [.var, .var]] ∧
    R (closeAllX chain [[.var], []]) 1 = some (3, 0) := by
  refine ⟨?_, ?_, ?_⟩
  · simp [OKX, HeadOK, threadCells]
  · simp [closeAllX, threadCells]
  · simp [closeAllX, threadCells, R, resolve]

/-! ## name resolution -/

/-- **resolve_nearest_preceding (which declaration).** The resolver walks outwards and stops at the first
scope that declares the name: the variable it returns is the latest binding of the name in the nearest
enclosing scope that declares it at all — and since a scope only contains the declarations compiled so far,
that declaration textually precedes the use. -/
theorem resolve_nearest_preceding (chain : List Scope) (x : String) (h k : Nat) (rq : List FwdReq)
    (hg : getItem chain x = .ok (some (.value (h, k, rq)))) :
    ∃ pre s post, chain = pre ++ s :: post ∧ (∀ t ∈ pre, ¬ Declares t x) ∧
      Scope.lookup x s.vars = some k ∧ s.cells[k]? = some .var ∧ s.height = h ∧ rq = s.cellReqs k := by
  induction chain with
  | nil => simp [getItem] at hg
  | cons s ps ih =>
    by_cases hd : Declares s x
    · simp only [getItem] at hg
      cases hl : lookup x s.vars with
      | some k' =>
        simp only [hl] at hg
        cases hc : s.cells[k']? with
        | none => simp [hc] at hg
        | some c =>
          cases c <;> simp only [hc] at hg <;> try (cases hg)
          refine ⟨[], s, ps, rfl, by simp, ?_, ?_, rfl, rfl⟩
          · exact hl
          · exact hc
      | none =>
        simp only [hl] at hg
        cases ho : overloadCells x s.funcs with
        | nil => exact absurd hd (by simp [Declares, hl, ho])
        | cons k0 ks =>
          simp only [ho] at hg
          -- an overload set is never a `value`
          split at hg
          · cases hg
          · split at hg
            · cases hg
            · split at hg
              · split at hg <;> cases hg
              · cases hg
            · cases hg
    · rw [getItem_skip s ps x hd] at hg
      obtain ⟨pre, s', post, h1, h2, h3⟩ := ih hg
      refine ⟨s :: pre, s', post, by simp [h1], ?_, h3⟩
      intro t ht
      simp only [List.mem_cons] at ht
      rcases ht with rfl | ht
      · exact hd
      · exact h2 t ht

/-- **resolve_nearest_preceding (which cell).** Compiling a use of the name yields `Value(i)` whose cell — the
declaration's own cell when it lives in the current scope, a new `Capture{height difference, cell}` otherwise —
reads exactly (distance to that nearest declaring scope, its cell). -/
theorem use_reads_nearest (ps : List Scope) (cur cur' : Scope) (x : String) (e : XE) (c : Cand)
    (hH : Heights (cur :: ps)) (hg : getItem (cur :: ps) x = .ok (some (.value c)))
    (hc : compileIdent ps cur x = .ok (e, cur')) :
    ∃ pre s post i, cur :: ps = pre ++ s :: post ∧ (∀ t ∈ pre, ¬ Declares t x) ∧
      Scope.lookup x s.vars = some c.2.1 ∧ e = .val i ∧ R (cur'.cells :: cellsOf ps) i = some (pre.length, c.2.1) := by
  obtain ⟨h, k, rq⟩ := c
  obtain ⟨pre, s, post, h1, h2, h3, h4, h5, -⟩ := resolve_nearest_preceding _ x h k rq hg
  simp only [compileIdent, hg] at hc
  obtain ⟨i, hi, hr⟩ := useCand_reads ps cur cur' (h, k, rq) e pre s post h1 hH h5.symm (Or.inl h4) hc
  exact ⟨pre, s, post, i, h1, h2, h3, hi, hr⟩

/-- **a later shadowing declaration never changes the meaning of an earlier use** (same scope): after
`let x = …` is added, the name denotes the new cell, every other name denotes what it did, and every cell
compiled before — in particular the cells earlier uses of `x` were compiled to — reads what it read. -/
theorem later_declaration_keeps_earlier_uses (cur cur' : Scope) (x : String) (e : XE) (ps : List Scope)
    (h : addVariable cur x e = .ok cur') :
    getItem (cur' :: ps) x = .ok (some (.value (cur.height, cur.cells.length, cur'.cellReqs cur.cells.length))) ∧
    (∀ y, y ≠ x → Scope.lookup y cur'.vars = Scope.lookup y cur.vars) ∧
    (∀ rest i, i < cur.cells.length → R (cur'.cells :: rest) i = R (cur.cells :: rest) i) := by
  refine ⟨?_, ?_, ?_⟩
  · have hl := lookup_addVariable h x
    simp only [if_true] at hl
    have hc : cur'.cells[cur.cells.length]? = some .var := by
      simp only [addVariable] at h
      split at h <;> cases h
      simp
    have hh : cur'.height = cur.height := (addVariable_ext h).2
    rw [getItem_var cur' ps x _ hl hc, hh]
  · intro y hy
    rw [lookup_addVariable h y, if_neg hy]
  · intro rest i hi
    exact (addVariable_ext h).reads rest i hi

/-- the same for every other way a scope grows: whatever is compiled later in a scope (captures, functions,
lambdas, forward declarations, the capture requests of inner functions), the cells that exist keep their reading.
(An inner scope never modifies its parents at all: they are immutably borrowed while it is alive; closing it
only appends its capture requests.) -/
theorem growth_keeps_readings {a b : Scope} (h : Ext a b) (rest : List (List Cell)) (i : Nat)
    (hi : i < a.cells.length) : R (b.cells :: rest) i = R (a.cells :: rest) i :=
  h.reads rest i hi

/-- … and for whole programs: whatever declarations are compiled afterwards in a scope — shadowing `let`s,
functions and lambdas whose parameters or locals shadow the name, forward declarations — every cell the scope
had (so every cell an earlier use was compiled to) reads what it read. -/
theorem later_declarations_keep_earlier_uses (fuel : Nat) (ps : List Scope) (cur cur' : Scope) (ds : List SDecl)
    (h : feedDecls fuel ps cur ds = .ok cur') (rest : List (List Cell)) (i : Nat) (hi : i < cur.cells.length) :
    R (cur'.cells :: rest) i = R (cur.cells :: rest) i :=
  ((compile_ext fuel).2.2.2.2.2.2 ps cur ds cur' h).reads rest i hi

/-! ## distinct names, distinct cells -/

/-- **distinct_names_distinct_cells.** In a scope two different identifiers never share a cell: not two
variables/parameters, not a variable and a function, not two functions; and every name's cell exists.
The invariant holds for a fresh function or lambda scope and is kept by every declaration. -/
theorem distinct_names_distinct_cells (s : Scope) (inv : NameInv s) (x y : String) (hxy : x ≠ y) :
    (∀ k k', Scope.lookup x s.vars = some k → Scope.lookup y s.vars = some k' → k ≠ k') ∧
    (∀ k k', Scope.lookup x s.vars = some k → k' ∈ overloadCells y s.funcs → k ≠ k') ∧
    (∀ k k', k ∈ overloadCells x s.funcs → k' ∈ overloadCells y s.funcs → k ≠ k') := by
  refine ⟨?_, ?_, ?_⟩
  · intro k k' h1 h2 hk; subst hk; exact hxy (inv.varInj x y k h1 h2)
  · intro k k' h1 h2 hk; subst hk; exact inv.varFun x y k h1 h2
  · intro k k' h1 h2 hk; subst hk; exact hxy (inv.funInj x y k h1 h2)

theorem name_invariant_established_and_kept :
    (∀ parent names r s, fromParent parent names r = .ok s → NameInv s) ∧
    (∀ parent names s, fromParentLambda parent names = .ok s → NameInv s) ∧
    NameInv ({} : Scope) ∧
    (∀ cur cur' x e, NameInv cur → addVariable cur x e = .ok cur' → NameInv cur') ∧
    (∀ cur cur' x f, NameInv cur → addStaticFunc cur x f = .ok cur' → NameInv cur') ∧
    (∀ cur cur' x, NameInv cur → addForwardFunc cur x = .ok cur' → NameInv cur') ∧
    (∀ cur f, NameInv cur → NameInv (addAnonymousFunc cur f).2) ∧
    (∀ cur c, NameInv cur → NameInv (cur.push c)) :=
  ⟨fun _ _ _ _ h => fromParent_inv h, fun _ _ _ h => fromParentLambda_inv h, NameInv.empty 0,
   fun _ _ _ _ inv h => addVariable_inv inv h, fun _ _ _ _ inv h => addStaticFunc_inv inv h,
   fun _ _ _ inv h => addForwardFunc_inv inv h,
   fun _ _ inv => inv.moreCells [.var] rfl rfl rfl, fun _ c inv => inv.moreCells [c] rfl rfl rfl⟩

/-! ## the forward gate -/

/-- **forward_gate.** `unfulfilledBehind chain r` mirrors `unfulfilled_behind`: the forward functions that are not
implemented yet behind the requirement `r` — `r` itself or, when `r` is implemented, (transitively) every one that
its implementation needs; the requirements of an implementation are read from the cell of the forward function in the
scope that OWNS it (`owner.cells`).  A function behind one of whose requirements stands such a function declared in the
current scope cannot be used: neither as the callee of a compiled call (`prepare_return`) nor as a value (`Ident`);
both go through `useCand`. -/
theorem forward_gate (ps : List Scope) (cur : Scope) (c : Cand) (r m : FwdReq) (ms : List FwdReq)
    (hr : r ∈ c.2.2) (hms : unfulfilledBehind (cur :: ps) r = .ok ms) (hm : m ∈ ms)
    (hh : m.height = cur.height) : ∀ out, useCand ps cur c ≠ .ok out := by
  intro out hout
  simp only [useCand] at hout
  split at hout
  · cases hout
  · rename_i cur' hreq
    exact (requireForwards_gate ps cur cur' _ hreq r hr ms hms m hm).1 hh

/-- used from a deeper scope, EVERY unfulfilled function behind the requirement is recorded in that scope's own
requirements (not only the first one met: when that one gets implemented the others must not be forgotten); they
become the requirements of the function that scope is compiled into (`into_static_ud`), and the requirements of its
cell in the parent (`add_static_func`, also when it fulfils a forward declaration) -/
theorem forward_gate_transitive (ps : List Scope) (cur cur' : Scope) (c : Cand) (e : XE) (r m : FwdReq)
    (ms : List FwdReq) (h : useCand ps cur c = .ok (e, cur')) (hr : r ∈ c.2.2)
    (hms : unfulfilledBehind (cur :: ps) r = .ok ms) (hm : m ∈ ms) :
    m ∈ cur'.fwdReqs ∧
    (∀ dflts n out pl, (intoStaticUd cur' dflts n out pl).1.freqs = cur'.fwdReqs) := by
  refine ⟨?_, fun _ _ _ _ => rfl⟩
  simp only [useCand] at h
  split at h
  · cases h
  · rename_i cur1 hreq
    have := (requireForwards_gate ps cur cur1 _ hreq r hr ms hms m hm).2
    split at h
    · simp only [Except.ok.injEq, Prod.mk.injEq] at h; rw [← h.2]; exact this
    · simp only [Except.ok.injEq, Prod.mk.injEq] at h; rw [← h.2]; simpa [Scope.push] using this

/-- **the gate sees through implementations, completely** (the code after fix 78a2146 and the C03 fixes 66b4c8c,
6075b39): EVERY forward function reachable from `r` — `r`, the requirements recorded on the cell
of its implementation in the owning scope, theirs, … (`Reach`) — is either implemented or reported by
`unfulfilled_behind`; and what it reports is unimplemented.  In particular an empty answer means that everything the
use can reach is implemented. -/
theorem forward_gate_closure (chain : List Scope) (r : FwdReq) (ms : List FwdReq)
    (h : unfulfilledBehind chain r = .ok ms) :
    (∀ r', Reach chain r r' → (∃ more, behindStep chain r' = .ok (true, more)) ∨ r' ∈ ms) ∧
    (∀ m ∈ ms, ∃ more, behindStep chain m = .ok (false, more)) := by
  obtain ⟨S, -, h2, h3, h4⟩ := unfulfilledBehindAux_inv chain _ _ _ _ h
  refine ⟨?_, h4⟩
  have hcl : ∀ x ∈ S, (∃ more, behindStep chain x = .ok (true, more) ∧ ∀ y ∈ more, y ∈ S) ∨
      (x ∈ ms ∧ ∃ more, behindStep chain x = .ok (false, more)) := by
    intro x hx
    rcases h3 x hx with hx' | hx' | hx'
    · simp at hx'
    · exact Or.inl hx'
    · exact Or.inr hx'
  have hreach : ∀ a b, Reach chain a b → a ∈ S → b ∈ S := by
    intro a b hab
    induction hab with
    | refl r => exact fun h => h
    | step r r1 r2 more hs hm _ ih =>
      intro hr
      rcases hcl r hr with ⟨more', hs', hsub⟩ | ⟨-, more', hs'⟩
      · rw [hs] at hs'
        simp only [Except.ok.injEq, Prod.mk.injEq, true_and] at hs'
        subst hs'
        exact ih (hsub r1 hm)
      · rw [hs] at hs'; simp at hs'
  intro r' hr'
  rcases hcl r' (hreach r r' hr' (h2 r (by simp))) with ⟨more, hs, -⟩ | ⟨hm, -⟩
  · exact Or.inl ⟨more, hs⟩
  · exact Or.inr hm

/-- the gate on closed programs (the model runs): a forward function taken as a value, called, or used by a
lambda before its definition is `MissingForwardImplementation`; after the definition it is allowed -/
example : errOf (compileProgram 50 [.fwdD "g", .letD "h" (.ident "g")]) = some (.missingForward "g") := by decide +kernel
example : errOf (compileProgram 50 [.fwdD "g", .letD "r" (.call (.ident "g") [.lit (.int 0)])]) = some (.missingForward "g") := by decide +kernel
example : errOf (compileProgram 50 [.fwdD "g", .letD "k" (.lam (.mk [.mk "x" none] [] (.call (.ident "g") [.ident "x"])))])
    = some (.missingForward "g") := by decide +kernel
example : errOf (compileProgram 50 [.fwdD "a", .fwdD "b", .fnD "a" (.mk [.mk "x" none] [] (.call (.ident "b") [.ident "x"])),
    .letD "r" (.call (.ident "a") [.lit (.int 0)])]) = some (.missingForward "b") := by decide +kernel
example : errOf (compileProgram 50 [.fwdD "g", .fnD "g" (.mk [.mk "x" none] [] (.ident "x")), .letD "h" (.ident "g")]) = none := by decide +kernel

/-- the transitive gate seen from a NESTED scope: `g` was defined while `f` was pending; `f` is implemented on top of
the still unimplemented `h`; `via` uses `g` from its body, and calling `via` early is rejected (naming `h`) -/
example : errOf (compileProgram 60
    [.fwdD "f", .fnD "g" (.mk [] [] (.call (.ident "f") [])), .fwdD "h",
     .fnD "f" (.mk [] [] (.call (.ident "h") [])), .fnD "via" (.mk [] [] (.call (.ident "g") [])),
     .letD "early" (.call (.ident "via") [])]) = some (.missingForward "h") := by decide +kernel

/-- all of them are remembered: `via` uses `t`, `t` uses `a`, `a` is implemented on top of the unimplemented `b` and `c`;
after `c` is implemented, calling `via` is still rejected (naming `b`) -/
example : errOf (compileProgram 60
    [.fwdD "a", .fwdD "b", .fwdD "c", .fnD "t" (.mk [] [] (.call (.ident "a") [])),
     .fnD "a" (.mk [] [] (.tup [.call (.ident "b") [], .call (.ident "c") []])),
     .fnD "via" (.mk [] [] (.call (.ident "t") [])), .fnD "c" (.mk [] [] (.lit (.int 1))),
     .letD "u" (.call (.ident "via") [])]) = some (.missingForward "b") := by decide +kernel

/-- a lambda is gated where it is written -/
theorem forward_gate_lambda (fuel : Nat) (ps : List Scope) (cur : Scope) (lf : CFunc) (out : XE × Scope)
    (h : compileExpr (fuel + 1) ps cur (.lamF lf) = .ok out) :
    ∀ r ∈ lf.freqs, ∀ ms, unfulfilledBehind (cur :: ps) r = .ok ms → ∀ m ∈ ms,
      m.height ≠ cur.height ∧ m ∈ out.2.fwdReqs := by
  simp only [compileExpr] at h
  split at h
  · cases h
  · rename_i cur1 hreq
    cases h
    intro r hr ms hms m hm
    have := requireForwards_gate ps cur cur1 _ hreq r hr ms hms m hm
    exact ⟨this.1, by simpa [addAnonymousFunc] using this.2⟩

/-- the host-side gate (`get_user_defined_function`): a function is handed to the host only if nothing unimplemented
stands behind any of its requirements (transitively, as at compile time) -/
theorem forward_gate_host (root : Scope) (x : String) (k : Nat) (h : hostGet root x = .ok k) :
    ∀ r ∈ root.cellReqs k, unfulfilledBehind [root] r = .ok [] := by
  simp only [hostGet] at h
  split at h
  · cases h
  · rename_i k0 _
    split at h
    · cases h
    · rename_i hu
      cases h
      exact unmetNames_nil root _ hu
    · cases h
  · cases h

/-! ## run-time resolution of a pending (forward) capture — known finding, `_partial` + witness -/

/-- FULL STATEMENT (false of the code, see the witness below):
  ∀ arena caller d pid cell, (arena[d]?.map (·.tid) = some pid) → readPending arena caller pid cell = definingCell arena d cell
i.e. a pending capture reads the activation in which the function was created, wherever it is called from.
What holds: it does when the function is called from its defining activation itself … -/
theorem runtime_capture_agrees_partial (arena : List Act) (d pid cell : Nat) (act : Act)
    (hd : arena[d]? = some act) (ht : act.tid = pid) :
    readPending arena (some d) pid cell = definingCell arena d cell := by
  simp [readPending, findParent, definingCell, hd, ht]

/-- … or from an activation whose scope-parent chain reaches the defining activation before any other
activation of the same template -/
theorem runtime_capture_agrees_partial_chain (arena : List Act) (c d pid cell : Nat) (cact : Act)
    (hc : arena[c]? = some cact) (hne : cact.tid ≠ pid) (hp : cact.scopeParent = some d) (act : Act)
    (hd : arena[d]? = some act) (ht : act.tid = pid) :
    readPending arena (some c) pid cell = definingCell arena d cell := by
  -- the search makes two steps (the caller, then its scope parent): its fuel as a double successor
  have hl : arena.length + 1 = (arena.length - 1 + 1) + 1 := by
    have : c < arena.length := (List.getElem?_eq_some_iff.mp hc).1
    omega
  simp only [readPending]
  rw [hl]
  simp [findParent, definingCell, hc, hne, hp, hd, ht]

/-- witness of the defect: two activations (1 and 2) of the same function `outer` (template 1) under the root
(template 0); the closure made in activation 1 (cell 0 = 1) is called from activation 2 (cell 0 = 100): it reads
100; called from the root it panics (`none`) -/
theorem runtime_capture_wrong_activation :
    ¬ ∀ (arena : List Act) (caller : Option Nat) (d pid cell : Nat),
      (arena[d]?.map (·.tid) = some pid) → readPending arena caller pid cell = definingCell arena d cell := by
  intro h
  have := h [⟨0, none, []⟩, ⟨1, some 0, [some 1]⟩, ⟨1, some 0, [some 100]⟩] (some 2) 1 1 0 (by decide)
  revert this
  decide

example : readPending [⟨0, none, []⟩, ⟨1, some 0, [some 1]⟩] (some 0) 1 0 = none := by decide

/-! ## closures and defaults (core evaluator) -/

/-- **defaults_once (creation).** Creating a function value runs `evalDflts` — each default expression once,
left to right (`evalDflts_cons_some` / `evalDflts_cons_none`), in the defining frame, from the state before to
the state after the creation — and stores the values in the closure. -/
theorem defaults_once (fuel : Nat) (cfg : Cfg) (fr : Frame) (f : Func) (st st' : St) (c : Val)
    (h : mkClos (fuel + 1) cfg fr f st = (.val c, st')) :
    ∃ ds, evalDflts fuel cfg fr f.params st = (.ok ds, st') ∧
      c = .clos f ds (match fr.self with | some s => fr.env ++ [s] | none => fr.env) := by
  simp only [mkClos] at h
  split at h
  · rename_i ds st1 hd
    simp only [Prod.mk.injEq, Res.val.injEq] at h
    exact ⟨ds, by rw [hd, h.2], h.1.symm⟩
  · rename_i r st1 hd
    simp only [Prod.mk.injEq] at h
    rw [h.1] at hd
    exact absurd hd (evalDflts_not_error_val cfg fr _ _ _ _ _)

/-- **defaults_once (call).** The result of calling a lambda's closure does not depend on the default
*expressions* in its code: replace every one of them, the call (`callUser`, for any arguments, limits and
state) is the same — only the stored default *values* are read. -/
theorem defaults_once_call (fuel : Nat) (cfg : Cfg) (h : Nat) (ps ps' : List Param) (decls : List Decl)
    (body : Expr) (ds : List Val) (env : List (String × Val)) (hs : SameShape ps ps') (args : List Val) (st : St) :
    callUser fuel cfg h (.clos (.mk none ps decls body) ds env) args st
      = callUser fuel cfg h (.clos (.mk none ps' decls body) ds env) args st := by
  cases fuel with
  | zero => simp [callUser]
  | succ n => simp only [callUser, tramp_lambda_defaults n cfg h ps ps' decls body ds env hs]

/-- for every closure (named too): parameter binding reads the names and the optionality of the parameters and
the stored values, never a default expression -/
theorem defaults_once_binding (ps ps' : List Param) (hs : SameShape ps ps') (args ds : List Val) :
    bindParams ps args ds = bindParams ps' args ds :=
  bindParams_congr ps ps' hs args ds

/-- **closure_env_fixed.** A call of a function value depends on the caller's frame only through the values
of the arguments and the stack height: extending or shadowing the caller's environment changes nothing … -/
theorem closure_env_fixed (fuel : Nat) (cfg : Cfg) (fr fr' : Frame) (c : Val) (args : List Expr)
    (tail : Bool) (st : St) (hh : fr.height = fr'.height)
    (hargs : evalList fuel cfg fr args st = evalList fuel cfg fr' args st) :
    callVal (fuel + 1) cfg fr c args tail st = callVal (fuel + 1) cfg fr' c args tail st := by
  cases c <;> simp only [callVal, hh, hargs]

/-- … because the callee's declarations and body run in the environment captured at creation, extended with
the parameters (bound from the arguments and the stored default values) -/
theorem closure_body_env (fuel : Nat) (cfg : Cfg) (h : Nat) (f : Func) (ds : List Val) (env : List (String × Val))
    (args : List Val) (r : Nat) (st : St) (ps : List (String × Val))
    (hb : bindParams f.params args ds = some ps)
    (hd : ∀ l, cfg.depthLimit = some l → h + 1 < l) :
    tramp (fuel + 1) cfg h (.clos f ds env) args r st =
      (let fr : Frame := { env := ps.reverse ++ env,
                           self := (match f.name with | some n => some (n, .clos f ds env) | none => none),
                           height := h + 1 }
       match evalDecls fuel cfg fr f.decls st with
       | (.error r', st') => (r', st')
       | (.ok fr', st') =>
         match eval fuel cfg fr' f.body true st' with
         | (.tail newArgs, st'') =>
           if (match cfg.recLimit with | some l => decide (r + 1 > l) | none => false) then (.viol .recursion, st'')
           else tramp fuel cfg h (.clos f ds env) newArgs (r + 1) st''
         | r' => r') :=
  tramp_frame fuel cfg h f ds env args r st ps hb hd

/-! ## compile_correct: the compiled cell program against the named evaluator

FULL STATEMENT (not proved; `compile_correct`): for every core program `ds : List Core.Decl`
  (forward declarations do not exist in Core.lean; lambdas without optional parameters — a lambda is created, and
   its defaults evaluated, when the enclosing scope is entered, see the finding `c03:lam-hoist:wrong-output`, so
   with such defaults the statement is false; a computed callee `callE` is not a bare variable — that is `call`),
  `compileProgram cf (ofDecls ds) = .ok root →`
  for all `fuel` with `Core.runProgram fuel cfg ds ≠ oof` there is `fuel'` such that `runRoot fuel' cfg root` has the
  same outcome (bindings of the `let`s related by the value relation "same first-order value / a function value on
  both sides", violations by kind, the same output lines and the same number of counted calls), and conversely.
Proved of it:
 * whole programs of `let`s over the function-free fragment: `compile_correct_partial` (below), an equality for every fuel;
 * whole programs of `let`s and top-level functions WITHOUT captures (parameters and natives only, no recursion, no
   optional parameters, no local declarations), called by name with the right arity — the decidable fragment
   `progOKF`: `compile_correct_partial_funs` (below), same shape, an equality for every fuel (with the compile-time half
   `compile_correct_fun_decl` and the run-time half `compile_correct_call` / `compile_correct_partial_calls` on their
   own).  Equalities at the same fuel: the cell model spends fuel exactly where `Core.lean` does (binding parameters
   costs nothing, `evalDflts` walks over the required parameters).
 NOT proved — everything with captures:
   the value relation between named closures (code + default values + captured environment) and cell closures
   (template + cells resolved by `from_spec`) when the capture list is not empty — that the cells `capture_threading`
   and `use_reads_nearest` speak about are filled with the values of the named environment (the structural theorems
   give the addresses, this would give the contents); in particular a function calling another top-level function or
   itself (a capture of a function cell / the recursion cell `LocalRecourse`, with the tail special case), closures
   as values (arguments, results, tuple items), nested declarations, defaults, lambdas; with lambdas the statement has
   to be fuel-existential, because hoisted lambda declarations spend fuel the named evaluator does not.

PROVED (`compile_correct_partial`, for whole programs; `compile_correct_partial_expr` for expressions): the
function-free fragment — no function declarations, no lambdas, no computed callees; variables (with shadowing), literals, tuples, arrays, item access, calls of bound non-function values, and
all natives of the core fragment (the strict ones, `display`, and the short-circuiting `if`/`and`/`or`/`if_error`/
`is_error`, which evaluate only the selected argument and forward the tail slot): parsing + compiling such an expression in a
root scope creates no cell, and evaluating the compiled expression on the cell machine, in an activation whose cells
hold the values of the named environment under the compile-time name→cell map, gives for every fuel, configuration,
tail flag and state exactly the named evaluator's outcome (value, error value, violation, stuck, out of fuel) and
the same state (output lines, call counter).  For a whole program of `let`s: the compiled program run from the root
template ends, for every fuel and configuration (depth limit not 0: the root activation itself is checked against
it), in the same state and the same outcome as `Core.runProgram`, and every binding (latest declaration of each
name) holds the same value in its cell. -/
theorem compile_correct_partial (cfg : Core.Cfg) (ds : List Core.Decl) (hok : CellRun.declsOK ds = true) (cf : Nat)
    (root : Scope) (hc : compileProgram cf (CellRun.ofDecls ds) = .ok root) (hdl : cfg.depthLimit ≠ some 0)
    (fuel : Nat) :
    (Core.runProgram fuel cfg ds).2 = (CellRun.runRoot fuel cfg root).2 ∧
    match (Core.runProgram fuel cfg ds).1, (CellRun.runRoot fuel cfg root).1 with
    | .ok fr, .ok rfr => fr.self = none ∧ CellRun.FrRel fr.env root.vars rfr
    | .error r, .error r' => r' = CellRun.cr r
    | _, _ => False :=
  CellRun.compile_correct_program cfg ds hok cf root hc hdl fuel

/-- the expression level of the same fragment, in any root-like scope and any related activation -/
theorem compile_correct_partial_expr (cfg : Core.Cfg) (e : Core.Expr) (hok : CellRun.exprOK e = true) (cf1 cf2 : Nat)
    (cur : Scope) (rok : CellRun.RootOK cur) (p c : XE × Scope)
    (hp : parseExpr cf1 [] cur (CellRun.ofExpr e) = .ok p) (hc : compileExpr cf2 [] p.2 p.1 = .ok c) :
    c.2 = cur ∧
    ∀ fuel (fr : Core.Frame) (rfr : CellRun.RFrame) tail st, fr.self = none → CellRun.FrRel fr.env cur.vars rfr →
      CellRun.eval fuel cfg rfr c.1 tail st
        = (CellRun.cr (Core.eval fuel cfg fr e tail st).1, (Core.eval fuel cfg fr e tail st).2) := by
  have h1 := (CellRun.parse_frag cf1).1 e hok [] cur p hp
  subst h1
  have h2 := (CellRun.compile_frag cf2).1 e hok cur c rok hc
  subst h2
  exact ⟨rfl, fun fuel fr rfr tail st hs hrel => ((CellRun.sim_all cfg fuel).1 e hok fr rfr cur.vars tail st hs hrel).1⟩

/-- the fragment is not empty: a program with shadowing, a tuple, display, and the short-circuiting natives -/
example :
    CellRun.declsOK [.letD "x" (.int 1), .letD "y" (.call "display" [.call "add" [.var "x", .int 2]]),
                     .letD "x" (.tup [.var "x", .var "y"]),
                     .letD "z" (.call "if" [.call "and" [.call "lt" [.var "y", .int 5], .call "or" [.bool false, .bool true]],
                                           .call "if_error" [.call "mod" [.var "y", .int 0], .int 7],
                                           .call "display" [.int 9]]),
                     .letD "e" (.call "is_error" [.call "error" [.str "boom"]])] = true := by decide

/-! ### calls of top-level functions without captures

`CellRun.FunOK x f envc`: `f` is named `x`, has no optional parameters and no local declarations, `x` is not one of its
parameters, and its body (`BodyOK`) mentions only its parameters as variables and only names that are bound nowhere
(natives) as callees — no captures, no recursion.  `CellRun.tmplOf k f` is the template the cell machine builds for it
when it is declared in cell `k` of the root (parameter cells, the recursion cell, `Parameter` declarations, the compiled
body `cxf (paramVars …) [] body`).  `CellRun.WF C e`: at every name the expression mentions, the named frame and the
activation agree — a function-free value in the variable's cell, or such a closure under a function name with its
template in the function's cell — and every call site has the callee's arity. -/

/-- **the call step** (`callUser` / trampoline / `initFrame` + `runParams` + `runDecls` against `Core.callUser` /
`Core.tramp` / `bindParams` + `evalDecls`): calling the cell closure of such a function with the images of function-free
arguments gives exactly the named call's outcome and state — error arguments, call limit, depth limit, the body run
in the activation whose parameter cells hold the arguments — for every fuel, configuration and caller of the same
stack height. -/
theorem compile_correct_call (cfg : Core.Cfg) (fuel : Nat) (x : String) (f : Core.Func)
    (envc : List (String × Core.Val)) (k : Nat) (args : List Core.Val) (caller : CellRun.RFrame) (h : Nat) (st : St)
    (hfun : CellRun.FunOK x f envc) (hcf : ∀ a ∈ args, CellRun.closFree a = true)
    (hlen : args.length = f.params.length) (hh : caller.height = h) :
    CellRun.callUser fuel cfg caller (CellRun.tmplOf k f) (args.map CellRun.ofCore) st
      = (CellRun.cr (Core.callUser fuel cfg h (.clos f [] envc) args st).1,
         (Core.callUser fuel cfg h (.clos f [] envc) args st).2) :=
  ((CellRun.simF_all cfg fuel).2.2.2 x f envc k args caller h st hfun hcf hlen hh).1

/-- **expressions with calls of such functions**: under `WF`, the compiled expression `cxf vars funs e` (variables and
function names as cells, natives as library calls) evaluates on the cell machine to exactly the named evaluator's
outcome and state, for every fuel, configuration and tail flag — including the calls (arguments left to right, the
callee's activation, its body) -/
theorem compile_correct_partial_calls (cfg : Core.Cfg) (fuel : Nat) (e : Core.Expr) (C : CellRun.Ctx) (tail : Bool)
    (st : St) (hw : CellRun.WF C e) :
    CellRun.eval fuel cfg C.rfr (CellRun.cxf C.vars C.funs e) tail st
      = (CellRun.cr (Core.eval fuel cfg C.fr e tail st).1, (Core.eval fuel cfg C.fr e tail st).2) :=
  ((CellRun.simF_all cfg fuel).1 e C tail st hw).1

/-- the hypotheses are satisfiable: `fn inc(a) { if(lt(a, 0), neg(a), add(a, 1)) }` -/
example : CellRun.FunOK "inc"
    (.mk (some "inc") [.mk "a" none] []
      (.call "if" [.call "lt" [.var "a", .int 0], .call "neg" [.var "a"], .call "add" [.var "a", .int 1]])) [] := by
  simp [CellRun.FunOK, CellRun.BodyOK, CellRun.BodyOKs, Core.Func.name, Core.Func.decls, Core.Func.params,
    Core.Func.body, Core.Param.name, Core.Param.dflt, Core.lookup]

/-! ### whole programs with top-level functions without captures

`CellRun.progOKF ds` (decidable): `let`s over the fragment and declarations `fn name(p₁ … pₙ) { body }` without
optional parameters and local declarations whose body mentions only its parameters as variables and only names the
program declares nowhere (natives) as callees; function names are distinct from each other, from the variables and
from their own parameters; a function name is only used as a callee, with the right number of arguments.
`CellRun.InvR bad sig fr root rfr N` (the outcome relation for a completed run): at EVERY name the named frame `fr` and
the root activation `rfr` agree (`rel : ∀ x, RelAt …`): a variable's cell holds the image of its function-free value,
a function's cell holds the template `tmplOf k f` of its closure `clos f [] env` (with `FunOK`), an unbound name is
unbound on both sides. -/

/-- **compile_correct_partial_funs.** For every program of that fragment that the scope model compiles: the compiled
cell program run from the root template and `Core.runProgram` on the source end, for every fuel and configuration
(depth limit not 0), in the same state (output lines, call counter) and in related outcomes: the same error value /
violation / stuck / out-of-fuel outcome, or activations that agree at every name. -/
theorem compile_correct_partial_funs (cfg : Core.Cfg) (ds : List Core.Decl) (hok : CellRun.progOKF ds = true) (cf : Nat)
    (root : Scope) (hc : compileProgram cf (CellRun.ofDecls ds) = .ok root) (hdl : cfg.depthLimit ≠ some 0)
    (fuel : Nat) :
    (Core.runProgram fuel cfg ds).2 = (CellRun.runRoot fuel cfg root).2 ∧
    match (Core.runProgram fuel cfg ds).1, (CellRun.runRoot fuel cfg root).1 with
    | .ok fr, .ok rfr =>
      CellRun.InvR (CellRun.declNames ds) (CellRun.sigAfter [] ds) fr root rfr root.cells.length
    | .error r, .error r' => r' = CellRun.cr r
    | _, _ => False :=
  CellRun.compile_correct_program_funs cfg ds hok cf root hc hdl fuel

/-- the compile-time half on its own: such a declaration compiles to exactly the static function whose template is
`tmplOf` (`cfOf`: parameter cells, the recursion cell, `Parameter` declarations, the body compiled over the parameters),
and nothing is pushed into the declaring scope -/
theorem compile_correct_fun_decl (fuel : Nat) (cur : Scope) (name : String) (pps : List Core.Param) (body : Core.Expr)
    (r : CFunc × Scope) (hd : ∀ p ∈ pps, p.dflt = none) (hn : name ∉ pps.map Core.Param.name)
    (hb : CellRun.exprOK body = true) (hcb : CellRun.BodyC (pps.map Core.Param.name) name cur body)
    (h : closeFunc fuel [] cur (some name) (.mk (CellRun.ofParams pps) [] (CellRun.ofExpr body)) = .ok r) :
    r = (CellRun.cfOf (pps.map Core.Param.name) body, cur) :=
  CellRun.close_fun fuel cur name pps body r hd hn hb hcb h

/-- the fragment is inhabited: two functions (one through `if`), `let`s that call them (one call inside `if`,
nested calls, `display`) -/
example : CellRun.progOKF
    [.fnD (.mk (some "inc") [.mk "a" none] [] (.call "add" [.var "a", .int 1])),
     .fnD (.mk (some "absv") [.mk "a" none] []
        (.call "if" [.call "lt" [.var "a", .int 0], .call "neg" [.var "a"], .var "a"])),
     .letD "x" (.int 5),
     .letD "y" (.call "if" [.call "lt" [.var "x", .int 3], .call "inc" [.var "x"],
                            .call "absv" [.call "neg" [.call "inc" [.var "x"]]]]),
     .letD "z" (.call "display" [.call "inc" [.var "y"]])] = true := by decide

end XrayModel.C03
