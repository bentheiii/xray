/-
C05 — Overload resolution is ranked, unambiguous and stable.
Property theorems only.  `resolve` (XrayModel/Overload.lean) mirrors the candidate loop and the decision of
`CompilationScope::resolve_overload`.  `NoSC cs args`: no candidate that matches carries the library-internal
`short_circuit_overloads` flag (a flagged match returns at once, in list order, by design; only three overloads of
the standard library for `unknown`-typed arguments carry it).  `inBucket u args k c`: `c` matches `args` and is
pushed to bucket `k` (0 non-generic static, 1 generic static, 2 dynamic; 0 and 1 swap when an argument type
contains `unknown`).
-/
import XrayProofs.Overload
namespace XrayModel.C05
open XrayModel

/-- **stable under declaration order**: permuting the visible candidates changes neither the winner nor the error -/
theorem resolve_perm (cs cs' : List Cand) (args : List Ty) (hp : cs.Perm cs') (h : NoSC cs args) :
    resolve cs args = resolve cs' args := by
  rw [resolve_eq_filter cs args h, resolve_eq_filter cs' args (noSC_perm hp h)]
  exact decide3_perm _ (hp.filter _) (hp.filter _) (hp.filter _)

/-- **irrelevance of non-matching overloads**: a candidate that does not match the arguments changes nothing,
wherever it is declared (no side condition; holds with short-circuit candidates as well) -/
theorem resolve_irrelevant (c : Cand) (l1 l2 : List Cand) (args : List Ty) (hc : c.matches args = false) :
    resolve (l1 ++ c :: l2) args = resolve (l1 ++ l2) args := by
  simp [resolve_eq, List.find?_append, List.filter_append, shortCut, inBucket, hc]

/-- **independent of the names of generic parameters**: renaming the generic parameters of the candidates by an
injective map changes nothing, for call sites with fully known argument types (no generic parameter, no function
name among the argument types) -/
theorem resolve_alpha (σ : String → String) (hσ : Function.Injective σ) (cs : List Cand) (args : List Ty)
    (hg : groundList args = true) : resolve (cs.map (Cand.rename σ)) args = resolve cs args := by
  have hs : shortCut args ∘ Cand.rename σ = shortCut args :=
    funext fun c => by simp only [Function.comp, shortCut, matches_rename σ hσ c args hg]; rfl
  have hb : ∀ k, inBucket (anyUnknown args) args k ∘ Cand.rename σ = inBucket (anyUnknown args) args k :=
    fun k => funext fun c => by simp only [Function.comp, inBucket, matches_rename σ hσ c args hg, bucket_rename]
  rw [resolve_eq, resolve_eq, List.find?_map, hs]
  simp only [List.filter_map, hb, decide3_rename]
  cases cs.find? (shortCut args) <;> rfl

/-- **the visible set is the lexically enclosing declarations**: unless a `forward fn` declaration is still
unimplemented, the candidates at a call site are all overloads registered in the enclosing scopes, innermost first —
whatever the call site is (after the declarations, inside the body of one of the overloads, inside a sibling function or
a lambda: scopes that register no overload of the name contribute nothing). With `resolve_perm` the outcome then does not
depend on how the overloads are spread over the scope levels. -/
theorem visible_set (levels : List ScopeLevel) (h : ∀ l ∈ levels, ∀ c ∈ l.funcs, c.pending = false) :
    (getItem levels).getD [] = levels.flatMap (·.funcs) := by
  induction levels with
  | nil => rfl
  | cons l parents ih =>
    have ih' := ih (fun l' hl' => h l' (List.mem_cons_of_mem _ hl'))
    simp only [getItem, List.flatMap_cons]
    cases hf : l.funcs with
    | nil => simpa using ih'
    | cons c cs =>
      simp only
      cases hp : getItem parents with
      | none =>
        rw [hp] at ih'; simp only [Option.getD_none] at ih'
        simp [← ih']
      | some ps =>
        rw [hp] at ih'; simp only [Option.getD_some] at ih'
        have hnp : ∀ x ∈ ps, x.pending = false := by
          intro x hx
          rw [ih'] at hx
          obtain ⟨l', hl', hx'⟩ := List.mem_flatMap.mp hx
          exact h l' (List.mem_cons_of_mem _ hl') x hx'
        have hfilt : ∀ rt ht, ps.filter (fun c => !(skipOwnForward rt ht c)) = ps := by
          intro rt ht
          rw [List.filter_eq_self]
          intro x hx
          simp only [skipOwnForward, hnp x hx, Bool.false_and, Bool.and_false]
          cases x.kind <;> rfl
        cases l.recourse with
        | none => simp [ih']
        | some rt => simp only [Option.getD_some]; rw [hfilt rt, ih']

/-- the only overload ever hidden is the function's own pending forward declaration: in the body of `fn f` implementing
`forward fn f`, a recursive call sees `f` once (example: the forward declaration, id 1, is skipped; the identical
overload of an outer scope, id 3 - even a pending forward declaration there - stays visible and makes the call
ambiguous) -/
example :
    let spec : FuncSpec := { gens := none, ps := [.int], nreq := 1, ret := .int }
    let self_ : Cand := { id := 2, spec := spec, kind := .static }
    let fwd : Cand := { id := 1, spec := spec, kind := .static, pending := true, height := 1 }
    let outer : Cand := { id := 3, spec := spec, kind := .static, pending := true, height := 0 }
    resolveAt [{ funcs := [self_], recourse := some spec.xtype, height := 2 }, { funcs := [fwd], height := 1 }] [.int]
      = .ok 2 ∧
    resolveAt [{ funcs := [self_], recourse := some spec.xtype, height := 2 }, { funcs := [fwd], height := 1 },
        { funcs := [outer], height := 0 }] [.int] = .ambiguous false 2 := by
  decide

/-- the winner is a visible candidate that matches the arguments -/
theorem resolve_sound (cs : List Cand) (args : List Ty) (i : Nat) (h : resolve cs args = .ok i) :
    ∃ c ∈ cs, c.id = i ∧ c.matches args = true := by
  have bucket : ∀ k c, cs.filter (inBucket (anyUnknown args) args k) = [c] → c ∈ cs ∧ c.matches args = true := by
    intro k c hk
    have := List.mem_filter.mp (hk ▸ List.mem_singleton_self c)
    exact ⟨this.1, (Bool.and_eq_true_iff.mp this.2).1⟩
  rw [resolve_eq] at h
  split at h
  · rename_i c hf
    cases h
    exact ⟨c, List.mem_of_find?_eq_some hf, rfl, (Bool.and_eq_true_iff.mp (List.find?_some hf : shortCut args c = true)).1⟩
  · rcases (decide3_eq_ok _ _ _ _ i).mp h with ⟨c, hk, hi⟩ | ⟨-, ⟨c, hk, hi⟩ | ⟨-, c, hk, hi⟩⟩ <;>
      exact ⟨c, (bucket _ c hk).1, hi, (bucket _ c hk).2⟩

/-- **ranking** (for fully known argument types, `anyUnknown args = false`): the unique matching non-generic
overload wins whatever generic and dynamic overloads match … -/
theorem resolve_rank_exact (cs : List Cand) (args : List Ty) (h : NoSC cs args) (c : Cand)
    (he : cs.filter (inBucket (anyUnknown args) args 0) = [c]) : resolve cs args = .ok c.id := by
  rw [resolve_eq_filter cs args h, he]; rfl

/-- … without a matching non-generic overload the unique matching generic overload wins whatever dynamic
overloads match … -/
theorem resolve_rank_generic (cs : List Cand) (args : List Ty) (h : NoSC cs args) (c : Cand)
    (he : cs.filter (inBucket (anyUnknown args) args 0) = [])
    (hg : cs.filter (inBucket (anyUnknown args) args 1) = [c]) : resolve cs args = .ok c.id := by
  rw [resolve_eq_filter cs args h, he, hg]; rfl

/-- … and a dynamic overload is chosen only when no static overload matches. -/
theorem resolve_rank_dynamic (cs : List Cand) (args : List Ty) (h : NoSC cs args) (c : Cand)
    (he : cs.filter (inBucket (anyUnknown args) args 0) = [])
    (hg : cs.filter (inBucket (anyUnknown args) args 1) = [])
    (hd : cs.filter (inBucket (anyUnknown args) args 2) = [c]) : resolve cs args = .ok c.id := by
  rw [resolve_eq_filter cs args h, he, hg, hd]; rfl

/-- **unambiguous**: a winner exists only if it is the only match of its rank and no better rank has a match -/
theorem resolve_unique (cs : List Cand) (args : List Ty) (h : NoSC cs args) (i : Nat)
    (hr : resolve cs args = .ok i) :
    ∃ c k, c.id = i ∧ k ≤ 2 ∧ cs.filter (inBucket (anyUnknown args) args k) = [c] ∧
      ∀ j, j < k → cs.filter (inBucket (anyUnknown args) args j) = [] := by
  rw [resolve_eq_filter cs args h, decide3_eq_ok] at hr
  rcases hr with ⟨c, he, hi⟩ | ⟨he, ⟨c, hg, hi⟩ | ⟨hg, c, hd, hi⟩⟩
  · exact ⟨c, 0, hi, by omega, he, fun j hj => by omega⟩
  · refine ⟨c, 1, hi, by omega, hg, fun j hj => ?_⟩
    obtain rfl : j = 0 := by omega
    exact he
  · refine ⟨c, 2, hi, by omega, hd, fun j hj => ?_⟩
    obtain rfl | rfl : j = 0 ∨ j = 1 := by omega
    · exact he
    · exact hg

/-- several equally ranked best matches are an ambiguity error, no match at all is `NoOverload` -/
theorem resolve_errors (cs : List Cand) (args : List Ty) (h : NoSC cs args) :
    (resolve cs args = .noOverload ↔ ∀ c ∈ cs, c.matches args = false) := by
  rw [resolve_eq_filter cs args h, decide3_eq_noOverload]
  simp only [List.filter_eq_nil_iff, inBucket, Bool.and_eq_true, beq_iff_eq, not_and]
  constructor
  · rintro ⟨h0, h1, h2⟩ c hc
    rw [← Bool.not_eq_true]
    intro hm
    rcases bucket_cases c (anyUnknown args) with hb | hb | hb
    · exact h0 c hc hm hb
    · exact h1 c hc hm hb
    · exact h2 c hc hm hb
  · intro hall
    have none : ∀ k c, c ∈ cs → c.matches args = true → ¬ c.bucket (anyUnknown args) = k :=
      fun k c hc hm => by rw [hall c hc] at hm; cases hm
    exact ⟨none 0, none 1, none 2⟩

/-- non-vacuity, and the input of `fix:` 1cd7c8c in /repo on the model: a non-generic, a generic and a dynamic overload all match
`(int)`; the non-generic one (id 1) wins; without it the generic one (id 2) wins over the dynamic one (id 3) -/
example :
    let nonGeneric : Cand := { id := 1, spec := { gens := none, ps := [.int], nreq := 1, ret := .int }, kind := .static }
    let generic : Cand := { id := 2, spec := { gens := some ["T"], ps := [.generic "T"], nreq := 1, ret := .int }, kind := .static }
    let dynamic : Cand := { id := 3, spec := { gens := none, ps := [.int], nreq := 1, ret := .int }, kind := .dynamic }
    resolve [dynamic, generic, nonGeneric] [.int] = .ok 1 ∧ resolve [dynamic, generic] [.int] = .ok 2 ∧
      resolve [generic, generic] [.int] = .ambiguous true 2 ∧ resolve [nonGeneric] [.str] = .noOverload := by
  decide

end XrayModel.C05
