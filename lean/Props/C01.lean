/-
C01 — Accepted programs never go wrong (type soundness): property theorems.

Model: `XrayModel/Core.lean` (evaluator of the core fragment; `Res.stuck` marks every place where the
interpreter itself would fail: a downcast with the wrong tag, an unchecked index, a call of a
non-function, a parameter list that does not fit, an escaped tail call) and
`XrayModel/CoreTyping.lean` (the annotated syntax the compiler sees, its erasure to the evaluator's
syntax, the checker `check`/`checkProgram`, value typing `HasTy`/`EnvTy`).

Proof: induction on fuel with the invariant `Inv n` (XrayProofs/CoreTypingInv.lean) over all ten
mutually recursive evaluator functions (`eval`, `callNamed`, `callVal`, `evalList`, `mkClos`,
`evalDflts`, `callUser`, `tramp`, `evalDecls`, `builtin`): one step lemma per function
(XrayProofs/CoreTypingStep.lean), assembled in XrayProofs/CoreTypingMain.lean.
-/
import XrayProofs.CoreTypingMain
namespace XrayModel.C01
open XrayModel.Core XrayModel.CoreTyping

/-- The signature table of the strict natives is sound: applied to error-free arguments that have
the argument types the table was asked about, a native never gets stuck and its result has the
result type of the table (an error value, e.g. "Modulo by zero", has every type). -/
theorem natives_sound {f : String} {ats : List Ty} {vs : List Val} {τ : Ty}
    (h : primTy f ats = some τ) (hvs : HasTys vs ats) (he : firstErr vs = none) :
    ∃ v, prim f vs = .val v ∧ HasTy v τ :=
  prim_sound h hvs he

example : primTy "mod" [.int, .unk] = some .int := rfl

/-- Soundness: a program the checker accepts never gets stuck, for every amount of fuel and every
limit configuration (depth / call / recursion limits, tail calls on or off): it ends in values
and error values, in a violation handed to the host, or is still running. -/
theorem soundness {ds : List TDecl} {Γ : TyEnv} (h : checkProgram ds = some Γ)
    (fuel : Nat) (cfg : Cfg) (why : String) (st : St) :
    runProgram fuel cfg (eraseDs ds) ≠ (.error (.stuck why), st) := by
  intro he
  have := program_ok h fuel cfg
  rw [he] at this
  exact this

/-- Preservation: when an accepted program has been instantiated, the value of every top-level
binding has the shape of the static type the checker assigned to it (same names, same order). -/
theorem preservation {ds : List TDecl} {Γ : TyEnv} (h : checkProgram ds = some Γ)
    (fuel : Nat) (cfg : Cfg) (fr : Frame) (st : St)
    (hr : runProgram fuel cfg (eraseDs ds) = (.ok fr, st)) : EnvTy fr.env Γ := by
  have := program_ok h fuel cfg
  rw [hr] at this
  obtain ⟨hf, hs, _⟩ := this
  -- the root frame has no recursion cell, and declarations keep it so
  exact (FrameTy.self_none hs).mp hf

/-- the hypotheses are satisfiable: a recursive function with an optional parameter is accepted -/
example : (checkProgram [.fnD (.mk (some "f") [.mk "a" .int none, .mk "b" .str (some (.str "q"))] (some .int) []
      (.call "f" [.call "sub" [.var "a", .int 1]]))]).isSome = true := by
  decide

end XrayModel.C01
