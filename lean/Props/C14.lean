/-
C14 — Integers are exact at every magnitude.
The property theorems; the lemmas they are proved from live in XrayProofs.
`Correct r v` : the operation succeeded (no panic) with a canonical representation denoting `v`.
-/
import XrayProofs.LazyInt
import XrayProofs.IntArith
import XrayProofs.LazyIntOps
import XrayProofs.IntBinom
import XrayProofs.IntDigits
import XrayProofs.IntText
import XrayProofs.IntLib
import XrayProofs.IntBits
import XrayProofs.IntMultinom
namespace XrayModel.C14
open XrayModel LB

/-- addition is exact and canonical for all operands -/
theorem add_correct (a b : LB) (ha : a.wf) (hb : b.wf) : Correct (LB.add a b) (a.den + b.den) :=
  Ops.add_correct a b ha hb

/-- subtraction is exact and canonical for all operands (in particular `Short - Long`) -/
theorem sub_correct (a b : LB) (ha : a.wf) (hb : b.wf) : Correct (LB.sub a b) (a.den - b.den) :=
  Ops.sub_correct a b ha hb

/-- negation, including `-(-2^63)` which leaves the small representation -/
theorem neg_correct (a : LB) (ha : a.wf) : Correct (LB.neg a) (-a.den) :=
  Ops.neg_correct a ha

/-- in-place addition agrees with addition -/
theorem addAssign_correct (a b : LB) (ha : a.wf) (hb : b.wf) :
    Correct (LB.addAssign a b) (a.den + b.den) :=
  Ops.addAssign_correct a b ha hb

/-- equality of representations is equality of the integers they denote -/
theorem eq_iff (a b : LB) (ha : a.wf) (hb : b.wf) : LB.beq a b = true ↔ a.den = b.den :=
  Ops.eq_iff a b ha hb

/-- the order on representations is the order on integers -/
theorem cmp_spec (a b : LB) (ha : a.wf) (hb : b.wf) : LB.cmp a b = compare a.den b.den :=
  Ops.cmp_spec a b ha hb

/-- multiplication is exact and canonical in all four representation combinations
(`Long * Long` never fits 64 bits, `Long * Short` can: `2^63 * -1`) -/
theorem mul_correct (a b : LB) (ha : a.wf) (hb : b.wf) : Correct (LB.mul a b) (a.den * b.den) :=
  Ops.mul_correct a b ha hb

/-- in-place multiplication (used by `binom`, `multinom`) agrees with multiplication -/
theorem mulAssign_correct (a b : LB) (ha : a.wf) (hb : b.wf) :
    Correct (LB.mulAssign a b) (a.den * b.den) :=
  Ops.mulAssign_correct a b ha hb

/-- absolute value, including `abs(-2^63)` which leaves the small representation -/
theorem abs_correct (a : LB) (ha : a.wf) : Correct (LB.abs a) (a.den.natAbs : Int) :=
  Ops.abs_correct a ha

/-- `signum` is the sign, as a small integer -/
theorem signum_spec (a : LB) : (LB.signum a).wf ∧ (LB.signum a).den = a.den.sign :=
  Ops.signum_spec a

/-! ### remainder and the three integer divisions (`LazyBigint` level; a zero divisor is the caller's guard) -/

/-- `%` on `LazyBigint` is the truncated remainder -/
theorem rem_correct (a b : LB) (ha : a.wf) (hb : b.wf) (h0 : b.den ≠ 0) :
    Correct (LB.rem a b) (Int.tmod a.den b.den) :=
  Ops.rem_correct a b ha hb h0

/-- `/` on `LazyBigint` is the truncated quotient (incl. `-2^63 / -1 = 2^63`) -/
theorem div_correct (a b : LB) (ha : a.wf) (hb : b.wf) (h0 : b.den ≠ 0) :
    Correct (LB.div a b) (Int.tdiv a.den b.den) :=
  Ops.div_correct a b ha hb h0

/-- `div_floor` is the floored quotient -/
theorem divFloor_correct (a b : LB) (ha : a.wf) (hb : b.wf) (h0 : b.den ≠ 0) :
    Correct (LB.divFloor a b) (Int.fdiv a.den b.den) :=
  Ops.divFloor_correct a b ha hb h0

/-- `div_ceil` is the ceiling quotient: the unique `q` with `a = q*b - r`, `r` between `0` and `b` -/
theorem divCeil_correct (a b : LB) (ha : a.wf) (hb : b.wf) (h0 : b.den ≠ 0) :
    ∃ q, Correct (LB.divCeil a b) q ∧
      ∃ r, a.den = q * b.den - r ∧ (0 < b.den → 0 ≤ r ∧ r < b.den) ∧ (b.den < 0 → b.den < r ∧ r ≤ 0) :=
  Ops.divCeil_correct a b ha hb h0

/-- the floored quotient is characterised the same way: `a = q*b + r`, `r` between `0` and `b` -/
theorem divFloor_char (a b : LB) (ha : a.wf) (hb : b.wf) (h0 : b.den ≠ 0) :
    ∃ q, Correct (LB.divFloor a b) q ∧
      ∃ r, a.den = q * b.den + r ∧ (0 < b.den → 0 ≤ r ∧ r < b.den) ∧ (b.den < 0 → b.den < r ∧ r ≤ 0) :=
  ⟨_, divFloor_correct a b ha hb h0, Arith.fdiv_char a.den b.den⟩

/-- the `(Short, Long)` arms of `div_floor` / `div_ceil`: a one-word dividend by a long divisor.  The floored quotient
is 0 or -1 by the signs alone; the ceiling quotient is 0 or 1 by the signs alone EXCEPT at the single point
`-2^63 / 2^63` (a one-word value whose magnitude equals that of the smallest long), where it is -1. -/
theorem short_long_quotient (s b : Int) (hs : (short s).wf) (hb : (long b).wf) :
    LB.divFloor (short s) (long b) = .ok (short (if s = 0 ∨ (s < 0 ↔ b < 0) then 0 else -1)) ∧
    LB.divCeil (short s) (long b) = .ok (short
      (if s = -9223372036854775808 ∧ b = 9223372036854775808 then -1
       else if s = 0 ∨ ¬ (s < 0 ↔ b < 0) then 0 else 1)) := by
  rw [wf_short] at hs
  rw [wf_long] at hb
  constructor
  · rw [LB.divFloor, Arith.fdiv_of_abs_lt s b (by omega)]
    split <;> rfl
  · split
    next h => obtain ⟨rfl, rfl⟩ := h; decide
    next h =>
      rw [LB.divCeil, LB.cdiv, Arith.cdiv_of_abs_lt s b (by omega)]
      split <;> rfl

example : LB.divCeil (short (-9223372036854775808)) (long 9223372036854775808) = .ok (short (-1)) := by decide
example : LB.divFloor (short (-9223372036854775808)) (long 9223372036854775808) = .ok (short (-1)) := by decide

/-! ### the builtin layer (`int.rs`): guards give error *values*, never panics -/

/-- `a % b` of the language is the floored modulo (sign of the divisor), for every nonzero divisor -/
theorem mod_floored (a b : LB) (ha : a.wf) (hb : b.wf) (h0 : b.den ≠ 0) :
    ∃ r, IntB.mod a b = .int r ∧ r.wf ∧ r.den = Int.fmod a.den b.den := by
  unfold IntB.mod
  rw [if_neg (mt (isZero_iff b hb).mp h0), (rem_correct a b ha hb h0).eq, Arith.fmod_of_tmod]
  simp only [Bool.and_eq_true, Bool.not_eq_true', isZero_false_iff _ (ofInt_wf _), LB.isNegative, ofInt_den]
  split
  · rw [(add_correct _ b (ofInt_wf _) hb).eq, ofInt_den]
    exact ⟨_, rfl, ofInt_wf _, ofInt_den _⟩
  · exact ⟨_, rfl, ofInt_wf _, ofInt_den _⟩

theorem mod_by_zero (a b : LB) (hb : b.wf) (h0 : b.den = 0) : IntB.mod a b = .err "Modulo by zero" := by
  unfold IntB.mod; rw [if_pos ((isZero_iff b hb).mpr h0)]

theorem divFloor_by_zero (a b : LB) (hb : b.wf) (h0 : b.den = 0) :
    IntB.divFloor a b = .err "Division by zero" := by
  unfold IntB.divFloor; rw [if_pos ((isZero_iff b hb).mpr h0)]

theorem divCeil_by_zero (a b : LB) (hb : b.wf) (h0 : b.den = 0) :
    IntB.divCeil a b = .err "Division by zero" := by
  unfold IntB.divCeil; rw [if_pos ((isZero_iff b hb).mpr h0)]

/-- builtin `div_floor` with a nonzero divisor: a value, exact and canonical -/
theorem divFloor_builtin (a b : LB) (ha : a.wf) (hb : b.wf) (h0 : b.den ≠ 0) :
    ∃ r, IntB.divFloor a b = .int r ∧ r.wf ∧ r.den = Int.fdiv a.den b.den := by
  unfold IntB.divFloor
  rw [if_neg (mt (isZero_iff b hb).mp h0), (divFloor_correct a b ha hb h0).eq]
  exact ⟨_, rfl, ofInt_wf _, ofInt_den _⟩

/-- builtin `div_ceil` with a nonzero divisor: a value, canonical, the ceiling quotient -/
theorem divCeil_builtin (a b : LB) (ha : a.wf) (hb : b.wf) (h0 : b.den ≠ 0) :
    ∃ r, IntB.divCeil a b = .int r ∧ r.wf ∧
      ∃ m, a.den = r.den * b.den - m ∧ (0 < b.den → 0 ≤ m ∧ m < b.den) ∧ (b.den < 0 → b.den < m ∧ m ≤ 0) := by
  obtain ⟨q, hq, hr⟩ := divCeil_correct a b ha hb h0
  unfold IntB.divCeil
  rw [if_neg (mt (isZero_iff b hb).mp h0), hq.eq]
  exact ⟨_, rfl, ofInt_wf _, by rw [ofInt_den]; exact hr⟩

/-- the model's fast exponentiation is exponentiation -/
theorem ipow_eq (b : Int) (e : Nat) : LB.ipow b e = b ^ e :=
  Ops.ipow_eq b e

/-- `Pow` on `LazyBigint`, on its precondition (exponent ≥ 0): exact and canonical in all four combinations -/
theorem lbPow_correct (a b : LB) (ha : a.wf) (hb : b.wf) (hneg : 0 ≤ b.den) :
    Correct (LB.pow a b) (a.den ^ b.den.toNat) :=
  Ops.lbPow_correct a b ha hb hneg

/-- `a ** b` of the language: a value `a^b`, canonical, whenever the documented guards do not apply
(negative exponent, `0 ** 0`, and an exponent beyond the machine word with a base other than 0, 1, -1) -/
theorem pow_correct (a b : LB) (ha : a.wf) (hb : b.wf) (hneg : 0 ≤ b.den)
    (h00 : ¬ (a.den = 0 ∧ b.den = 0))
    (hword : b.den < 18446744073709551616 ∨ (-1 ≤ a.den ∧ a.den ≤ 1)) :
    ∃ r, IntB.pow a b = .int r ∧ r.wf ∧ r.den = a.den ^ b.den.toNat := by
  rw [Ops.pow_builtin a b ha hb hneg h00, if_neg (by omega)]
  exact ⟨_, rfl, ofInt_wf _, ofInt_den _⟩

/-- an exponent of 2^64 or more with a base other than 0, 1, -1 is the error value "exponent too large" (never a panic) -/
theorem pow_exponent_too_large (a b : LB) (ha : a.wf) (hb : b.wf) (hbig : 18446744073709551616 ≤ b.den)
    (hbase : a.den < -1 ∨ 1 < a.den) : IntB.pow a b = .err "exponent too large" := by
  rw [Ops.pow_builtin a b ha hb (by omega) (by omega), if_pos ⟨hbig, hbase⟩]

/-- bases 0, 1 and -1: `a ** b` is the closed form for EVERY exponent `b ≥ 0` (of any magnitude and representation,
in particular beyond the machine word, where other bases give "exponent too large"): `0^b = 0` (b > 0), `1^b = 1`,
`(-1)^b = 1` for even `b` and `-1` for odd `b` -/
theorem pow_unit_bases (a b : LB) (ha : a.wf) (hb : b.wf) (hneg : 0 ≤ b.den)
    (h00 : ¬ (a.den = 0 ∧ b.den = 0)) (hu : -1 ≤ a.den ∧ a.den ≤ 1) :
    IntB.pow a b = .int (short (if a.den = 0 then 0 else if a.den = 1 then 1 else if b.den % 2 = 0 then 1 else -1)) := by
  rw [Ops.pow_builtin a b ha hb hneg h00, if_neg (by omega)]
  have hv : a.den ^ b.den.toNat =
      if a.den = 0 then 0 else if a.den = 1 then 1 else if b.den % 2 = 0 then 1 else -1 := by
    rw [← Ops.ipow_eq, LB.ipow]
    refine ite_congr rfl (fun h0 => if_neg (by omega)) fun h0 => ite_congr rfl (fun _ => rfl) fun h1 => ?_
    rw [if_pos (by omega)]
    exact if_congr (by omega) rfl rfl
  rw [hv]
  exact congrArg XR.int (if_pos ((fits_iff _).mpr (by omega)))

example : IntB.pow (short (-1)) (long 18446744073709551616) = .int (short 1) := by decide
example : IntB.pow (short (-1)) (long 18446744073709551617) = .int (short (-1)) := by decide

theorem pow_negative_exponent (a b : LB) (hneg : b.den < 0) :
    IntB.pow a b = .err "cannot raise integer to a negative power" := by
  unfold IntB.pow; rw [if_pos ((isNegative_iff b).mpr hneg)]

theorem pow_zero_zero (a b : LB) (ha : a.wf) (hb : b.wf) (h : a.den = 0 ∧ b.den = 0) :
    IntB.pow a b = .err "cannot raise zero to a zero power" := by
  unfold IntB.pow
  have h1 : LB.isNegative b = false := by
    rw [← Bool.not_eq_true, isNegative_iff]; omega
  have h2 : (LB.isZero b && LB.isZero a) = true := by
    rw [Bool.and_eq_true, isZero_iff b hb, isZero_iff a ha]; omega
  rw [h1, h2]; rfl

/-! ### equal integers are indistinguishable: canonical form, hash, order -/

/-- canonical form: a well-formed representation is determined by the integer it denotes -/
theorem wf_den_inj (a b : LB) (ha : a.wf) (hb : b.wf) (h : a.den = b.den) : a = b :=
  Ops.wf_den_inj a b ha hb h

/-- `to_u64` succeeds exactly on `[0, 2^64)` -/
theorem toU64_spec (a : LB) (ha : a.wf) :
    LB.toU64 a = if 0 ≤ a.den ∧ a.den < 18446744073709551616 then some a.den else none :=
  Ops.toU64_spec a ha

/-- `first_u64_digit`: the low 64 bits (of the two's complement for a small value, of the magnitude for a big one) -/
theorem firstU64Digit_spec (a : LB) (ha : a.wf) :
    (LB.firstU64Digit a).wf ∧ 0 ≤ (LB.firstU64Digit a).den ∧ (LB.firstU64Digit a).den < 18446744073709551616 ∧
    (LB.firstU64Digit a).den =
      (match a with | .short s => s % 18446744073709551616 | .long b => (b.natAbs : Int) % 18446744073709551616) :=
  Ops.firstU64Digit_spec a ha

/-- equal integers hash equally, and the hash is an integer in `[0, 2^64)` -/
theorem hash_congr (a b : LB) (ha : a.wf) (hb : b.wf) (h : a.den = b.den) :
    IntB.hash a = IntB.hash b ∧ ∃ r, IntB.hash a = .int r ∧ r.wf ∧ 0 ≤ r.den ∧ r.den < 18446744073709551616 := by
  have := wf_den_inj a b ha hb h
  subst this
  refine ⟨rfl, ?_⟩
  unfold IntB.hash
  rw [toU64_spec a ha]
  by_cases h : 0 ≤ a.den ∧ a.den < 18446744073709551616
  · rw [if_pos h]; exact ⟨a, rfl, ha, h.1, h.2⟩
  · rw [if_neg h]
    have := firstU64Digit_spec a ha
    exact ⟨_, rfl, this.1, this.2.1, this.2.2.1⟩

/-- `cmp(a, b)` is -1 / 0 / 1: the sign of the difference -/
theorem cmp_builtin (a b : LB) (ha : a.wf) (hb : b.wf) :
    IntB.cmp a b = .int (short (a.den - b.den).sign) := by
  unfold IntB.cmp; rw [cmp_spec a b ha hb]
  rcases Int.lt_trichotomy a.den b.den with h | h | h
  · rw [Int.compare_eq_lt.mpr h, Int.sign_eq_neg_one_iff_neg.mpr (by omega)]
  · rw [Int.compare_eq_eq.mpr h, h, Int.sub_self]; rfl
  · rw [Int.compare_eq_gt.mpr h, Int.sign_eq_one_iff_pos.mpr (by omega)]

/-- `<`, `<=`, `>`, `>=`, `==`, `!=` of the language agree with the integer order -/
theorem order_builtins (a b : LB) (ha : a.wf) (hb : b.wf) :
    IntB.lt a b = .bool (decide (a.den < b.den)) ∧ IntB.le a b = .bool (decide (a.den ≤ b.den)) ∧
    IntB.gt a b = .bool (decide (a.den > b.den)) ∧ IntB.ge a b = .bool (decide (a.den ≥ b.den)) ∧
    IntB.eq a b = .bool (decide (a.den = b.den)) ∧ IntB.ne a b = .bool (decide (a.den ≠ b.den)) := by
  have hbeq : LB.beq a b = decide (a.den = b.den) := by
    rw [Bool.eq_iff_iff, decide_eq_true_iff]; exact eq_iff a b ha hb
  unfold IntB.lt IntB.le IntB.gt IntB.ge IntB.eq IntB.ne
  rw [cmp_spec a b ha hb, Arith.compare_beq_lt, Arith.compare_bne_gt, Arith.compare_beq_gt, Arith.compare_bne_lt,
    hbeq, ← decide_not]
  exact ⟨rfl, rfl, rfl, rfl, rfl, rfl⟩

/-- equal integers are indistinguishable however they were computed: two canonical representations of the same integer
are equal as values, compare equal, hash equally, print equally (in every radix and under every format spec) -/
theorem equal_indistinguishable (a b : LB) (ha : a.wf) (hb : b.wf) (h : a.den = b.den) :
    a = b ∧ LB.beq a b = true ∧ LB.cmp a b = .eq ∧ IntB.hash a = IntB.hash b ∧ LB.toStr a = LB.toStr b ∧
    (∀ sp, IntB.format a sp = IntB.format b sp) ∧ (∀ r, LB.magnitudeToStr a r = LB.magnitudeToStr b r) := by
  have e := wf_den_inj a b ha hb h
  subst e
  refine ⟨rfl, (eq_iff a a ha ha).mpr rfl, ?_, rfl, rfl, fun _ => rfl, fun _ => rfl⟩
  rw [cmp_spec a a ha ha]; exact Int.compare_eq_eq.mpr rfl

/-! ### binomial coefficient and digits (loops of `int.rs`) -/

theorem cmp_gt_iff (a b : LB) (ha : a.wf) (hb : b.wf) : (LB.cmp b a == .gt) = true ↔ a.den < b.den := by
  rw [Ops.cmp_beq_gt b a hb ha, decide_eq_true_iff]

/-- `binom(n, k)` for `0 ≤ k ≤ n` is the binomial coefficient, exact and canonical at every magnitude -/
theorem binom_spec (a b : LB) (ha : a.wf) (hb : b.wf) (n k : Nat) (han : a.den = n) (hbk : b.den = k)
    (hkn : k ≤ n) : ∃ r, IntB.binom a b = .int r ∧ r.wf ∧ r.den = (n.choose k : Nat) := by
  rw [← ofInt_den_self a ha, ← ofInt_den_self b hb, han, hbk]
  exact ⟨_, Binom.binom_eq n k hkn, ofInt_wf _, ofInt_den _⟩

theorem binom_k_above_n (a b : LB) (ha : a.wf) (hb : b.wf) (h : a.den < b.den) :
    IntB.binom a b = .err "argument 2 must be less than argument 1" := by
  unfold IntB.binom; rw [if_pos ((cmp_gt_iff a b ha hb).mpr h)]

theorem binom_k_negative (a b : LB) (ha : a.wf) (hb : b.wf) (h1 : b.den ≤ a.den) (h : b.den < 0) :
    IntB.binom a b = .err "argument 2 must be non-negative" := by
  unfold IntB.binom
  have h1 : (LB.cmp b a == .gt) = false := by
    rw [← Bool.not_eq_true, cmp_gt_iff a b ha hb]; omega
  rw [h1, if_pos ((isNegative_iff b).mpr h)]; simp

/-- `digits(n, b)` for `b ≥ 2`: the loop terminates (the model's fuel suffices), the digits are the little-endian
expansion of `n` in base `b` (Horner form) and carry the sign of `n` (so for `n ≥ 0` each lies in `[0, b)`) -/
theorem digits_spec (n b : LB) (hn : n.wf) (hb : b.wf) (hb2 : 2 ≤ b.den) :
    ∃ ds, IntB.digits n b = .ints ds ∧ (∀ d ∈ ds, d.wf) ∧
      (ds.map LB.den).foldr (fun d acc => d + b.den * acc) 0 = n.den ∧
      (∀ d ∈ ds, (0 ≤ n.den → 0 ≤ d.den ∧ d.den < b.den) ∧ (n.den ≤ 0 → -b.den < d.den ∧ d.den ≤ 0)) := by
  refine Digits.digits_ind n b hn hb hb2 (fun n ds => (∀ d ∈ ds, d.wf) ∧ Digits.horner b.den (ds.map LB.den) = n ∧
    ∀ d ∈ ds, (0 ≤ n → 0 ≤ d.den ∧ d.den < b.den) ∧ (n ≤ 0 → -b.den < d.den ∧ d.den ≤ 0))
    ⟨nofun, rfl, nofun⟩ ?_
  rintro n ds - ⟨hw, hh, hr⟩
  have hs := Arith.tdiv_sign n b.den hb2
  refine ⟨List.forall_mem_cons.mpr ⟨ofInt_wf _, hw⟩, ?_, List.forall_mem_cons.mpr ⟨?_, fun d hd => ?_⟩⟩
  · exact Digits.horner_step b.den n ds hh
  · rw [ofInt_den]; exact Arith.tmod_range n b.den hb2
  · exact ⟨fun h => (hr d hd).1 (hs.1 h), fun h => (hr d hd).2 (hs.2 h)⟩

theorem digits_small_base (n b : LB) (hb : b.wf) (hb2 : b.den < 2) :
    IntB.digits n b = .err "base must be at least 2" := by
  unfold IntB.digits
  have h1 : (LB.cmp b (short 2) == .lt) = true := by
    rw [Ops.cmp_beq_lt b (short 2) hb (by decide), den_short]
    exact decide_eq_true (by omega)
  rw [h1]; rfl

/-! ### conversion to and from text -/

theorem ofInt_den_self (a : LB) (ha : a.wf) : LB.ofInt a.den = a :=
  XrayModel.ofInt_den_self a ha

/-- text round trip in every radix `2 ≤ r ≤ 36`, at every magnitude (both the `i128` fast path and the
big-integer path of `from_str_radix`): parsing the text of `v` gives back `v`, canonical -/
theorem toStr_ofStr (v : Int) (r : Nat) (h2 : 2 ≤ r) (h36 : r ≤ 36) :
    LB.fromStrRadix (toStrRadix v r) r = some (LB.ofInt v) :=
  Text.roundtrip v r h2 h36

/-- `to_int(to_str(a)) = a` -/
theorem toInt_toStr (a : LB) (ha : a.wf) : IntB.toInt (LB.toStr a) (short 10) = .int a := by
  unfold IntB.toInt LB.toStr
  have h1 : (LB.cmp (short 10) (short 1) != .gt) = false := by decide
  have h2 : (LB.cmp (short 10) (short 36) == .gt) = false := by decide
  rw [h1, h2]
  simp only [Bool.false_eq_true, if_false, den_short]
  have : (10 : Int).toNat = 10 := rfl
  rw [this, Text.roundtrip a.den 10 (by decide) (by decide), ofInt_den_self a ha]

/-- `to_int(s, base)`: the two documented guards are error values -/
theorem toInt_base_guards (s : List Char) (base : LB) (hb : base.wf) :
    (base.den ≤ 1 → IntB.toInt s base = .err "base must be larger than 1") ∧
    (36 < base.den → IntB.toInt s base = .err "base must be lower than 36") := by
  unfold IntB.toInt
  rw [cmp_spec base (short 1) hb (by decide), cmp_spec base (short 36) hb (by decide), Arith.compare_bne_gt,
    Arith.compare_beq_gt]
  refine ⟨fun h => if_pos (decide_eq_true h), fun h => ?_⟩
  rw [if_neg (by rw [decide_eq_true_iff, den_short]; omega)]
  exact if_pos (decide_eq_true h)

/-- the text of an integer determines it: different integers have different text (in every radix) -/
theorem toStr_injective (v w : Int) (r : Nat) (h2 : 2 ≤ r) (h36 : r ≤ 36)
    (h : toStrRadix v r = toStrRadix w r) : v = w := by
  have hv := Text.roundtrip v r h2 h36
  have hw := Text.roundtrip w r h2 h36
  rw [h, hw] at hv
  have := congrArg LB.den (Option.some.inj hv)
  rw [ofInt_den, ofInt_den] at this
  exact this.symm

/-- `magnitude_to_str` in the four format radices never panics, for either representation, and the int
`format` with a bare type (`""`, `"x"`, `"o"`, `"b"`) is sign + magnitude, which parses back -/
theorem format_plain (a : LB) (ha : a.wf) (t : Option Char) (r : Nat)
    (ht : (t, r) = (none, 10) ∨ (t, r) = (some 'x', 16) ∨ (t, r) = (some 'o', 8) ∨ (t, r) = (some 'b', 2)) :
    IntB.format a { ty := t } = .str (toStrRadix a.den r) ∧
    LB.fromStrRadix (toStrRadix a.den r) r = some a := by
  have hr : 2 ≤ r ∧ r ≤ 36 := by
    rcases ht with h | h | h | h <;> (cases h; decide)
  refine ⟨?_, by rw [Text.roundtrip a.den r hr.1 hr.2, ofInt_den_self a ha]⟩
  have hm : LB.magnitudeToStr a r = .ok (natToStr r a.den.natAbs) := by
    cases a with
    | short v => exact if_pos (by rcases ht with h | h | h | h <;> (cases h; decide))
    | long v => exact if_pos hr
  -- with every other field of the spec at its default, `format` is `.str (sign ++ magnitude)`
  rw [IntB.format]
  rcases ht with h | h | h | h <;> cases h <;>
    simp only [hm, Bool.false_eq_true, if_false, List.nil_append, List.append_nil, toStrRadix, isNegative_iff]

/-- the documented guarantee `format(x, "") == to_str(x)` -/
theorem format_empty_eq_toStr (a : LB) (ha : a.wf) : IntB.format a {} = IntB.toStr a := by
  have := (format_plain a ha none 10 (Or.inl rfl)).1
  rw [this]; rfl

/-! ### the library functions written in xray (`include.rs`), hand model `XrayModel/IntLib.lean` -/

/-- `gcd(a, b)` terminates and is the greatest common divisor (non-negative; `Int.gcd` is `Nat.gcd` of the magnitudes) -/
theorem gcd_spec (a b : Int) : Lib.gcd a b = some ((Int.gcd a b : Nat) : Int) :=
  LibP.gcd_spec a b

/-- `gcd(0, 0) == 0`, as documented -/
theorem gcd_zero_zero : Lib.gcd 0 0 = some 0 := by
  rw [LibP.gcd_spec]; rfl

/-- `lcm(a, b)` is the least common multiple (non-negative; 0 when either argument is 0) -/
theorem lcm_spec (a b : Int) : Lib.lcm a b = some ((Int.lcm a b : Nat) : Int) :=
  LibP.lcm_spec a b

/-- `factorial(n)` is `n!` (for every `n` the `range` builtin can count, i.e. below 2^63) -/
theorem factorial_spec (n : Nat) (hn : (n : Int) ≤ 9223372036854775807) :
    Lib.factorial n 1 = .ok ((n.factorial : Nat) : Int) :=
  LibP.factorial_spec n hn

theorem factorial_negative (n step : Int) (hn : n < 0) :
    Lib.factorial n step = .error "cannot get factorial of negative number" :=
  LibP.factorial_negative n step hn

/-- `floor_root(a, b)`: the bisection terminates and returns the `b`-th root rounded down -/
theorem floor_root_spec (a b : Int) (ha : 0 ≤ a) (ha' : a + 1 ≤ 9223372036854775807) (hb : 1 ≤ b) :
    ∃ r : Int, Lib.floorRoot a b = some (.ok r) ∧ 0 ≤ r ∧ r ^ b.toNat ≤ a ∧ a < (r + 1) ^ b.toNat := by
  unfold Lib.floorRoot
  -- `ha'`: `a + 1` is below the limit of `range`
  rw [if_neg (by omega), LibP.rangeGuard_none (by decide) ((fits_iff _).mpr (by omega)) (by decide) (by decide)]
  simp only []
  have hp : Lib.rootPred a b = (fun x => Except.ok (decide (x ^ b.toNat ≤ a)) : Int → Except String Bool) := by
    funext x
    unfold Lib.rootPred Lib.pow
    rw [if_neg (by omega), if_neg (by omega)]
  rw [hp]
  obtain ⟨k, hk, hbis, hall, hstop⟩ := LibP.bisect_spec (fun x => x ^ b.toNat ≤ a) (a.toNat + 1) 1 a.toNat 0
    (by omega) (fun x y h1 h2 _ hy => Int.le_trans (pow_le_pow_left₀ (by omega) h2 _) hy)
  refine ⟨k, by rw [hbis, Int.zero_add], by omega, ?_, ?_⟩
  · by_cases hk0 : k = 0
    · rw [hk0, Int.natCast_zero, Int.zero_pow (by omega)]; exact ha
    · exact hall k (by omega) (by omega)
  · by_cases hka : k < a.toNat
    · rw [Int.add_comm]; exact Int.not_le.mp (hstop hka)
    · rw [show (k : Int) = a by omega]; exact LibP.self_lt_succ_pow a b.toNat ha (by omega)

/-- `ceil_root(a, b)`: the `b`-th root rounded up -/
theorem ceil_root_spec (a b : Int) (ha : 1 ≤ a) (ha' : a ≤ 9223372036854775807) (hb : 1 ≤ b) :
    ∃ r : Int, Lib.ceilRoot a b = some (.ok r) ∧ 1 ≤ r ∧ (r - 1) ^ b.toNat < a ∧ a ≤ r ^ b.toNat := by
  obtain ⟨f, hf, h0, h1, h2⟩ := floor_root_spec (a - 1) b (by omega) (by omega) hb
  refine ⟨1 + f, ?_, by omega, ?_, ?_⟩
  · unfold Lib.ceilRoot; rw [if_neg (by omega), hf]
  · have : 1 + f - 1 = f := by omega
    rw [this]; omega
  · rw [Int.add_comm]; omega

/-- library `abs` and `sign` -/
theorem lib_abs_sign (a : Int) : Lib.abs a = (a.natAbs : Int) ∧ Lib.sign a = a.sign := by
  refine ⟨LibP.abs_eq a, ?_⟩
  unfold Lib.sign
  rcases Int.lt_trichotomy a 0 with h | h | h
  · rw [Int.sign_eq_neg_one_iff_neg.mpr h, if_neg (by omega), if_pos h]
  · subst h; rfl
  · rw [Int.sign_eq_one_iff_pos.mpr h, if_pos h]

example : Lib.floorRoot 1 2 = some (.ok 1) := by decide
example : Lib.ceilRoot 2 2 = some (.ok 2) := by decide

/-! ### bitwise operations -/

/-- `bit_and`, `bit_or`, `bit_xor`: the result is canonical in all four representation combinations and denotes the
Int-level operation, which is the two's-complement operation bit by bit (`Bits.tbit x i` is bit `i` of the infinite
two's-complement expansion of `x`; by `bits_determine` the bits determine the integer) -/
theorem bit_ops_spec (a b : LB) (ha : a.wf) (hb : b.wf) :
    ((LB.bitand a b).wf ∧ ∀ i, Bits.tbit (LB.bitand a b).den i = (Bits.tbit a.den i && Bits.tbit b.den i)) ∧
    ((LB.bitor a b).wf ∧ ∀ i, Bits.tbit (LB.bitor a b).den i = (Bits.tbit a.den i || Bits.tbit b.den i)) ∧
    ((LB.bitxor a b).wf ∧ ∀ i, Bits.tbit (LB.bitxor a b).den i = (Bits.tbit a.den i ^^ Bits.tbit b.den i)) := by
  obtain ⟨h1, e1⟩ := Bits.bitand_spec a b ha hb
  obtain ⟨h2, e2⟩ := Bits.bitor_spec a b ha hb
  obtain ⟨h3, e3⟩ := Bits.bitxor_spec a b ha hb
  exact ⟨⟨h1, fun i => by rw [e1, Bits.iland_tbit]⟩, ⟨h2, fun i => by rw [e2, Bits.ilor_tbit]⟩,
    ⟨h3, fun i => by rw [e3, Bits.ilxor_tbit]⟩⟩

theorem bits_determine (x y : Int) (h : ∀ i, Bits.tbit x i = Bits.tbit y i) : x = y := by
  -- bit `m + n` is 0 in `ofNat m` and 1 in `negSucc n`
  have hfalse : ∀ m n : Nat, ¬ (∀ i, Bits.tbit (.ofNat m) i = Bits.tbit (.negSucc n) i) := by
    intro m n h
    have h1 : m < 2 ^ (m + n) := Nat.lt_of_lt_of_le Nat.lt_two_pow_self (Nat.pow_le_pow_right (by decide) (by omega))
    have h2 : n < 2 ^ (m + n) := Nat.lt_of_lt_of_le Nat.lt_two_pow_self (Nat.pow_le_pow_right (by decide) (by omega))
    have := h (m + n)
    simp only [Bits.tbit, Nat.testBit_lt_two_pow h1, Nat.testBit_lt_two_pow h2] at this
    exact absurd this (by decide)
  cases x with
  | ofNat m =>
    cases y with
    | ofNat n => simp only [Bits.tbit] at h; rw [Nat.eq_of_testBit_eq h]
    | negSucc n => exact absurd h (hfalse m n)
  | negSucc m =>
    cases y with
    | ofNat n => exact absurd (fun i => (h i).symm) (hfalse n m)
    | negSucc n =>
      rw [Nat.eq_of_testBit_eq fun i => Bool.not_inj (h i)]

/-- the bitwise operations are commutative (whatever the representations of the operands) -/
theorem bit_ops_comm (a b : LB) (ha : a.wf) (hb : b.wf) :
    LB.bitand a b = LB.bitand b a ∧ LB.bitor a b = LB.bitor b a ∧ LB.bitxor a b = LB.bitxor b a := by
  obtain ⟨h1, e1⟩ := Bits.bitand_spec a b ha hb
  obtain ⟨h1', e1'⟩ := Bits.bitand_spec b a hb ha
  obtain ⟨h2, e2⟩ := Bits.bitor_spec a b ha hb
  obtain ⟨h2', e2'⟩ := Bits.bitor_spec b a hb ha
  obtain ⟨h3, e3⟩ := Bits.bitxor_spec a b ha hb
  obtain ⟨h3', e3'⟩ := Bits.bitxor_spec b a hb ha
  exact ⟨wf_den_inj _ _ h1 h1' (by rw [e1, e1', Bits.iland_comm]),
    wf_den_inj _ _ h2 h2' (by rw [e2, e2', Bits.ilor_comm]),
    wf_den_inj _ _ h3 h3' (by rw [e3, e3', Bits.ilxor_comm])⟩

/-! ### multinomial coefficient (loop of `int.rs` `add_int_multinom`) -/

/-- `multinom(ks)` with non-negative entries (any number of them, any magnitude, any order, zeros included): a value `M`,
canonical, with `M * Π kᵢ! = (Σ kᵢ)!` (`Multinom.prodF` / `Multinom.sumN` are the product of the factorials / the sum of
the entries).  Covers the sort, the `take_while(is_positive)` cut, the in-place multiplications and the final division. -/
theorem multinom_spec (s : List LB) (hs : ∀ x ∈ s, x.wf ∧ 0 ≤ x.den) :
    ∃ r, IntB.multinom s = .int r ∧ r.wf ∧
      ∃ M : Nat, r.den = (M : Int) ∧ M * Multinom.prodF s = (Multinom.sumN s).factorial :=
  Multinom.multinom_spec s hs

/-- a negative entry (among at least two entries) is the documented error value -/
theorem multinom_negative (s : List LB) (hs : ∀ x ∈ s, x.wf) (hlen : 2 ≤ s.length) (hneg : ∃ x ∈ s, x.den < 0) :
    IntB.multinom s = .err "sequence cannot have negative values" :=
  Multinom.multinom_negative s hs hlen hneg

example : IntB.multinom [short 3, short 0, short 2, short 5] = .int (short 2520) := by decide

/-- non-vacuity: operands straddling 2^63 -/
example : Correct (LB.mul (long 9223372036854775808) (short (-1))) (-9223372036854775808) :=
  ⟨_, rfl, by decide, rfl⟩
example : Correct (LB.div (short (-9223372036854775808)) (short (-1))) 9223372036854775808 :=
  ⟨_, rfl, by decide, rfl⟩
example : IntB.mod (short (-7)) (short 3) = .int (short 2) := by decide

end XrayModel.C14
