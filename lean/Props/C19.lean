/-
C19 — Derived equality, hash, order and text are coherent; sorting is right.
Property theorems only; helper lemmas live in XrayProofs.{Sort,Derive,Format}.

Sorting (`XrayModel/Sort.lean` = the functional reading of `/repo/src/util/trysort.rs`):
a comparator is `lt : Nat → α → α → Except ε Bool`, its first argument being the index of the
comparison within the call, so "fails at the k-th comparison" can be said.  `Res.ok ys n'` = finished
with `ys` after `n'` comparisons, `Res.fail e buf n'` = comparison `n'-1` failed with `e` and the
caller's buffer holds `buf`, `Res.panic` = what panics in the Rust code (the `debug_assert!` at the end of `try_sort`,
an index outside the array in the heap routines and `quickselect`) or the model's loop fuel running out.
-/
import XrayProofs.Sort
import XrayProofs.Derive
import XrayProofs.Format
namespace XrayModel.C19
open XrayModel XrayModel.Sort

variable {ε α : Type}

/-- `try_sort` never reaches the final `debug_assert!` (nor runs out of the model's loop fuel),
whatever the comparator does -/
theorem sort_no_panic (lt : Cmp ε α) (xs : List α) (n : Nat) : trySort lt xs n ≠ .panic :=
  fun h => (h ▸ trySort_good lt xs n : Good lt n id xs .panic)

/-- the result of a successful sort is a permutation of the input — for EVERY comparator (no order
axioms needed) -/
theorem sort_perm (lt : Cmp ε α) (xs ys : List α) (n n' : Nat)
    (h : trySort lt xs n = .ok ys n') : ys.Perm xs :=
  (h ▸ trySort_good lt xs n : Good lt n id xs (.ok ys n')).1

/-- a comparator failure is returned as that failure, and the buffer the caller is left with (after
the `InsertionHole` / `MergeHole` guards have run) holds every element exactly once: nothing lost,
nothing duplicated.  Moreover the failure reported is the failure of the LAST comparison made
(index `n'-1`), and every earlier comparison had answered. -/
theorem sort_fail_conserves (lt : Cmp ε α) (xs buf : List α) (e : ε) (n n' : Nat)
    (h : trySort lt xs n = .fail e buf n') :
    buf.Perm xs ∧ n < n' ∧ (∃ a b, lt (n' - 1) a b = .error e) ∧
      ∀ i, n ≤ i → i < n' - 1 → ∃ a b r, lt i a b = .ok r :=
  have g : Good lt n id xs (.fail e buf n') := h ▸ trySort_good lt xs n
  ⟨g.1, g.2.1, g.2.2.2, g.2.2.1⟩

/-- for every `k`: a comparator that fails (with `e`) exactly at its `k`-th call makes the sort either
finish normally having made at most `k` comparisons, or return exactly that failure right after
comparison `k` with a buffer that is a permutation of the input -/
theorem sort_fail_at_k (lt : Cmp ε α) (xs : List α) (e : ε) (k : Nat)
    (hk : ∀ a b, lt k a b = .error e) (hother : ∀ i, i ≠ k → ∀ a b, ∃ r, lt i a b = .ok r) :
    (∃ ys n', trySort lt xs 0 = .ok ys n' ∧ n' ≤ k ∧ ys.Perm xs) ∨
    (∃ buf, trySort lt xs 0 = .fail e buf (k + 1) ∧ buf.Perm xs) := by
  have hg := trySort_good lt xs 0
  cases hr : trySort lt xs 0 with
  | ok ys n' =>
    rw [hr] at hg
    refine Or.inl ⟨ys, n', rfl, Nat.le_of_not_lt fun hlt => ?_, hg.1⟩
    obtain ⟨a, b, r, hab⟩ := hg.2.2 k (Nat.zero_le _) hlt
    rw [hk a b] at hab
    cases hab
  | fail e' buf n' =>
    rw [hr] at hg
    obtain ⟨hp, hn, _, a, b, hab⟩ := hg
    -- the failing comparison can only be the `k`-th
    have hk' : n' - 1 = k := Classical.byContradiction fun hne => by
      obtain ⟨r, hr'⟩ := hother (n' - 1) hne a b
      rw [hr'] at hab
      cases hab
    obtain rfl : n' = k + 1 := by omega
    rw [hk', hk a b] at hab
    cases hab
    exact Or.inr ⟨buf, rfl, hp⟩
  | panic => rw [hr] at hg; exact hg.elim

/-- the hypotheses of `sort_fail_at_k` are satisfiable and both alternatives occur -/
example : trySort (fun i (a b : Nat) => if i = 1 then .error "E" else .ok (decide (a < b))) [3, 1, 2] 0
    = .fail "E" [3, 1, 2] 2 := by decide
example : trySort (fun i (a b : Nat) => if i = 7 then (.error "E" : Except String Bool) else .ok (decide (a < b))) [3, 1, 2] 0
    = .ok [1, 2, 3] 3 := by decide

/-! ### ordered, stable — equal to the reference stable sort

`StrictWeak r`: `r` ("strictly less") is irreflexive, transitive and negatively transitive — total
orders, and preorders with ties (compare by a key), are instances.  `Pure lt r`: the comparator never
fails and decides `r`.  The reference stable sort is insertion sort `isort r` (an element goes before
the first one that is not strictly smaller, so tied elements keep their input order). -/

/-- **`try_sort` computes the reference stable sort** (both paths: insertion sort for `len ≤ 20`, and
natural runs + `MIN_RUN` extension + run stack + two-directional merges above) -/
theorem sort_eq_reference {r : α → α → Bool} (hs : StrictWeak r) (lt : Cmp ε α) (hp : Pure lt r)
    (xs : List α) (n : Nat) : ∃ n', trySort lt xs n = .ok (isort r xs) n' := by
  obtain ⟨ys, n', h⟩ := trySort_pure_ok hp xs n
  exact ⟨n', by rw [h, trySort_spec hs hp h]⟩

/-- the result is ordered w.r.t. the comparator: no element is strictly smaller than an earlier one -/
theorem sort_sorted {r : α → α → Bool} (hs : StrictWeak r) (lt : Cmp ε α) (hp : Pure lt r)
    (xs : List α) (n : Nat) :
    ∃ ys n', trySort lt xs n = .ok ys n' ∧ ys.Pairwise (fun a b => r b a = false) ∧ ys.Perm xs := by
  obtain ⟨n', h⟩ := sort_eq_reference hs lt hp xs n
  exact ⟨_, n', h, (stableSorted_isort hs xs).1, sort_perm lt xs _ n n' h⟩

/-- stability: for every element `c`, the elements tied with `c` appear in the result in exactly the
order they had in the input -/
theorem sort_stable {r : α → α → Bool} (hs : StrictWeak r) (lt : Cmp ε α) (hp : Pure lt r)
    (xs : List α) (n : Nat) :
    ∃ ys n', trySort lt xs n = .ok ys n' ∧
      ∀ c, ys.filter (fun x => !r c x && !r x c) = xs.filter (fun x => !r c x && !r x c) := by
  obtain ⟨n', h⟩ := sort_eq_reference hs lt hp xs n
  exact ⟨_, n', h, fun c => (stableSorted_isort hs xs).2 c⟩

/-- an ordered rearrangement that keeps tied elements in input order is unique, so the two theorems
above pin the result down completely -/
theorem sorted_stable_unique {r : α → α → Bool} (hs : StrictWeak r) (xs ys : List α)
    (h1 : ys.Pairwise (fun a b => r b a = false))
    (h2 : ∀ c, ys.filter (fun x => !r c x && !r x c) = xs.filter (fun x => !r c x && !r x c)) :
    ys = isort r xs :=
  eq_isort_of_stableSorted hs ⟨h1, h2⟩

/-- the hypotheses are satisfiable: comparing naturals by `x / 10` is a strict weak order with ties -/
example : StrictWeak (fun a b : Nat => decide (a / 10 < b / 10)) :=
  ⟨by simp, by intro a b c; simp; omega, by intro a b c; simp; omega⟩

/-- `XSequence::sorted` (sequence.rs:304-357: pre-check of adjacent pairs with `cmp > 0`, then `try_sort`
with `is_less = cmp < 0`): for a three-way comparison `c3` whose "negative" part is a strict weak order
and which is antisymmetric in sign, the answer is the stable sort — `none` meaning "the input itself" -/
theorem seqSorted_spec {c3 : α → α → Int} (cmp : Cmp3 ε α) (hp : ∀ i a b, cmp i a b = .ok (c3 a b))
    (hs : StrictWeak (fun a b => decide (c3 a b < 0))) (hanti : ∀ a b, c3 a b > 0 ↔ c3 b a < 0)
    (xs : List α) :
    ∃ n', seqSorted cmp xs = .ok none n' ∧ xs = isort (fun a b => decide (c3 a b < 0)) xs ∨
          seqSorted cmp xs = .ok (some (isort (fun a b => decide (c3 a b < 0)) xs)) n' := by
  have hpl : Pure (ltOf cmp) (fun a b => decide (c3 a b < 0)) := fun i a b => by simp [ltOf, hp]
  obtain ⟨b, m, hpre, hchain⟩ := isSortedPre_spec hp xs 0
  unfold seqSorted
  rw [hpre]
  cases b with
  | true =>
    have hsorted : Sorted (fun a b => decide (c3 a b < 0)) xs :=
      Run.of_chain hs ((hchain rfl).imp fun a b hab => decide_eq_false (mt (hanti a b).mpr hab))
    exact ⟨m, .inl ⟨rfl, eq_isort_of_stableSorted hs ⟨hsorted, Tied.refl _⟩⟩⟩
  | false =>
    obtain ⟨n', h⟩ := sort_eq_reference hs (ltOf cmp) hpl xs m
    exact ⟨n', .inr (by simp [Res.failCtx, Res.bind, h, Res.map])⟩

/-! ### `TryHeap` and `quickselect`: conservation for every comparator

(`Conserves P xs r`: the array in an `ok` payload, or the array a failure leaves behind, is a
permutation of `xs`; a `panic` outcome — an out-of-bounds index — claims nothing.) -/

/-- `push`: afterwards the heap holds the old elements and the new one — also when the comparator
fails while sifting up (the `Hole` guard puts the element back) -/
theorem heap_push_conserves (le : Cmp ε α) (data : List α) (item : α) (n : Nat) :
    Conserves id (data ++ [item]) (Heap.push le data item n) :=
  Heap.push_conserves le data item n

/-- `pop`: the element returned together with the remaining heap is the old heap; when the comparator
fails while sifting down, the remaining heap together with the element that had been taken out (and is
dropped with the error) is the old heap: nothing is lost or duplicated -/
theorem heap_pop_conserves (le : Cmp ε α) (data : List α) (n : Nat) :
    Heap.PopPost data (Heap.pop le data n) := by
  rcases List.eq_nil_or_concat' data with rfl | ⟨init, last, rfl⟩
  · exact ⟨rfl, rfl⟩
  cases init with
  | nil => exact List.Perm.refl _
  | cons root t =>
    rw [Heap.pop_cons_concat]
    have hc := Heap.siftDownToBottom_conserves le (last :: t) 0 n
    revert hc
    cases Heap.siftDownToBottom le (last :: t) 0 n with
    | ok d' m => exact Heap.perm_root_concat root
    | fail e b m => exact fun hc => ⟨root, rfl, Heap.perm_root_concat root hc⟩
    | panic => exact fun _ => trivial

/-- `quickselect` (`nth_smallest` / `nth_largest` / `median`): the selected element is an element of the
array, the array is only permuted, and a comparator failure leaves a permutation behind -/
theorem quickselect_conserves (cmp : Cmp3 ε α) (arr : List α) (target : Nat) :
    Select.Post arr (Select.quickselect cmp arr target) := by
  unfold Select.quickselect
  split
  · trivial
  · exact Select.selectLoop_post cmp target _ arr 0 _ 0

/-- since the repair 9e13c00 (the pivot is no longer compared with itself): for EVERY comparator —
inconsistent ones included, e.g. one that always answers -1 — and every rank inside the array,
`quickselect` never indexes out of bounds (no `panic` outcome, nor the model's fuel) -/
theorem quickselect_no_panic (cmp : Cmp3 ε α) (arr : List α) (target : Nat) (ht : target < arr.length) :
    Select.quickselect cmp arr target ≠ .panic := by
  intro h
  have := Select.quickselect_sat (cmp := cmp) (c3 := fun _ _ => 0) (O := False) nofun nofun arr target ht
  rw [h] at this
  exact this

/-! ### `TryHeap`: heap property, `n_largest` / `n_smallest`

`Heap.TotalLe r`: `is_le` is total and transitive (a total preorder).  `Heap.HeapInv r d`: every entry of
the array is `is_le` its parent's (index `(i-1)/2`).  `Select.PureSat Q res`: the routine answers `ok`
(no failure, no out-of-bounds panic, fuel suffices) with a payload satisfying `Q`. -/

/-- `push` keeps the heap property (and, by `heap_push_conserves`, the multiset plus the new element) -/
theorem heap_push_preserves {r : α → α → Bool} (le : Cmp ε α) (hp : Pure le r) (ht : Heap.TotalLe r)
    (data : List α) (item : α) (n : Nat) (hd : Heap.HeapInv r data) :
    Select.PureSat (fun d : List α => Heap.HeapInv r d) (Heap.push le data item n) :=
  Heap.push_heap hp ht data item n hd

/-- `pop` on a heap: the empty heap gives `none`; otherwise the returned element together with the rest is
the old multiset, the rest is a heap again, and the returned element is one that no entry exceeds -/
theorem heap_pop_preserves {r : α → α → Bool} (le : Cmp ε α) (hp : Pure le r) (ht : Heap.TotalLe r)
    (data : List α) (n : Nat) (hd : Heap.HeapInv r data) :
    Select.PureSat (Heap.PopSpec r data) (Heap.pop le data n) :=
  Heap.pop_spec hp ht data n hd

/-- **`n_largest` / `n_smallest`** (push everything, pop `n` times): the answer has `min n len` entries,
together with some `rest` it is a permutation of the input, every entry is `is_le`-not-exceeded by the
later entries and by everything in `rest` — i.e. it is the first `n` of the input sorted downwards w.r.t.
`is_le`, up to ties.  (`is_le = cmp ≤ 0` gives the `n` largest in descending order, `is_le = cmp ≥ 0` the
`n` smallest in ascending order.) -/
theorem heap_nlargest_spec {r : α → α → Bool} (le : Cmp ε α) (hp : Pure le r) (ht : Heap.TotalLe r)
    (n : Nat) (xs : List α) :
    Select.PureSat (Heap.NLargestSpec r xs n) (Heap.nLargest le n xs) := by
  unfold Heap.nLargest
  refine Tri.bind (Heap.pushAll_heap hp ht [] xs 0 (Heap.heapInv_nil r)) fun d c hd => ?_
  have hperm : d.Perm xs := by simpa using hd.2
  refine Tri.map (Tri.post (Heap.popN_spec hp ht n d [] c hd.1) fun v _ hv => ?_)
  obtain ⟨qs, q1, q2, q3, q4, q5, _⟩ := hv
  rw [List.reverse_nil, List.nil_append] at q1
  exact ⟨v.2, q1 ▸ q2.trans hperm, by rw [q1, q3, hperm.length_eq], q1 ▸ q4, q1 ▸ q5⟩

/-- the hypotheses are satisfiable (`≤` on the integers), and the statement is not vacuous -/
example : Heap.TotalLe (fun a b : Int => decide (a ≤ b)) :=
  ⟨fun a b => by simp; omega, fun a b c => by simp; omega⟩
example : Heap.nLargest (fun _ (a b : Int) => (.ok (decide (a ≤ b)) : Except String Bool)) 2 [3, 1, 4, 1, 5]
    = .ok [5, 4] 9 := by decide

/-! ### `quickselect` / `nth_smallest` / `nth_largest` / `median`: the rank asked for

`Select.Pure3 cmp c3`: the comparator never fails and computes the three-way result `c3`.
`Select.TotalPre c3`: `c3` is a total preorder — `c3 a b = -1` ("below") iff `c3 b a = 1` ("above"), and
"not above" is transitive; everything else counts as tied.  "`x` has rank `k`" is said by counting: at most
`k` elements are strictly below `x` and more than `k` are not above it, which is exactly "tied with what a
sort of the input puts at index `k`". -/

/-- the model of `quickselect` (the code after `fix:` 9e13c00) answers — no failure, no panic, the fuel
`len + 1` suffices — with an element of the input of rank `k`, for every input and every `k < len` -/
theorem quickselect_spec {c3 : α → α → Int} (cmp : Cmp3 ε α) (hp : Select.Pure3 cmp c3)
    (ht : Select.TotalPre c3) (arr : List α) (k : Nat) (hk : k < arr.length) :
    ∃ x arr' n, Select.quickselect cmp arr k = .ok (x, arr') n ∧ x ∈ arr ∧ arr'.Perm arr ∧
      arr.countP (fun y => decide (c3 y x = -1)) ≤ k ∧ k < arr.countP (fun y => decide (c3 y x ≠ 1)) := by
  have hs := Select.quickselect_sat (O := True) (fun _ => hp) (fun _ => ht) arr k hk
  have hc := quickselect_conserves cmp arr k
  cases hr : Select.quickselect cmp arr k with
  | fail e b m => rw [hr] at hs; exact absurd trivial hs
  | panic => rw [hr] at hs; exact hs.elim
  | ok st m =>
    obtain ⟨x, arr'⟩ := st
    rw [hr] at hs hc
    obtain ⟨s1, s2, s3⟩ := hs trivial
    simp only at s1 s2 s3
    have hperm : arr'.Perm arr := hc.1
    have hk' : k < arr'.length := by rw [hperm.length_eq]; exact hk
    refine ⟨x, arr', m, rfl, hc.2, hperm, ?_, ?_⟩
    · rw [← hperm.countP_eq]
      exact Select.countP_le_of_tail_false _ _ _ fun i a hi hia => by simpa using s3 i a hi hia
    · rw [← hperm.countP_eq]
      exact Select.lt_countP_of_head_true _ _ _ hk' fun i a hi hia => by simpa using s2 i a hi hia

/-- the hypothesis is satisfiable: integer comparison -/
example : Select.TotalPre (fun a b : Int => if a < b then -1 else if b < a then 1 else 0) :=
  Select.int_totalPre

/-- `nth_smallest(i)`: the error value iff `i` is out of range, else the element of rank `i` -/
theorem nth_smallest_spec {c3 : α → α → Int} (cmp : Cmp3 ε α) (hp : Select.Pure3 cmp c3)
    (ht : Select.TotalPre c3) (arr : List α) (i : Nat) :
    (arr.length ≤ i → Select.nthSmallest cmp arr i = none) ∧
    (i < arr.length → ∃ x arr' n, Select.nthSmallest cmp arr i = some (.ok (x, arr') n) ∧ x ∈ arr ∧
      arr.countP (fun y => decide (c3 y x = -1)) ≤ i ∧ i < arr.countP (fun y => decide (c3 y x ≠ 1))) := by
  constructor
  · intro h; simp [Select.nthSmallest, h]
  · intro h
    obtain ⟨x, arr', n, q1, q2, _, q4, q5⟩ := quickselect_spec cmp hp ht arr i h
    exact ⟨x, arr', n, by simp [Select.nthSmallest, Nat.not_le.mpr h, q1], q2, q4, q5⟩

/-- `median`: the element of rank `len / 2` (the error value for an empty sequence) -/
theorem median_spec {c3 : α → α → Int} (cmp : Cmp3 ε α) (hp : Select.Pure3 cmp c3)
    (ht : Select.TotalPre c3) (arr : List α) :
    (arr = [] → Select.median cmp arr = none) ∧
    (arr ≠ [] → ∃ x arr' n, Select.median cmp arr = some (.ok (x, arr') n) ∧ x ∈ arr ∧
      arr.countP (fun y => decide (c3 y x = -1)) ≤ arr.length / 2 ∧
      arr.length / 2 < arr.countP (fun y => decide (c3 y x ≠ 1))) := by
  constructor
  · intro h; subst h; rfl
  · intro h
    have hl : arr.length / 2 < arr.length := by
      have : 0 < arr.length := List.length_pos_iff.mpr h
      omega
    exact (nth_smallest_spec cmp hp ht arr (arr.length / 2)).2 hl

/-- `nth_largest(i)`: counted from the top — at most `i` elements are strictly above the answer and more
than `i` are not below it -/
theorem nth_largest_spec {c3 : α → α → Int} (cmp : Cmp3 ε α) (hp : Select.Pure3 cmp c3)
    (ht : Select.TotalPre c3) (arr : List α) (i : Nat) :
    (arr.length ≤ i → Select.nthLargest cmp arr i = none) ∧
    (i < arr.length → ∃ x arr' n, Select.nthLargest cmp arr i = some (.ok (x, arr') n) ∧ x ∈ arr ∧
      arr.countP (fun y => decide (c3 y x = 1)) ≤ i ∧ i < arr.countP (fun y => decide (c3 y x ≠ -1))) := by
  constructor
  · intro h; simp [Select.nthLargest, h]
  · intro h
    obtain ⟨x, arr', n, q1, q2, _, q4, q5⟩ :=
      quickselect_spec cmp hp ht arr (arr.length - i - 1) (by omega)
    -- counting from the top: what is not above is below or tied, and the other way round
    have h1 := Select.countP_eq_add_countP_ne arr (c3 · x) 1
    have h2 := Select.countP_eq_add_countP_ne arr (c3 · x) (-1)
    exact ⟨x, arr', n, by simp [Select.nthLargest, Nat.not_le.mpr h, q1], q2, by omega, by omega⟩

/-! ## derived eq / hash / cmp and the relational operators

`PureEq f g` etc.: the component function never answers an error value and computes `g`.
`BEquiv g`: `g` is reflexive, symmetric, transitive. -/
section derive
open XrayModel.Derive

variable {β σ : Type}

/-- derived `eq` of sequences (and of stacks: `stackEq` is the same code) is an equivalence if the
element `eq` is -/
theorem derived_eq_equiv_seq {f : β → β → R Bool} {g : β → β → Bool} (hp : PureEq f g) (hg : BEquiv g) :
    PureEq (seqEq f) (seqEqB g) ∧ PureEq (stackEq f) (seqEqB g) ∧ BEquiv (seqEqB g) :=
  ⟨seqEq_pure hp, seqEq_pure hp, seqEqB_equiv hg⟩

/-- derived `eq` of optionals is an equivalence if the payload `eq` is -/
theorem derived_eq_equiv_opt {f : β → β → R Bool} {g : β → β → Bool} (hp : PureEq f g) (hg : BEquiv g) :
    PureEq (optEq f) (optEqB g) ∧ BEquiv (optEqB g) :=
  ⟨optEq_pure hp, optEqB_equiv hg⟩

/-- derived `eq` of tuples (one component relation per position) is an equivalence on the tuples of
that type (lists with as many components as there are positions) -/
theorem derived_eq_equiv_tuple {fs : List (β → β → R Bool)} {gs : List (β → β → Bool)}
    (hp : List.Forall₂ PureEq fs gs) (hg : ∀ g ∈ gs, BEquiv g) :
    (∀ t0 t1, tupleEq fs t0 t1 = .ok (all2s gs t0 t1)) ∧
    (∀ t, all2s gs t t = true) ∧
    (∀ t0 t1, all2s gs t0 t1 = true → all2s gs t1 t0 = true) ∧
    (∀ t0 t1 t2, t1.length = gs.length → all2s gs t0 t1 = true → all2s gs t1 t2 = true →
      all2s gs t0 t2 = true) :=
  ⟨tupleEq_pure hp, (all2s_equiv hg).1, (all2s_equiv hg).2.1, (all2s_equiv hg).2.2⟩

/-- equal sequences (stacks) have equal hashes, whatever the hasher, if equal elements do -/
theorem hash_congr_seq (H : Hasher σ) {f : β → β → R Bool} {g : β → β → Bool} {hf : β → R Int}
    {k : β → Int} (hp : PureEq f g) (hh : PureHash hf k) (hc : ∀ a b, g a b = true → k a = k b)
    (l0 l1 : List β) (he : seqEq f l0 l1 = .ok true) :
    seqHash H hf l0 = seqHash H hf l1 ∧ stackHash H hf l0 = stackHash H hf l1 := by
  rw [seqEq_pure hp l0 l1] at he
  have he' : seqEqB g l0 l1 = true := by simpa using he
  simp only [seqEqB, Bool.and_eq_true, beq_iff_eq] at he'
  have := all2_map_eq hc l0 l1 he'.1 he'.2
  simp only [seqHash, stackHash, map_pure hh, this, and_self]

/-- every derived hash that goes through the hasher lies in `[0, 2^64)` (tuples, sequences, stacks) -/
theorem hash_range_seq (H : Hasher σ) (hfin : ∀ s, H.finish s < U64) (hf : β → R Int) (l : List β)
    (v : Int) (e : seqHash H hf l = .ok v) : 0 ≤ v ∧ v < (2 : Int) ^ 64 := by
  have := hashFold_range H hfin H.init (l.map hf) v e
  simpa [U64] using this

/-- … and tuples -/
theorem hash_range_tuple (H : Hasher σ) (hfin : ∀ s, H.finish s < U64) (fs : List (β → R Int))
    (t : List β) (v : Int) (e : tupleHash H fs t = .ok v) : 0 ≤ v ∧ v < (2 : Int) ^ 64 := by
  have := hashFold_range H hfin H.init _ v e
  simpa [U64] using this

/-- optionals: `hash(none) = 0`, `hash(some(x)) = hash(x)`; congruent with the derived `eq` -/
theorem hash_congr_opt {f : β → β → R Bool} {g : β → β → Bool} {hf : β → R Int} {k : β → Int}
    (hp : PureEq f g) (hh : PureHash hf k) (hc : ∀ a b, g a b = true → k a = k b)
    (o0 o1 : Option β) (he : optEq f o0 o1 = .ok true) : optHash hf o0 = optHash hf o1 := by
  rw [optEq_pure hp o0 o1] at he
  match o0, o1, Except.ok.inj he with
  | none, none, _ => rfl
  | some a, some b, h => simp only [optHash, hh a, hh b, hc a b h]
  | none, some _, h => cases h
  | some _, none, h => cases h

/- set / mapping `hash` congruence (equal sets hash equally, range) is proved in `Props/C17.lean`
(`set_hash_congr` and the mapping analogue) on C17's bucket model; not restated here. -/

/-- derived `cmp` of sequences is lexicographic over the elements (a proper prefix comes first), is
zero exactly on `eq`-equal sequences, is sign-antisymmetric and transitive: a total order consistent
with `eq` — provided the element `cmp` is one (`Cmp3Ord`) -/
theorem cmp_total_lex {f : β → β → R Int} {c : β → β → Int} {g : β → β → Bool}
    (hp : PureCmp f c) (hc : Cmp3Ord c g) :
    PureCmp (seqCmp f) (seqCmpI c) ∧
    (∀ a b l0 l1, seqCmpI c (a :: l0) (b :: l1) = if c a b ≠ 0 then c a b else seqCmpI c l0 l1) ∧
    seqCmpI c [] [] = 0 ∧ (∀ b l, seqCmpI c [] (b :: l) = -1) ∧ (∀ a l, seqCmpI c (a :: l) [] = 1) ∧
    (∀ l0 l1, seqCmpI c l0 l1 = 0 ↔ seqEqB g l0 l1 = true) ∧
    (∀ l0 l1, seqCmpI c l0 l1 < 0 ↔ seqCmpI c l1 l0 > 0) ∧
    (∀ l0 l1 l2, seqCmpI c l0 l1 < 0 → seqCmpI c l1 l2 < 0 → seqCmpI c l0 l2 < 0) :=
  ⟨seqCmp_pure hp, seqCmpI_cons c, seqCmpI_nil_nil c, seqCmpI_nil_cons c, seqCmpI_cons_nil c,
   seqCmpI_zero_iff hc, seqCmpI_anti hc, seqCmpI_trans hc⟩

/-- `Cmp3Ord` is satisfiable: `int`'s `cmp` -/
example : Cmp3Ord (fun a b : Int => Derive.sign (a - b)) (fun a b => a == b) := int_cmp3ord

/-- `ne / lt / le / gt / ge / min / max` agree with `eq` and `cmp` -/
theorem rel_ops_agree {fe : β → β → R Bool} {g : β → β → Bool} {fc : β → β → R Int} {c : β → β → Int}
    (he : PureEq fe g) (hp : PureCmp fc c) (hc : Cmp3Ord c g) (a b : β) :
    Derive.ne fe a b = .ok (!g a b) ∧
    Derive.lt fc a b = .ok (decide (c a b < 0)) ∧
    Derive.gt fc a b = .ok (decide (c b a < 0)) ∧
    Derive.le fc a b = .ok (decide (c a b < 0) || g a b) ∧
    Derive.ge fc a b = .ok (decide (c b a < 0) || g a b) ∧
    Derive.max (Derive.lt fc) a b = .ok (if c a b < 0 then b else a) ∧
    Derive.min (Derive.lt fc) a b = .ok (if c b a < 0 then b else a) := by
  have h1 := hc.anti a b
  have h2 := hc.anti b a
  have hg : g a b = decide (c a b = 0) := Bool.eq_iff_iff.mpr (by simp [hc.zero_iff])
  have hlt := lt_pure hp
  refine ⟨ne_pure he a b, hlt a b, ?_, ?_, ?_, ?_, ?_⟩
  · rw [gt_pure hp, decide_eq_decide.mpr h2.symm]
  · rw [le_pure hp, hg]
    exact congrArg _ (Bool.eq_iff_iff.mpr (by simp; omega))
  · rw [ge_pure hp, hg]
    exact congrArg _ (Bool.eq_iff_iff.mpr (by simp; omega))
  · simp [max_pure hlt]
  · simp [min_pure hlt]

/-- the derived operators look at nothing but the SIGN of the component `cmp`: two comparison functions
with the same sign everywhere (e.g. a user's `a::x - b::x` and its normalisation to -1/0/1) give the same
`lt / le / gt / ge / min / max`, and sequence comparisons of the same sign.  (`Cmp3Ord`, `cmp_total_lex`
and `rel_ops_agree` are stated with `< 0`, `= 0`, `> 0` throughout — for arbitrary integer results.) -/
theorem derived_depend_on_sign_only {fc fc' : β → β → R Int} {c c' : β → β → Int}
    (hp : PureCmp fc c) (hp' : PureCmp fc' c')
    (hs : ∀ a b, Derive.sign (c a b) = Derive.sign (c' a b)) (a b : β) :
    Derive.lt fc a b = Derive.lt fc' a b ∧ Derive.le fc a b = Derive.le fc' a b ∧
    Derive.gt fc a b = Derive.gt fc' a b ∧ Derive.ge fc a b = Derive.ge fc' a b ∧
    Derive.max (Derive.lt fc) a b = Derive.max (Derive.lt fc') a b ∧
    Derive.min (Derive.lt fc) a b = Derive.min (Derive.lt fc') a b ∧
    ∀ l0 l1, Derive.sign (seqCmpI c l0 l1) = Derive.sign (seqCmpI c' l0 l1) := by
  have h1 := sign_eq_iff (hs a b)
  have e1 : decide (c a b < 0) = decide (c' a b < 0) := decide_eq_decide.mpr h1.1
  have e2 : decide (c a b > 0) = decide (c' a b > 0) := decide_eq_decide.mpr h1.2.2
  have e3 : decide (c b a < 0) = decide (c' b a < 0) := decide_eq_decide.mpr (sign_eq_iff (hs b a)).1
  have hlt := lt_pure hp
  have hlt' := lt_pure hp'
  refine ⟨?_, ?_, ?_, ?_, ?_, ?_, seqCmpI_sign_congr hs⟩
  · rw [hlt, hlt', e1]
  · rw [le_pure hp, le_pure hp', e2]
  · rw [gt_pure hp, gt_pure hp', e2]
  · rw [ge_pure hp, ge_pure hp', e1]
  · rw [max_pure hlt, max_pure hlt', e1]
  · rw [min_pure hlt, min_pure hlt', e3]

/-- `Cmp3Ord` does not ask for results in {-1, 0, 1}: the user-style `(a - b) * 7` is an instance -/
example : Cmp3Ord (fun a b : Int => (a - b) * 7) (fun a b => a == b) := scaled_int_cmp3ord

/-- coherence is inherited from the leaves: for ANY leaf `eq` / `cmp` with `eq a b → cmp a b = 0` (the
tie checks exactly this on the sampled leaves, e.g. `-0.0` and `0.0`, equal ints of different
representation), `eq`-equal sequences compare as 0 and so are neither `<` nor `>`, but `<=` and `>=` -/
theorem derived_coherent_of_leaf {fe : β → β → R Bool} {g : β → β → Bool} {fc : β → β → R Int}
    {c : β → β → Int} (he : PureEq fe g) (hp : PureCmp fc c) (hleaf : ∀ a b, g a b = true → c a b = 0)
    (l0 l1 : List β) (heq : seqEq fe l0 l1 = .ok true) :
    seqCmp fc l0 l1 = .ok 0 ∧
    Derive.lt (seqCmp fc) l0 l1 = .ok false ∧ Derive.le (seqCmp fc) l0 l1 = .ok true ∧
    Derive.gt (seqCmp fc) l0 l1 = .ok false ∧ Derive.ge (seqCmp fc) l0 l1 = .ok true := by
  rw [seqEq_pure he l0 l1] at heq
  have h0 := seqCmpI_zero_of_eq hleaf l0 l1 (Except.ok.inj heq)
  have hs := seqCmp_pure hp
  exact ⟨by rw [hs, h0], by rw [lt_pure hs, h0]; rfl, by rw [le_pure hs, h0]; rfl,
    by rw [gt_pure hs, h0]; rfl, by rw [ge_pure hs, h0]; rfl⟩

end derive

/-! ## format specifiers -/
section format
open XrayModel.Format

/-- `format(x, "") == to_str(x)` for ints (sign, then the decimal magnitude) and strs -/
theorem format_empty_is_to_str (i : Int) (s : List Char) :
    formatInt i [] = .ok ((if i < 0 then ['-'] else []) ++ magnitudeToStr 10 i.natAbs) ∧
    formatStr s [] = .ok s := by
  have hp : parseSpec [] = some ⟨none, none, none, none, none, false⟩ := by decide
  constructor
  · simp only [formatInt, hp]
    by_cases h : i < 0 <;> simp [h, signPart, group]
  · simp [formatStr, hp]

/-- the specifier grammar is the documented one
`[[fill]align][sign][#][0][width][grouping][.precision][mode]`: the test-suite's and the book's
examples parse into the documented fields (checked by evaluation of the parser) -/
theorem format_spec_grammar :
    -- fields: fill specs ⟨fill, align, zero-padded, width⟩, precision, sign, grouping, mode, alternate
    parseSpec "!<#6x".toList = some ⟨some ⟨some '!', some '<', false, 6⟩, none, none, none, some 'x', true⟩ ∧
    parseSpec "+015,.3e".toList = some ⟨some ⟨none, none, true, 15⟩, some 3, some '+', some ',', some 'e', false⟩ ∧
    parseSpec "<<".toList = some ⟨none, none, none, none, none, false⟩ ∧
    parseSpec "0".toList = some ⟨none, none, none, none, none, false⟩ ∧
    parseSpec "5x7".toList = none := by decide

/-- width, fill character and alignment, exactly as documented: the pads have total length
`width - len` (nothing is truncated), consist of the fill character (default space, `0` when
zero-padded), and sit right (`<`), left (`>`, the default), between sign and digits (`=`, the default
when zero-padded) or on both sides with the extra one on the right (`^`) -/
theorem format_spec_fill (f : FillSpecs) (len : Nat) :
    let ch := f.filler.getD (if f.zeroPad then '0' else ' ')
    let al := f.alignment.getD (if f.zeroPad then '=' else '>')
    let p := fillers f len
    p.1.length + p.2.1.length + p.2.2.length = f.width - len ∧
    (∀ c ∈ p.1 ++ p.2.1 ++ p.2.2, c = ch) ∧
    (al = '<' → p.1 = [] ∧ p.2.1 = []) ∧
    (al = '>' → p.2.1 = [] ∧ p.2.2 = []) ∧
    (al = '=' → p.1 = [] ∧ p.2.2 = []) ∧
    (al = '^' → p.2.1 = [] ∧ p.1.length = (f.width - len) / 2 ∧
      p.2.2.length = (f.width - len) - (f.width - len) / 2) :=
  fillers_spec f len

/-- sign: `-` for negatives always; for the others `+` shows a plus, a space shows a space, `-` or
nothing shows nothing -/
theorem format_spec_sign (sp : Spec) :
    signPart sp true = ['-'] ∧
    (sp.sign = some '+' → signPart sp false = ['+']) ∧
    (sp.sign = some ' ' → signPart sp false = [' ']) ∧
    (sp.sign = some '-' ∨ sp.sign = none → signPart sp false = []) := by
  refine ⟨rfl, ?_, ?_, ?_⟩
  · intro h; simp [signPart, h]
  · intro h; simp [signPart, h]
  · rintro (h | h) <;> simp [signPart, h]

/-- grouping only inserts the separator (deleting it gives the digits back), one after every three
digits counted from the right -/
theorem format_spec_group (sp : Spec) (g : Char) (hg : sp.grouping = some g) (ds : List Char)
    (hd : ∀ c ∈ ds, c ≠ g) :
    (group sp ds).filter (· != g) = ds ∧ (group sp ds).length = ds.length + (ds.length - 1) / 3 := by
  simp only [group, hg]
  constructor
  · rw [List.filter_reverse, groupRev_filter g ds.reverse (by simpa using hd), List.reverse_reverse]
  · simp [groupRev_length]

/-- the int pipeline puts the pieces together as documented: prefix pad, sign (+ `0`mode in the
alternate form), infix pad, grouped digits, postfix pad -/
theorem format_spec_int (i : Int) (spec : List Char) (sp : Spec) (f : FillSpecs) (radix : Nat)
    (hp : parseSpec spec = some sp) (hprec : sp.precision = none) (hfill : sp.fill = some f)
    (halt : sp.alt = false)
    (hmode : (sp.mode = none ∧ radix = 10) ∨ (sp.mode = some 'x' ∧ radix = 16) ∨
           (sp.mode = some 'o' ∧ radix = 8) ∨ (sp.mode = some 'b' ∧ radix = 2)) :
    let body := group sp (magnitudeToStr radix i.natAbs)
    let sg := signPart sp (decide (i < 0))
    let p := fillers f (body.length + sg.length)
    formatInt i spec = .ok (p.1 ++ sg ++ p.2.1 ++ body ++ p.2.2) := by
  intro body sg p
  simp only [formatInt, hp, hprec, Option.isSome_none, Bool.false_eq_true, ite_false, halt, hfill]
  rcases hmode with ⟨h, rfl⟩ | ⟨h, rfl⟩ | ⟨h, rfl⟩ | ⟨h, rfl⟩ <;> simp only [h] <;> rfl

/-- the str pipeline: no sign / grouping / mode / precision; pads around the text — and never the
`assert!(infix.is_empty())` panic (that needed the `fix:` 86cb0e6 for `"05"`) -/
theorem format_spec_str (s spec : List Char) :
    formatStr s spec ≠ .panic ∧
    ∀ sp f, parseSpec spec = some sp → sp.fill = some f → ∀ out, formatStr s spec = .ok out →
      out = (fillers f s.length).1 ++ s ++ (fillers f s.length).2.2 := by
  rcases formatStr_cases s spec with ⟨msg, e⟩ | ⟨sp', hp', e⟩
  · exact ⟨by rw [e]; nofun, fun sp f _ _ out hout => by rw [e] at hout; cases hout⟩
  · refine ⟨by rw [e]; nofun, fun sp f hp hf out hout => ?_⟩
    obtain rfl : sp' = sp := Option.some.inj (hp'.symm.trans hp)
    rw [e, hf] at hout
    cases hout; rfl

end format

end XrayModel.C19
