/-
C13 — Floats are always finite.
Lean's `Float` is opaque to the kernel; the theorems are about the *discipline*: every construction of a float value
goes through a site of the table regenerated from /repo/src on every run (`Generated.FloatSites`), and every site is
either the checked constructor or closed under finiteness.  `FloatDom.Laws` (negation keeps finiteness, serde_json
numbers are finite) are parameters — they are listed in the trusted base and sampled by the tie.
-/
import XrayProofs.FloatSites
import Generated.FloatSites
namespace XrayModel.C13
open XrayModel.FloatSites Generated.FloatSites

/-- no expression of the crate builds an `XValue::Float` outside the checked constructor or a closed form, and
    float literals go through the checked constructor.  Stops elaborating as soon as the translator finds another one. -/
theorem sites_ok : sitesOk sites = true := by decide

/-- the checked constructor: a value only for finite floats, otherwise an error value -/
theorem mk_spec (D : FloatDom) (x : D.F) :
    (D.isFin x = true → mk D x = .flt x) ∧ (D.isFin x = false → mk D x = .err) := by
  unfold mk
  constructor <;> intro h <;> simp [h]

/-- every float in every value the evaluator produces is finite: for every float domain satisfying the two closure
    laws, every table without an unguarded site and every program of the model — whatever raw floats (infinite, NaN)
    native code computes on the way -/
theorem floats_finite (D : FloatDom) (hD : D.Laws) (T : List FSite) (hT : sitesOk T = true) :
    ∀ e : FExpr D, AllFin D (eval D T e) := by
  intro e
  induction e with
  | ext s x => exact construct_allFin D hT s none x (by simp)
  | json s n => exact construct_allFin D hT s _ _ (fun _ => hD.json_fin n)
  | un s op a ih =>
    unfold eval
    cases ha : eval D T a with
    | flt x =>
      rw [ha] at ih
      have hx : D.isFin x = true := ih
      simp only
      cases hy : apply1 op x with
      | none => trivial
      | some y =>
        simp only
        refine construct_allFin D hT s (hypOf op) y ?_
        intro hne
        cases op with
        | fn1 g => simp [hypOf] at hne
        | fn2 g => simp [hypOf] at hne
        | neg => simp only [apply1, Option.some.injEq] at hy; rw [← hy]; exact hD.neg_fin x hx
        | ident => simp only [apply1, Option.some.injEq] at hy; rw [← hy]; exact hx
    | _ => trivial
  | bin s op a b iha ihb =>
    unfold eval
    -- only two floats are computed on; every other pair of arguments answers `err` or `stuck`
    cases eval D T a with
    | flt x =>
      cases eval D T b with
      | flt y =>
        dsimp only
        cases apply2 op x y with
        | none => trivial
        | some z => exact construct_allFin D hT s none z (by simp)
      | _ => trivial
    | _ => trivial
  | pair a b iha ihb => exact ⟨iha, ihb⟩
  | fst a ih =>
    unfold eval
    cases ha : eval D T a with
    | pair x y => rw [ha] at ih; exact ih.1
    | _ => trivial
  | snd a ih =>
    unfold eval
    cases ha : eval D T a with
    | pair x y => rw [ha] at ih; exact ih.2
    | _ => trivial
  | nonfloat => trivial

/-- the statement for the table extracted from the current sources -/
theorem xray_floats_finite (D : FloatDom) (hD : D.Laws) (e : FExpr D) : AllFin D (eval D sites e) :=
  floats_finite D hD sites sites_ok e

/-- the hypothesis on the table is needed: one unguarded site is enough to let a non-finite float become a value -/
theorem unguarded_site_leaks (D : FloatDom) (T : List FSite) (s : Nat) (site : FSite)
    (hs : T[s]? = some site) (htag : site.tag = .unguarded) (x : D.F) (hx : D.isFin x = false) :
    ¬ AllFin D (eval D T (.ext s x)) := by
  simp [eval, construct, hs, htag, AllFin, hx]

/- the laws are satisfiable (a two-point domain: `true` = finite, `false` = not), and on it the checked constructor
   really rejects: the hypotheses of `floats_finite` are not vacuous -/
example : ∃ D : FloatDom, D.Laws ∧ ∃ x : D.F, mk D x = .err :=
  ⟨⟨Bool, Unit, id, id, fun _ => true⟩, ⟨fun _ h => h, fun _ => rfl⟩, false, rfl⟩

end XrayModel.C13
