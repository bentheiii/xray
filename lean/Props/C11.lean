/-
C11 — Side effects happen only with permission.
`Generated.Permissions` is regenerated from /repo/src on every run, so the two theorems
proved by evaluation are re-checked against what the code says now; the others hold for *every* site table that passes
`sitesGuarded`, every permission set, every program of the model and every amount of fuel.
-/
import XrayProofs.Perm
import Generated.Permissions
namespace XrayModel.C11
open XrayModel.Perm Generated.Permissions

/-- the six permissions with the documented defaults: regex and sleep off, the others on
    (book/src/interop/permissions.md), read off the constants of `builtin_permissions.rs` -/
theorem defaults_documented :
    permissions.map (fun cp => (cp.1, cp.2.id, cp.2.default)) =
      [("NOW", "now", true), ("PRINT", "print", true), ("PRINT_DEBUG", "print_debug", true),
       ("RANDOM", "random", true), ("REGEX", "regex", false), ("SLEEP", "sleep", false)] :=
  rfl

/-- a permission that was never configured answers with its own default -/
theorem get_unconfigured (p : Permission) : PermissionSet.get [] p = p.default := rfl

/-- `allow` / `forbid` decide the permission they name … -/
theorem get_allow_forbid (P : PermissionSet) (p : Permission) :
    (P.allow p).get p = true ∧ (P.forbid p).get p = false := by
  simp [PermissionSet.allow, PermissionSet.forbid, PermissionSet.get]

/-- … and no other one (all 64 assignments of the six permissions are independent) -/
theorem get_other (P : PermissionSet) (p q : Permission) (h : q.id ≠ p.id) :
    (P.allow p).get q = P.get q ∧ (P.forbid p).get q = P.get q := by
  have : (q.id == p.id) = false := by simpa using h
  simp [PermissionSet.allow, PermissionSet.forbid, PermissionSet.get, List.lookup, this]

/-- every effect token found in the crate sits in a closure that first asks for a permission covering it
    (and, for the documented builtins, for exactly the documented one).  Fails to elaborate as soon as the
    translator finds an effect without such a guard. -/
theorem sites_guarded : sitesGuarded sites = true := by decide

/-- an effect of channel `k` at site `s` occurs in the trace only if a guard of that very site, for a permission
    that covers `k`, was passed — whatever the path to the site (wrappers, closures, callbacks, lazy elements,
    defaults are all `Expr` constructors) -/
theorem effect_needs_permission (T : List Site) (hT : sitesGuarded T = true) (P : PermissionSet)
    (fuel : Nat) (e : Expr) (l : Log) (s : Nat) (k : Kind)
    (h : Entry.effect s k ∈ (eval T P fuel e l).2) (hnew : Entry.effect s k ∉ l) :
    ∃ site p, T[s]? = some site ∧ p ∈ checksOf site.steps ∧ okPerm site.name p k = true ∧ P.get p = true := by
  obtain ⟨n, hn, hok, _⟩ := eval_inv hT P fuel e l
  rw [hn] at h
  rcases List.mem_append.mp h with h | h
  · exact absurd h hnew
  · exact hok _ h

/-- reaching the guard of a denied permission ends the evaluation in the violation naming that permission, and the
    failed guard is the last thing that happens (no effect, no further guard) -/
theorem denied_is_violation (T : List Site) (hT : sitesGuarded T = true) (P : PermissionSet)
    (fuel : Nat) (e : Expr) (s : Nat) (p : Permission) (b : Bool)
    (hden : P.get p = false) (hreach : Entry.guard s p b ∈ (eval T P fuel e []).2) :
    (eval T P fuel e []).1 = .viol p.id ∧
    (eval T P fuel e []).2.getLast? = some (Entry.guard s p false) := by
  obtain ⟨n, hn, hok, hsh⟩ := eval_inv hT P fuel e []
  rw [hn] at hreach ⊢
  simp only [List.nil_append] at hreach ⊢
  have hb : b = false := (hok _ hreach).trans hden
  subst hb
  rcases hsh with ⟨hc, _⟩ | ⟨pre, s', p', hpre, hcp, hr⟩
  · exact absurd (hc _ hreach) (by simp [isFail])
  · subst hpre
    rcases List.mem_append.mp hreach with h | h
    · exact absurd (hcp _ h) (by simp [isFail])
    · simp only [List.mem_singleton, Entry.guard.injEq] at h
      obtain ⟨rfl, rfl, _⟩ := h
      exact ⟨hr, by simp⟩

/-- with every permission that covers channel `k` switched off, the channel's double is never touched -/
theorem denied_is_silent (T : List Site) (hT : sitesGuarded T = true) (P : PermissionSet)
    (fuel : Nat) (e : Expr) (k : Kind)
    (hden : ∀ p : Permission, admits p.id k = true → P.get p = false) :
    countKind k (eval T P fuel e []).2 = 0 := by
  unfold countKind
  rw [List.length_eq_zero_iff, List.filter_eq_nil_iff]
  intro x hx
  cases x with
  | guard s p b => simp
  | effect s k' =>
    by_cases hk : k' = k
    · subst hk
      obtain ⟨site, p, _, _, hok, hget⟩ := effect_needs_permission T hT P fuel e [] s k' hx (by simp)
      have hadm : admits p.id k' = true := by
        unfold okPerm at hok
        exact (Bool.and_eq_true _ _ ▸ hok).1
      rw [hden p hadm] at hget
      cases hget
    · simpa using hk

/-- a violation is never produced by anything but a failed guard -/
theorem violation_only_from_guard (T : List Site) (hT : sitesGuarded T = true) (P : PermissionSet)
    (fuel : Nat) (e : Expr) (id : String) (h : (eval T P fuel e []).1 = .viol id) :
    ∃ s p, p.id = id ∧ P.get p = false ∧ (eval T P fuel e []).2.getLast? = some (Entry.guard s p false) := by
  obtain ⟨n, hn, hok, hsh⟩ := eval_inv hT P fuel e []
  rcases hsh with ⟨_, hv⟩ | ⟨pre, s, p, hpre, _, hr⟩
  · rw [h] at hv; cases hv
  · rw [h] at hr
    injection hr with hid
    refine ⟨s, p, hid.symm, ?_, ?_⟩
    · exact (hok (.guard s p false) (by rw [hpre]; simp)).symm
    · rw [hn, hpre]; simp

/-- the fuel is only a device: with at least `e.depth` units the evaluator finishes on every program whose site indices
    are rows of the table (so the statements above, which hold for every amount of fuel, are statements about the
    finished run) -/
theorem fuel_suffices (T : List Site) (P : PermissionSet) (e : Expr) (l : Log) (hs : e.sitesIn T.length = true)
    (fuel : Nat) (hf : e.depth ≤ fuel) : (eval T P fuel e l).1 ≠ .stuck := by
  induction fuel generalizing e l with
  | zero => exact absurd (Nat.le_trans e.one_le_depth hf) (by decide)
  | succ f ih =>
    have ihs {es : List Expr} (hd : depthList es ≤ f) (hs : sitesInList T.length es = true) : FinOn (eval T P f) es :=
      fun a ha l' => ih a l' (sitesIn_mem hs ha) (Nat.le_trans (depth_mem ha) hd)
    -- for a compound expression `hf` reads `1 + d ≤ f + 1`, `d` the depth of its deepest part
    have below {d : Nat} (h : 1 + d ≤ f + 1) : d ≤ f := by omega
    cases e with
    | lit => exact Res.noConfusion
    | bad => exact Res.noConfusion
    | nat s args =>
      obtain ⟨hlt, hs⟩ := Bool.and_eq_true_iff.mp hs
      unfold eval
      dsimp only
      rw [List.getElem?_eq_getElem (of_decide_eq_true hlt)]
      exact runSteps_fin P s args (ihs (below hf) hs) _ l
    | seq a b =>
      obtain ⟨hsa, hsb⟩ := Bool.and_eq_true_iff.mp hs
      have hd := below hf
      rw [eval_seq]
      exact andThen_fin (ih a l hsa (Nat.le_trans (Nat.le_max_left ..) hd))
        fun l' => ih b l' hsb (Nat.le_trans (Nat.le_max_right ..) hd)
    | wrap args body =>
      obtain ⟨hsa, hsb⟩ := Bool.and_eq_true_iff.mp hs
      have hd := below hf
      rw [eval_wrap]
      exact andThen_fin (evalAll_fin args (ihs (Nat.le_trans (Nat.le_max_left ..) hd) hsa) l)
        fun l' => ih body l' hsb (Nat.le_trans (Nat.le_max_right ..) hd)
    | thunk body n => exact repeatN_fin body (fun l' => ih body l' hs (below hf)) n l

/-- the statement for the table extracted from the current sources -/
theorem xray_effect_needs_permission (P : PermissionSet) (fuel : Nat) (e : Expr) (s : Nat) (k : Kind)
    (h : Entry.effect s k ∈ (eval sites P fuel e []).2) :
    ∃ site p, sites[s]? = some site ∧ p ∈ checksOf site.steps ∧ okPerm site.name p k = true ∧ P.get p = true :=
  effect_needs_permission sites sites_guarded P fuel e [] s k h (by simp)

/- the hypotheses are satisfiable and the conclusions not vacuous: `display` under a forbidden PRINT, reached
   through a wrapper inside a callback, is a violation naming "print" with an empty effect trace … -/
example :
    let d := sites.findIdx (fun s => s.name == "display")
    eval sites (PermissionSet.forbid [] PRINT) 10 (.thunk (.wrap [.lit] (.nat d [.lit])) 3) [] =
      (.viol "print", [Entry.guard d PRINT false]) := by decide

/- … and with the default permissions the same program writes (three calls; how many writer tokens a call has is
   a matter of how the source spells the write — two `stdout` uses, or one call of a helper — so only "it writes,
   and each of the three calls writes equally often" is stated) -/
example :
    let d := sites.findIdx (fun s => s.name == "display")
    let n := countKind .writer (eval sites [] 10 (.thunk (.wrap [.lit] (.nat d [.lit])) 3) []).2
    0 < n ∧ n % 3 = 0 := by decide

end XrayModel.C11
