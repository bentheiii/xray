/-
C15 — Sequences behave as lists whatever their representation.
Property theorems only; the model is XrayModel/Seq.lean, the invariant `Rep.wf`, the denotation `den`
(a finite or infinite list given by its length and element function, defined from the structure of the
representation alone) and the helper lemmas are in XrayProofs/Seq.lean.
-/
import XrayProofs.Seq
namespace XrayModel.C15
open XrayModel.Seq

/-! ### index normalisation (sequence.rs `value_to_idx`) -/

/-- On a finite sequence of length `n` an index `0 ≤ i < n` is itself, `-n ≤ i < 0` counts from the end, and
everything else is an error VALUE (never a panic), whatever the magnitude of `i`. -/
theorem idx_norm_finite (n : Nat) (i : Int) (hn : n < USIZE) :
    valueToIdx (.fin n) i =
      if 0 ≤ i ∧ i < n then .ok i.toNat
      else if -(n : Int) ≤ i ∧ i < 0 then .ok (i + n).toNat
      else if i < -(n : Int) then .err "index too low"
      else .err "index out of bounds" := by
  split
  next h => exact valueToIdx_nonneg hn h.1 h.2
  split
  next h => exact valueToIdx_neg hn h.1 h.2
  split
  next h => exact valueToIdx_low h
  exact valueToIdx_high (by omega)

/-- On an infinite sequence the indices `0 ≤ i < 2^64` are themselves, the others are error values. -/
theorem idx_norm_infinite (i : Int) :
    valueToIdx .inf i =
      if 0 ≤ i ∧ i < USIZE then .ok i.toNat
      else if i < 0 then .err "cannot get negative index of infinite sequence"
      else .err "index out of bounds" := by
  simp only [valueToIdx]
  by_cases h0 : i < 0
  · have e : ¬ (0 ≤ i ∧ i < USIZE) := by omega
    simp only [h0, e, if_true, if_false]
  · by_cases h1 : i < USIZE
    · have e1 : 0 ≤ i ∧ i < USIZE := ⟨by omega, h1⟩
      have e2 : i.toNat < USIZE := by omega
      simp only [h0, e1, e2, and_self, if_true, if_false]
    · have e1 : ¬ (0 ≤ i ∧ i < USIZE) := by omega
      have e2 : ¬ i.toNat < USIZE := by omega
      simp only [h0, e1, e2, if_false]

/-- the seven boundary indices of a non-empty finite sequence -/
theorem idx_norm_boundaries (n : Nat) (hn : n < USIZE) (hpos : 0 < n) :
    valueToIdx (.fin n) (-(n : Int) - 1) = .err "index too low" ∧
    valueToIdx (.fin n) (-(n : Int)) = .ok 0 ∧
    valueToIdx (.fin n) (-1) = .ok (n - 1) ∧
    valueToIdx (.fin n) 0 = .ok 0 ∧
    valueToIdx (.fin n) ((n : Int) - 1) = .ok (n - 1) ∧
    valueToIdx (.fin n) (n : Int) = .err "index out of bounds" ∧
    valueToIdx (.fin n) ((n : Int) + 1) = .err "index out of bounds" := by
  refine ⟨valueToIdx_low (by omega), ?_, ?_, valueToIdx_nonneg hn (Int.le_refl 0) (by omega), ?_,
    valueToIdx_high (Int.le_refl _), valueToIdx_high (by omega)⟩
  · rw [valueToIdx_neg hn (Int.le_refl _) (by omega)]; congr 1; omega
  · rw [valueToIdx_neg hn (by omega) (by omega)]; congr 1; omega
  · rw [valueToIdx_nonneg hn (by omega) (by omega)]; congr 1; omega

example : valueToIdx (.fin 3) (-4) = .err "index too low" ∧ valueToIdx (.fin 3) (-3) = .ok 0 ∧
    valueToIdx (.fin 3) 3 = .err "index out of bounds" := ⟨rfl, rfl, rfl⟩

/-! ### ranges -/

/-- `range(start, end, step)` as built by the guards of sequence.rs:1141-1177 is well formed, has the length of
the arithmetic progression `start, start+step, …` strictly before `end` (for every i64 triple: the length
computation cannot overflow and the result fits `usize`), and its `i`-th element is `start + i*step`. -/
theorem range_len_get (s e st : Int) (hs : inI64 s = true) (he : inI64 e = true) (hst : inI64 st = true) :
    (st = 0 → rangeB [s, e, st] = .err "invalid range, step size cannot be zero") ∧
    (0 < st → e ≤ s → rangeB [s, e, st] = .seq .empty) ∧
    (st < 0 → s ≤ e → rangeB [s, e, st] = .seq .empty) ∧
    (0 < st → s < e → rangeB [s, e, st] = .seq (.range s e st) ∧ (Rep.range s e st).wf ∧
      ∃ n, (Rep.range s e st).len = .fin n ∧ n < USIZE ∧ 0 < n ∧
        (∀ i : Nat, i < n → s + i * st < e) ∧ e ≤ s + n * st ∧
        ∀ i : Nat, (Rep.range s e st).get i = .ok (.int (s + i * st))) ∧
    (st < 0 → e < s → rangeB [s, e, st] = .seq (.range s e st) ∧ (Rep.range s e st).wf ∧
      ∃ n, (Rep.range s e st).len = .fin n ∧ n < USIZE ∧ 0 < n ∧
        (∀ i : Nat, i < n → e < s + i * st) ∧ s + n * st ≤ e ∧
        ∀ i : Nat, (Rep.range s e st).get i = .ok (.int (s + i * st))) := by
  have bs : -9223372036854775808 ≤ s ∧ s < 9223372036854775808 := by simpa [inI64] using hs
  have be : -9223372036854775808 ≤ e ∧ e < 9223372036854775808 := by simpa [inI64] using he
  rw [rangeB_three s e st hs he hst]
  refine ⟨fun h => if_pos h, fun h1 h2 => ?_, fun h1 h2 => ?_, fun h1 h2 => ?_, fun h1 h2 => ?_⟩
  · rw [if_neg (by omega), if_pos (.inl ⟨h1, h2⟩)]
  · rw [if_neg (by omega), if_pos (.inr ⟨h1, h2⟩)]
  · -- at most `e - s < 2^64` elements
    obtain ⟨n, hn, hpos, hlt, hge, hb⟩ := rangeLen_pos s e st h1 h2
    refine ⟨by rw [if_neg (by omega), if_neg (by omega)], ?_, n, hn, by unfold USIZE; omega, hpos, hlt, hge,
      fun i => rfl⟩
    simp only [Rep.wf]; exact ⟨hs, he, hst, .inl ⟨h1, h2⟩⟩
  · obtain ⟨n, hn, hpos, hlt, hge, hb⟩ := rangeLen_neg s e st h1 h2
    refine ⟨by rw [if_neg (by omega), if_neg (by omega)], ?_, n, hn, by unfold USIZE; omega, hpos, hlt, hge,
      fun i => rfl⟩
    simp only [Rep.wf]; exact ⟨hs, he, hst, .inr ⟨h1, h2⟩⟩

/-- the extreme ranges: 2^64-1 elements, and a step of -2^63 -/
example : (Rep.range (-9223372036854775808) 9223372036854775807 1).len = .fin 18446744073709551615 ∧
    (Rep.range 10 0 (-9223372036854775808)).len = .fin 1 := ⟨rfl, rfl⟩

/-- arguments outside the 64-bit range are error values -/
theorem range_out_of_bounds (s e st : Int) :
    (inI64 s = false → rangeB [s, e, st] = .err "start out of bounds") ∧
    (inI64 s = true → inI64 e = false → rangeB [s, e, st] = .err "end out of bounds") ∧
    (inI64 s = true → inI64 e = true → inI64 st = false → rangeB [s, e, st] = .err "step out of bounds") := by
  refine ⟨?_, ?_, ?_⟩ <;> intros <;> simp_all [rangeB]

/-! ### every representation denotes a list: `len` and `get` agree with the denotation -/

/-- The length computed by the implementation (`Zip`: minimum over the finite members; `Chain`: last part plus
last midpoint; `Slice`: `end - start`) is the length of the denoted list, and is never a panic. -/
theorem len_agrees (r : Rep) (h : r.wf) : r.len = toLen (den r).len := len_den r h

/-- Indexing through the representation (midpoint search in a chain, shifted index in a slice, tuple building in
a zip, closure application in a map) yields the element of the denoted list, for every valid index. -/
theorem get_agrees (r : Rep) (h : r.wf) (i : Nat) (hi : (den r).valid i) : r.get i = (den r).el i :=
  get_den r h i hi

/-- a chain whose last part is infinite, and a slice of it: the hypotheses are satisfiable -/
example : (Rep.chain [.array [.int 1, .int 2], .count] [2]).wf ∧
    (Rep.chain [.array [.int 1, .int 2], .count] [2]).get 5 = .ok (.int 3) := by
  refine ⟨?_, rfl⟩
  simp [Rep.wf, wfAll, chainOk, Rep.len, USIZE]


/-! ### slicing (`take`, `skip`, `take_while`, `skip_until` all go through `XSequence::slice`) -/

/-- `slice` never fails on a well-formed sequence, and each of its four outcomes — the whole-sequence shortcut
(`.ok none`: the same object is returned), the canonical empty sequence, a plain `Slice`, and the flattened
slice of a slice — is well formed and denotes `drop start` of the list cut at position `end`
(`Sem.dropTake`), for every `start`/`end` that fit `usize`. -/
theorem slice_den (r : Rep) (h : r.wf) (start : Nat) (end_ : Option Nat) (hs : start < USIZE)
    (he : ∀ e, end_ = some e → e < USIZE) :
    match r.mkSlice start end_ with
    | .ok none => SemEq (den r) ((den r).dropTake start end_)
    | .ok (some s) => s.wf ∧ SemEq (den s) ((den r).dropTake start end_)
    | .err _ => False
    | .panic _ => False := by
  rw [mkSlice_eq r _ (len_den r h), dropTake_eq_slice]
  generalize hc : cutAt (den r).len end_ = c
  by_cases hw : c = (den r).len ∧ start = 0
  · rw [if_pos hw]
    obtain ⟨rfl, rfl⟩ := hw
    exact ⟨by cases (den r).len <;> rfl, fun i hi _ => by simp only [Sem.slice, Nat.add_zero, hi, if_true]⟩
  rw [if_neg hw]
  by_cases hemp : c.any (· ≤ start)
  · rw [if_pos hemp]
    refine ⟨trivial, .nil_of_len_zero ?_⟩
    cases c with
    | none => cases hemp
    | some k => exact congrArg some (Nat.sub_eq_zero_of_le (by simpa using hemp))
  · rw [if_neg hemp]
    suffices hw : (Rep.slice r start c).wf from ⟨sliceOf_wf r start c hw, sliceOf_den r start c ▸ .refl _⟩
    simp only [Rep.wf, len_den r h]
    refine ⟨h, hs, ?_⟩
    -- the cut is beyond `start`, and at or below the length
    subst hc
    cases hd : (den r).len <;> cases end_ <;> simp [cutAt, toLen, hd] at hemp ⊢
    · exact ⟨hemp, he _ rfl⟩
    · exact hemp
    · exact ⟨hemp, Nat.min_le_right _ _⟩

/-- a slice of a slice addresses the origin directly (when the shifted bounds fit `usize`) and still denotes
the slice of the slice -/
theorem slice_of_slice (origin : Rep) (os : Nat) (oe : Option Nat) (h : (Rep.slice origin os oe).wf)
    (start : Nat) (end2 : Option Nat) (hfit1 : os + start < USIZE)
    (hfit2 : ∀ e, end2 = some e → os + e < USIZE)
    (hb : match end2 with
      | some e => start < e ∧ (match (Rep.slice origin os oe).len with
          | .fin n => e ≤ n | .inf => e < USIZE | .panic _ => False)
      | none => (Rep.slice origin os oe).len = .inf) :
    (Rep.slice origin (os + start) (end2.map (os + ·))).wf ∧
    SemEq (den (Rep.slice origin (os + start) (end2.map (os + ·))))
      ((den (Rep.slice origin os oe)).dropTake start end2) := by
  have hw : (Rep.slice (.slice origin os oe) start end2).wf := by
    cases end2 <;> (simp only [Rep.wf] at h ⊢; exact ⟨h, by omega, hb⟩)
  rw [← sliceOf_slice origin os oe start end2 hfit1 hfit2, sliceOf_den, slice_eq_dropTake _ _ _ hw]
  exact ⟨sliceOf_wf _ _ _ hw, .refl _⟩

/-- counts that do not fit `usize` (negative, or 2^64 and beyond) are error values of `take` and `skip` -/
theorem take_skip_out_of_range (r : Rep) (n : Int) (h : n < 0 ∨ (USIZE : Int) ≤ n) :
    takeB r n = .err "index too large" ∧ skipB r n = .err "index too large" := by
  have : toUsize n = none := by
    unfold toUsize USIZE at *
    split
    · exfalso; omega
    · rfl
  simp [takeB, skipB, this]

example : (Rep.slice .count 3 none).wf ∧
    (Rep.mkSlice (.slice .count 3 none) 2 (some 5)) = .ok (some (.slice .count 5 (some 8))) := by
  refine ⟨by simp [Rep.wf, Rep.len, USIZE], rfl⟩

/-! ### concatenation -/

/-- `chain` on well-formed operands never panics; an empty operand (canonical or lazily empty) yields the other
operand; the result is an error value exactly when the left operand is infinite (and the right one is not
empty), the total length does not fit `usize`, or (right operand infinite) the finite parts in front of its
infinite tail plus the left operand do not fit `usize`; otherwise the new chain is well formed. -/
theorem chain_wf (a b : Rep) (ha : a.wf) (hb : b.wf) :
    match a.mkChain b with
    | .new r => r.wf
    | .left => (den b).len = some 0
    | .right => (den a).len = some 0
    | .err _ => ((den a).len = none ∧ (den b).len ≠ some 0) ∨
        (∃ n m, (den a).len = some n ∧ (den b).len = some m ∧ USIZE ≤ n + m) ∨
        (∃ n, (den a).len = some n ∧ (den b).len = none ∧ USIZE ≤ n + b.finPrefix)
    | .panic _ => False := by
  have h := mkChain_spec a b ha hb
  cases hm : a.mkChain b <;> rw [hm] at h <;> first | exact h.1 | exact h

/-- In all four Chain/non-Chain combinations the new representation (spliced parts, midpoints of the right
operand shifted by the length of the left one) denotes the concatenation of the two lists. -/
theorem chain_den (a b : Rep) (ha : a.wf) (hb : b.wf) (r : Rep) (h : a.mkChain b = .new r) :
    SemEq (den r) ((den a).append (den b)) := by
  have := mkChain_spec a b ha hb
  rw [h] at this; exact this.2

/-- chain + chain: the midpoint arithmetic on a concrete instance, and an element reached through it -/
example :
    Rep.mkChain (.chain [.array [.int 1], .array [.int 2, .int 3]] [1]) (.chain [.array [.int 4], .count] [1]) =
      .new (.chain [.array [.int 1], .array [.int 2, .int 3], .array [.int 4], .count] [1, 3, 4]) ∧
    (Rep.chain [.array [.int 1], .array [.int 2, .int 3], .array [.int 4], .count] [1, 3, 4]).get 6 = .ok (.int 2) :=
  ⟨rfl, rfl⟩

/-! ### copying updates equal the list operations -/

/-- `push`, `rpush` and `to_array` copy exactly the elements of the denoted list (in order) and add the new
element at the end / at the front / nowhere; an infinite sequence is an error value -/
theorem push_rpush_toArray_list (r : Rep) (h : r.wf) (x : Val) :
    (∀ n, (den r).len = some n →
      pushB r x = listResult (tupAll (elemsFrom (den r) 0 n)) (fun vs => vs ++ [x]) ∧
      rpushB r x = listResult (tupAll (elemsFrom (den r) 0 n)) (fun vs => x :: vs) ∧
      toArrayB r = listResult (tupAll (elemsFrom (den r) 0 n)) (fun vs => vs)) ∧
    ((den r).len = none → pushB r x = infErr ∧ rpushB r x = infErr ∧ toArrayB r = infErr) := by
  refine ⟨fun n hn => ?_, fun hn => ?_⟩
  · have hl := h.refines.len_fin hn
    have hc := h.refines.collect_eq hn
    refine ⟨by simp only [pushB, hl, hc, liftList_eq], by simp only [rpushB, hl, hc, liftList_eq], ?_⟩
    cases r with
    | array xs =>
      -- an array is returned as it is; it is not empty, so `mkArray` rebuilds the same representation
      obtain rfl : xs.length = n := Option.some.inj hn
      have hne : xs.isEmpty = false := by cases xs; exact absurd rfl h.1; rfl
      simp only [toArrayB, ← hc, Rep.collect, listResult, Rep.mkArray, hne, Bool.false_eq_true, if_false]
    | _ => simp only [toArrayB, hl, hc, liftList_eq]
  · have hl := h.refines.len_inf hn
    refine ⟨by simp only [pushB, hl], by simp only [rpushB, hl], ?_⟩
    cases r with
    | array xs => cases hn
    | _ => simp only [toArrayB, hl]


/-- `pop`, `set` and `insert` on a finite sequence of length `n`: the index is normalised (`insert` also accepts
`n`), an out-of-range index is an error value, and otherwise the result is built from the elements before the
position and the elements after it (from it, for `insert`) of the denoted list -/
theorem pop_set_insert_list (r : Rep) (h : r.wf) (n : Nat) (hn : (den r).len = some n) (i : Int) (x : Val) :
    popB r i = (match valueToIdx (.fin n) i with
      | .ok idx => if n = 1 then .seq .empty else
          listResult2 (tupAll (elemsFrom (den r) 0 idx)) (tupAll (elemsFrom (den r) (idx + 1) (n - (idx + 1))))
            (fun pre post => pre ++ post)
      | .err m => .err m
      | .panic m => .panic m) ∧
    setB r i x = (match valueToIdx (.fin n) i with
      | .ok idx =>
          listResult2 (tupAll (elemsFrom (den r) 0 idx)) (tupAll (elemsFrom (den r) (idx + 1) (n - (idx + 1))))
            (fun pre post => pre ++ [x] ++ post)
      | .err m => .err m
      | .panic m => .panic m) ∧
    insertB r i x = (match insertIdx (.fin n) n i with
      | .ok idx =>
          listResult2 (tupAll (elemsFrom (den r) 0 idx)) (tupAll (elemsFrom (den r) idx (n - idx)))
            (fun pre post => pre ++ [x] ++ post)
      | .err m => .err m
      | .panic m => .panic m) := by
  have hr := h.refines
  have hl := hr.len_fin hn
  have idx_lt : ∀ {idx}, valueToIdx (.fin n) i = .ok idx → idx < n := valueToIdx_valid (some n) i _
  refine ⟨?_, ?_, ?_⟩
  · simp only [popB, hl]
    cases hi : valueToIdx (.fin n) i with
    | err m | panic m => rfl
    | ok idx =>
      have := idx_lt hi
      simp only []
      rw [hr.collectFrom_eq hn idx 0 (by omega), hr.collectFrom_eq hn _ (idx + 1) (by omega), liftList2_eq]
  · simp only [setB, hl]
    cases hi : valueToIdx (.fin n) i with
    | err m | panic m => rfl
    | ok idx =>
      have := idx_lt hi
      simp only []
      rw [hr.collectFrom_eq hn idx 0 (by omega), hr.collectFrom_eq hn _ (idx + 1) (by omega), liftList2_eq]
  · simp only [insertB, hl]
    cases hi : insertIdx (.fin n) n i with
    | err m | panic m => rfl
    | ok idx =>
      have hle : idx ≤ n := by
        unfold insertIdx at hi
        split at hi
        · injection hi with hi; omega
        · exact Nat.le_of_lt (idx_lt hi)
      simp only []
      rw [hr.collectFrom_eq hn idx 0 (by omega), hr.collectFrom_eq hn _ idx (by omega), liftList2_eq]

/-- after the fix `insert` at index `len` appends (also into an empty sequence); `len + 1` and `-len - 1` are
error values -/
theorem insert_index (n : Nat) (hn : n < USIZE) :
    insertIdx (.fin n) n n = .ok n ∧ insertIdx (.fin n) n (n + 1) = .err "index out of bounds" ∧
    insertIdx (.fin n) n (-(n : Int) - 1) = .err "index too low" := by
  refine ⟨if_pos rfl, ?_, ?_⟩
  · rw [insertIdx, if_neg (by omega)]; exact valueToIdx_high (by omega)
  · rw [insertIdx, if_neg (by omega)]; exact valueToIdx_low (by omega)


/-! ### the library functions written in xray, and the lazy constructors -/

/-- `reverse` (include.rs:534-537) of a finite sequence of `n < 2^63` elements is a well-formed lazy sequence of
length `n` whose `i`-th element is element `n-1-i` of the original list -/
theorem reverse_list (r : Rep) (h : r.wf) (n : Nat) (hn : (den r).len = some n)
    (hb : (n : Int) < 9223372036854775808) :
    ∃ s, reverseB r = .seq s ∧ s.wf ∧ (den s).len = some n ∧
      ∀ i, i < n → (den s).el i = (den r).el (n - 1 - i) := by
  have hin : inI64 (n : Int) = true := by simp [inI64]; omega
  have hrev : reverseB r = reverseOf r n (rangeB [(n : Int)]) := by unfold reverseB; rw [h.refines.len_fin hn]
  rw [hrev, rangeB_unit n hin]
  by_cases h0 : n = 0
  · subst h0
    exact ⟨.mapGet .empty r (.rev (0 : Nat)), rfl, ⟨trivial, h⟩, rfl, fun i hi => absurd hi (Nat.not_lt_zero i)⟩
  · rw [if_neg h0]
    refine ⟨.mapGet (.range 0 n 1) r (.rev n), rfl, ?_, ?_, fun i hi => ?_⟩
    · simp only [Rep.wf]
      exact ⟨⟨rfl, hin, rfl, .inl ⟨by omega, by omega⟩⟩, h⟩
    · simp only [den, rangeLen_unit n (by omega), lenOpt]
    · -- element `i` of `range(n)` is `i`, and `n - 1 - i` is a valid index of `r`
      have hU : n < USIZE := by unfold USIZE; omega
      simp only [den, elemGet, IFn.app, Sem.index, hn, toLen]
      rw [show (0 : Int) + (i : Int) * 1 = i by omega,
        valueToIdx_nonneg (i := (n : Int) - 1 - i) hU (by omega) (by omega)]
      rw [show ((n : Int) - 1 - i).toNat = n - 1 - i by omega]

/-- `repeat()` (include.rs:518-524) of a non-empty finite sequence is a well-formed infinite sequence whose
`i`-th element is element `i mod n` of the original list -/
theorem repeat_list (r : Rep) (h : r.wf) (n : Nat) (hn : (den r).len = some n) (hpos : 0 < n) (hb : n < USIZE) :
    ∃ s, repeatB r = .seq s ∧ s.wf ∧ (den s).len = none ∧ ∀ i, (den s).el i = (den r).el (i % n) := by
  refine ⟨.mapGet .count r (.mod n), by unfold repeatB; rw [h.refines.len_fin hn], ⟨trivial, h⟩, rfl, fun i => ?_⟩
  have hne : ¬ ((n : Int) = 0) := by omega
  have hlt := Nat.mod_lt i hpos
  simp only [den, elemGet, IFn.app, hne, if_false, Sem.index, hn, toLen, fmod_nat]
  rw [valueToIdx_nonneg (i := ((i % n : Nat) : Int)) hb (by omega) (by omega)]; rfl

/-- `enumerate` (include.rs:453-455): empty for an empty argument, otherwise the pairs `(start + i*offset, a[i])` -/
theorem enumerate_list (r : Rep) (h : r.wf) (s o : Int) :
    (r.isEmpty = true → enumerateB r s o = .seq .empty) ∧
    (r.isEmpty = false → enumerateB r s o = .seq (.zip [count2 s o, r]) ∧
      (Rep.zip [count2 s o, r]).wf ∧
      (den (.zip [count2 s o, r])).len = (den r).len ∧
      ∀ i, (den (.zip [count2 s o, r])).el i = (match (den r).el i with
        | .ok v => .ok (.tup [.int (i * o + s), v])
        | .err m => .err m
        | .panic m => .panic m)) := by
  refine ⟨fun he => by simp [enumerateB, zipB, he],
    fun he => ⟨by simp [enumerateB, zipB, he, count2_notEmpty], ⟨⟨trivial, h, trivial⟩, by simp⟩, ?_,
      fun i => ?_⟩⟩
  · simp only [den, denList, Sem.zip, List.map, count2, minOpt]
    cases (den r).len <;> rfl
  · simp only [den, denList, Sem.zip, List.map, count2, elemMap, PFn.app, tupAll]
    cases (den r).el i <;> rfl

/-- `zip` (after the fix: all arguments first, then the emptiness shortcut) is `Empty` when a member is empty,
otherwise a well-formed `Zip` whose length is the minimum of the finite member lengths; `map`/`unzip` keep the
length and apply the function / projection element-wise; errors of elements stay errors of elements -/
theorem zip_map_unzip_list (rs : List Rep) (hw : wfAll rs) (hne : rs ≠ []) (r : Rep) (hr : r.wf) (f : PFn) :
    (rs.any Rep.isEmpty = true → zipB rs = .seq .empty) ∧
    (rs.any Rep.isEmpty = false → zipB rs = .seq (.zip rs) ∧ (Rep.zip rs).wf ∧
      (den (.zip rs)).len = minOpt ((denList rs).map (·.len))) ∧
    (mapB r f = .seq (.map r f) ∧ (Rep.map r f).wf ∧ (den (.map r f)).len = (den r).len ∧
      ∀ i, (den (.map r f)).el i = elemMap f ((den r).el i)) := by
  refine ⟨fun h => by simp [zipB, h], fun h => ⟨by simp [zipB, h], by simp [Rep.wf, hw, hne], rfl⟩,
    rfl, by simpa [Rep.wf] using hr, rfl, fun i => rfl⟩

/-! ### no operation alters the sequences it was applied to -/

/-- Immediate in the pure model (an operation is a function of its arguments and nothing else can change
them); stated for the copying updates to document the clause: whatever update is evaluated, the length and
every element of the input, observed afterwards, are what they were before.  On the implementation side the
clause is checked by the tie (every sequence is observed again after all later operations). -/
theorem inputs_unchanged (r : Rep) (x : Val) (i j : Int) (upd : V)
    (_h : upd ∈ [pushB r x, rpushB r x, insertB r i x, popB r i, setB r i x, swapB r i j, toArrayB r]) :
    ∀ (before : Sem), before = den r → (den r).len = before.len ∧ ∀ k, (den r).el k = before.el k := by
  intro before hb; subst hb; exact ⟨rfl, fun _ => rfl⟩

/-! ### the chain invariant carries the usize bound; swap; scans; nth; to_stack; eq -/

/-- Every midpoint stored in a well-formed chain — also one whose last part is infinite — is positive, fits
`usize`, and the midpoints increase: the `usize` arithmetic of `get`/`len` on chains cannot overflow. -/
theorem chain_midpoints_fit (parts : List Rep) (mids : List Nat) (h : (Rep.chain parts mids).wf) :
    ∀ m ∈ mids, 0 < m ∧ m < USIZE := by
  simp only [Rep.wf] at h
  obtain ⟨e, hc⟩ := Chain.of_chainOk _ _ _ h.2.1
  intro m hm
  have := hc.fit.2 m hm
  omega

/-- `swap` equals the list swap: both indices are normalised FIRST (negative ones count from the end; an
out-of-range one is an error value, the first index being checked first), equal positions give the sequence
itself, and only then the smaller / larger normalised position delimit the copied runs
(`pre ++ [x_hi] ++ mid ++ [x_lo] ++ post`, see `swapResult`). -/
theorem swap_list (r : Rep) (h : r.wf) (n : Nat) (hn : (den r).len = some n) (i j : Int) :
    swapB r i j = (match valueToIdx (.fin n) i with
      | .err m => .err m
      | .panic m => .panic m
      | .ok i1 => match valueToIdx (.fin n) j with
        | .err m => .err m
        | .panic m => .panic m
        | .ok i2 => if i1 = i2 then .seq r else swapResult (den r) n (min i1 i2) (max i1 i2)) := by
  have hr := h.refines
  simp only [swapB, hr.len_fin hn]
  cases hi : valueToIdx (.fin n) i with
  | err m | panic m => rfl
  | ok i1 =>
    cases hj : valueToIdx (.fin n) j with
    | err m | panic m => rfl
    | ok i2 =>
      have h1 : i1 < n := valueToIdx_valid (some n) i i1 hi
      have h2 : i2 < n := valueToIdx_valid (some n) j i2 hj
      simp only []
      split
      · rfl
      next e =>
        have hlt : min i1 i2 < max i1 i2 := by omega
        have hhi : max i1 i2 < n := by omega
        generalize min i1 i2 = lo at hlt ⊢
        generalize max i1 i2 = hi at hlt hhi ⊢
        rw [hr.collectFrom_eq hn lo 0 (by omega), hr.collectFrom_eq hn _ (lo + 1) (by omega),
          hr.collectFrom_eq hn _ (hi + 1) (by omega), hr.get hi ((Sem.valid_some hn).2 hhi),
          hr.get lo ((Sem.valid_some hn).2 (by omega))]
        simp only [liftList_match]
        rfl

/-- mixed-sign indices: `swap(2, -3)` on three elements exchanges positions 2 and 0 (ordering the raw indices
`-3 < 2` first would be wrong), and `swap(0, -3)` is the sequence itself -/
example :
    swapB (.array [.int 1, .int 2, .int 3]) 2 (-3) = .seq (.array [.int 3, .int 2, .int 1]) ∧
    swapB (.array [.int 1, .int 2, .int 3]) 0 (-3) = .seq (.array [.int 1, .int 2, .int 3]) ∧
    swapB (.array [.int 1, .int 2, .int 3]) (-1) 0 = .seq (.array [.int 3, .int 2, .int 1]) ∧
    swapB (.array [.int 1, .int 2, .int 3]) 0 3 = .err "index out of bounds" := ⟨rfl, rfl, rfl, rfl⟩

/-- `take_while((x)->{x < c})`: if `j` is the first position whose element fails the predicate (all earlier
elements are ints satisfying it), the result is `slice(0, j)` — by `slice_den` the first `j` elements —, the scan
having consumed `j + 1` search permits: it succeeds with more than `j` permits and runs out with `j` or fewer.
If no element of a finite sequence fails, the result is `slice(0, len)`, the whole sequence. -/
theorem take_while_prefix (r : Rep) (h : r.wf) (c : Int) (fuel : Nat) :
    (∀ j, (den r).valid j → stops (den r) c false j → (∀ k, k < j → passes (den r) c false k) →
      (j < fuel → takeWhileLtB r c fuel = sliceB r 0 (some j)) ∧
      (fuel ≤ j → takeWhileLtB r c fuel = .panic "out of fuel")) ∧
    (∀ n, (den r).len = some n → (∀ k, k < n → passes (den r) c false k) → n < fuel →
      takeWhileLtB r c fuel = sliceB r 0 (some n)) := by
  have hr := h.refines
  refine ⟨fun j hv hj hp => ⟨fun hf => ?_, fun hf => ?_⟩, fun n hn hp hf => ?_⟩
  · rw [hr.takeWhile_unfold, hr.scan_found c false j hv hj hp fuel hf]
  · rw [hr.takeWhile_unfold, hr.scan_out_of_fuel c false j hv hp fuel hf]
  · rw [hr.takeWhile_unfold, hr.scan_end c false n hn hp fuel hf, hn]

/-- `skip_until((x)->{x < c})`: with `j` the first position whose element satisfies the predicate the result is
`slice(j, None)` — the suffix from `j` —, again for `j + 1` search permits; if no element of a finite sequence
satisfies it the result is `slice(len, None)`, the empty sequence. -/
theorem skip_until_suffix (r : Rep) (h : r.wf) (c : Int) (fuel : Nat) :
    (∀ j, (den r).valid j → stops (den r) c true j → (∀ k, k < j → passes (den r) c true k) →
      (j < fuel → skipUntilLtB r c fuel = sliceB r j none) ∧
      (fuel ≤ j → skipUntilLtB r c fuel = .panic "out of fuel")) ∧
    (∀ n, (den r).len = some n → (∀ k, k < n → passes (den r) c true k) → n < fuel →
      skipUntilLtB r c fuel = sliceB r n none) := by
  have hr := h.refines
  refine ⟨fun j hv hj hp => ⟨fun hf => ?_, fun hf => ?_⟩, fun n hn hp hf => ?_⟩
  · rw [hr.skipUntil_unfold, hr.scan_found c true j hv hj hp fuel hf]
  · rw [hr.skipUntil_unfold, hr.scan_out_of_fuel c true j hv hp fuel hf]
  · rw [hr.skipUntil_unfold, hr.scan_end c true n hn hp fuel hf, hn]; rfl

/-- `nth(k, (x)->{x < c})` on a finite sequence whose elements are the ints `xs`: the `k`-th element of the
filtered list for `k ≥ 0`, the `(-k-1)`-th element of the filtered reversed list for `k < 0`, `none` beyond
(`first` is `k = 0`, `last` is `k = -1`; include.rs:461-467) -/
theorem nth_list (r : Rep) (h : r.wf) (xs : List Int) (hn : (den r).len = some xs.length)
    (hel : ∀ k (hk : k < xs.length), (den r).el k = .ok (.int xs[k])) (k c : Int) (fuel : Nat)
    (hf : xs.length < fuel) :
    nthLtB r k c fuel =
      if k < 0 then .opt (((xs.reverse.filter (fun x => decide (x < c)))[(-k - 1).toNat]?).map Val.int)
      else .opt (((xs.filter (fun x => decide (x < c)))[k.toNat]?).map Val.int) := by
  rw [nth_unfold_fin r h xs.length hn]
  by_cases hk : k < 0
  · simp only [hk, if_true]
    have := h.refines.nthBwd_list c hn xs.reverse (-k - 1).toNat (by simp) (fun j hj => by
      simp only [List.length_reverse] at hj ⊢
      rw [List.getElem_reverse]
      exact hel _ (by omega))
    simpa using this
  · simp only [hk, if_false]
    exact h.refines.nthFwd_list c hn xs 0 k.toNat fuel (by omega) (fun j hj => by simpa using hel j hj) hf

/-- a negative match index on an infinite sequence is an error value -/
theorem nth_infinite_negative (r : Rep) (h : r.wf) (hn : (den r).len = none) (k c : Int) (fuel : Nat) (hk : k < 0) :
    nthLtB r k c fuel = .err "negative match index cannot be used with infinite sequence" :=
  nth_inf_negative r h hn k c fuel hk

example : nthLtB (.array [.int 5, .int 1, .int 7, .int 2]) (-1) 3 10 = .opt (some (.int 2)) ∧
    nthLtB (.range 0 10 1) 2 100 20 = .opt (some (.int 2)) ∧
    nthLtB (.array [.int 5]) 0 3 10 = .opt none := ⟨rfl, rfl, rfl⟩

/-- `to_stack` pushes the elements of the denoted list in order; an infinite sequence is an error value -/
theorem to_stack_list (r : Rep) (h : r.wf) :
    (∀ n, (den r).len = some n → toStackB r = (match tupAll (elemsFrom (den r) 0 n) with
      | .ok vs => .stack vs
      | .err m => .err m
      | .panic m => .panic m)) ∧
    ((den r).len = none → toStackB r = infErr) := by
  refine ⟨fun n hn => ?_, fun hn => by simp only [toStackB, h.refines.len_inf hn]⟩
  simp only [toStackB, h.refines.len_fin hn, h.refines.collect_eq hn]
  cases tupAll (elemsFrom (den r) 0 n) <;> rfl

/-- `==` on sequences of different lengths is `false` without looking at elements; on finite sequences of the
same length whose elements evaluate to `xs`, `ys` it is list equality — whatever the two representations -/
theorem eq_is_list_eq (a b : Rep) (ha : a.wf) (hb : b.wf) (fuel : Nat) :
    ((den a).len ≠ (den b).len → eqB a b fuel = .bool false) ∧
    (∀ (xs ys : List Val), xs.length = ys.length →
      (den a).len = some xs.length → (den b).len = some ys.length →
      (∀ k (hk : k < xs.length), (den a).el k = .ok xs[k]) →
      (∀ k (hk : k < ys.length), (den b).el k = .ok ys[k]) → xs.length < fuel →
      eqB a b fuel = .bool (xs == ys)) :=
  by
  unfold eqB
  rw [len_den a ha, len_den b hb]
  refine ⟨fun hd => ?_, fun xs ys hl hna hnb hxa hyb hf => ?_⟩
  · cases h1 : (den a).len <;> cases h2 : (den b).len <;> simp_all [toLen, Len.same]
  · rw [hna, hnb, ← hl]
    simp only [toLen, Len.same, beq_self_eq_true, if_true, lenOpt]
    exact ha.refines.eqScan_list hb.refines xs.length hna (by rw [hnb, hl]) xs ys 0 fuel hl (by omega)
      (fun k hk => by simpa using hxa k hk) (fun k hk => by simpa using hyb k hk) hf

example : eqB .count (.array [.int 0]) 10 = .bool false ∧
    eqB (.array [.int 0, .int 1]) (.range 0 3 1) 10 = .bool false := ⟨rfl, rfl⟩

/-- Associativity at the level of denotations: however the `+` of a concatenation is parenthesised (left-deep,
right-deep, balanced, (k)+(n-k), …: `CTree`), and whichever arm of `chain` each `+` takes (including
Chain + Chain with any number of parts on either side, and empty operands returning the other operand), if no
`+` is an error value the result is well formed and denotes the concatenation of the leaves' lists in order. -/
theorem chain_assoc_den (t : CTree) (hw : ∀ r ∈ t.leaves, r.wf) (r : Rep) (h : t.eval = some r) :
    r.wf ∧ SemEq (den r) (Sem.concat (denList t.leaves)) := by
  induction t generalizing r with
  | leaf x =>
    obtain rfl : x = r := Option.some.inj h
    exact ⟨hw x (List.mem_singleton_self x), (append_empty_right _ _ rfl).symm⟩
  | node tl tr ihl ihr =>
    simp only [CTree.eval] at h
    cases hl : tl.eval with
    | none => simp [hl] at h
    | some a =>
      cases hr : tr.eval with
      | none => simp [hl, hr] at h
      | some b =>
        obtain ⟨ha, hda⟩ := ihl (fun x hx => hw x (List.mem_append_left _ hx)) a hl
        obtain ⟨hb, hdb⟩ := ihr (fun x hx => hw x (List.mem_append_right _ hx)) b hr
        have hcat : SemEq ((den a).append (den b)) (Sem.concat (denList (CTree.node tl tr).leaves)) := by
          simp only [CTree.leaves, denList_append, concat_append]
          exact (append_congr_left _ hda).trans (append_congr_right _ hdb)
        have hm := mkChain_spec a b ha hb
        simp only [hl, hr] at h
        cases hc : a.mkChain b <;> rw [hc] at h hm <;> simp only [Option.some.injEq, reduceCtorEq] at h
        · subst h; exact ⟨hm.1, hm.2.trans hcat⟩
        · subst h; exact ⟨ha, (append_empty_right _ _ hm).symm.trans hcat⟩
        · subst h; exact ⟨hb, (append_empty_left _ _ hm).symm.trans hcat⟩

/-- (a + b) + (c + d + e): both operands are chains, the right one has three parts -/
example :
    (CTree.node (.node (.leaf (.array [.int (-1)])) (.leaf (.array [.int 0])))
      (.node (.node (.leaf (.range 1 2 1)) (.leaf (.range 2 4 1))) (.leaf (.array [.int 4])))).eval =
      some (.chain [.array [.int (-1)], .array [.int 0], .range 1 2 1, .range 2 4 1, .array [.int 4]] [1, 2, 3, 5]) ∧
    (Rep.chain [.array [.int (-1)], .array [.int 0], .range 1 2 1, .range 2 4 1, .array [.int 4]] [1, 2, 3, 5]).len
      = .fin 6 := ⟨rfl, rfl⟩

end XrayModel.C15
