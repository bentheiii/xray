/-
C10 — Limits bound all work: no unbounded native loop  (generator / step-count part, time gate).
Property theorems only; helper lemmas live in XrayProofs/GenBound.lean.

`next L fuel it` is Rust's `next()` of the iterator `it` under search limit `L`: `step` iterated through
the `skip`s — the iterations of the adaptor's internal loop that produce nothing.  `fuel` bounds their
number, so `next L (b + 1) it ≠ outOfFuel` says: `next()` answers (an element, a violation or the end)
after at most `b` unproductive iterations.  `Prod it`: the source has no internal loop of its own
(arrays, `count()`, `successors`, and `map` / `take_while` / `aggregate` / `with_count` of such).

General statement (`next_work_bounded`): for every generator `g` of the model, every search limit `l` and every
state reachable from `g.iter (some l)`, `next()` answers after at most `g.work l` unproductive iterations, where
`work` multiplies the bound of the source by `l + 2` at every level that loops (filter, skip_until, skip, group,
windows: a permit per iteration), by 2 at `repeat`, by the number of parts at a zip and one more at a chain, and is 0 for
sources: a polynomial in the limit whose degree is the nesting depth of loops, with coefficients from the
program size.  The per-loop theorems below give the sharp constants over loop-free sources.
-/
import XrayProofs.GenBound
import XrayModel.GenLimits
namespace XrayModel.C10
open XrayModel.Gen XrayModel.GenLimits

/-- the general bound, nested loops included, for every generator: from the fresh consumer iterator of `g` and
from every state reachable from it, `next()` answers within `g.work l` unproductive iterations -/
theorem next_work_bounded (l : Nat) (g : G) :
    Bnd (some l) (g.work l) (g.iter (some l)) :=
  (frame_budget _).bnd_pass passT_budget _ _ _ (work_bounded_any l g)

/-- in particular the first `next()` of a consumer answers -/
theorem next_work_bounded_first (l : Nat) (g : G) :
    next (some l) (g.work l + 1) (g.iter (some l)) ≠ .outOfFuel :=
  bnd_next (next_work_bounded l g)

/-- … and so does every later one: the bound holds again after any number of steps -/
theorem next_work_bounded_later (l : Nat) (g : G) (n : Nat) (s : It)
    (hs : after (some l) n (g.iter (some l)) = some s) :
    next (some l) (g.work l + 1) s ≠ .outOfFuel :=
  bnd_next (bnd_after (next_work_bounded l g) hs)

/-- the bound is a function of the limit and the program only; e.g. a filter of a repeat of a filter of the
counter: `(l+2) * (2 * ((l+2) * 1 + 1) + 1)` -/
example (l : Nat) (p q : P) :
    (G.filter (.repeat_ (.filter (.fromCount none) p)) q).work l = (l + 2) * (2 * ((l + 2) * (0 + 1) + 1) + 1) := by
  simp [G.work]

/-- the building blocks, for any source with bound `B`: a loop that takes permits … -/
theorem loop_bound_filter (L : Option Nat) (B k : Nat) (p : P) (perm : Permits) (it : It)
    (hu : perm ≠ .unlimited) (hb : perm.bound ≤ k) (h : Bnd L B it) :
    Bnd L ((k + 1) * (B + 1)) (.filter it p perm) := (permitLoop_filter L p).bnd B k () perm it hu hb h

/-- … a restart … -/
theorem loop_bound_repeat (L : Option Nat) (B : Nat) (g : G) (cur : It) (fresh : Bool)
    (hg : Bnd L B (g.start L)) (h : Bnd L B cur) : Bnd L (2 * (B + 1)) (.repeat_ g cur fresh) :=
  bnd_repeat L B g cur fresh hg h

/-- … and a chain of parts -/
theorem loop_bound_chain (L : Option Nat) (B : Nat) (rest : List G) (cur : It) (h : Bnd L B cur)
    (hr : ∀ g ∈ rest, Bnd L B (g.start L)) : Bnd L ((rest.length + 1) * (B + 1)) (.chain cur rest) :=
  bnd_chain L B rest cur h hr

/-- `filter`: with `k` permits left, `next()` answers within `k + 1` rejected elements, whatever the
predicate does — under a search limit `l` that is at most `l + 1` -/
theorem next_work_bounded_filter (L : Option Nat) (p : P) (k : Nat) (it : It) (h : Prod it) :
    next L (k + 2) (.filter it p (.left k)) ≠ .outOfFuel :=
  (permitLoop_filter L p).answers_prod (k + 1) () (.left k) it nofun (Nat.le_refl _) h

/-- … and once the permits are used up it ends at once -/
theorem next_work_bounded_filter_dead (L : Option Nat) (p : P) (it : It) (h : Prod it) :
    next L 1 (.filter it p .dead) ≠ .outOfFuel :=
  (permitLoop_filter L p).answers_prod 0 () .dead it nofun (Nat.le_refl _) h

/-- a fresh filter under search limit `l`: at most `l + 1` unproductive iterations per `next()` -/
theorem next_work_bounded_filter_start (l : Nat) (g : G) (p : P) (h : Prod (g.start (some l))) :
    next (some l) (l + 2) ((G.filter g p).start (some l)) ≠ .outOfFuel :=
  next_work_bounded_filter (some l) p l _ h

/-- without permits nothing bounds it: this is the code before 5cb2fd9 under *any* limit (it took no
permit), and the present code when no search limit is configured -/
theorem filter_without_permits_diverges (L : Option Nat) (n : Nat) :
    next L n (.filter (.count 0 none) (fun _ => .f) .unlimited) = .outOfFuel :=
  filter_unlimited_diverges L n 0

/-- `skip_until` -/
theorem next_work_bounded_skipUntil (L : Option Nat) (p : P) (found : Bool) (k : Nat) (it : It)
    (h : Prod it) : next L (k + 2) (.skipUntil it p found (.left k)) ≠ .outOfFuel :=
  (permitLoop_skipUntil L p).answers_prod (k + 1) found (.left k) it nofun (Nat.le_refl _) h

/-- `skip(a)`: bounded by `a` … -/
theorem next_work_bounded_skip (L : Option Nat) (a : Nat) (perm : Permits) (t : Option Nat) (it : It)
    (h : Prod it) : next L (a + 1) (.slice it a perm t) ≠ .outOfFuel := by
  by_cases ht : t = some 0
  · subst ht; rw [next, step_slice_zero]; simp
  replace h := bnd_prod L h
  induction a generalizing perm it with
  | zero =>
    rw [next, step_slice L it 0 perm ht]
    rcases bnd_zero_step h with h | ⟨x, s, h, _⟩ <;> simp [h]
  | succ a ih =>
    rw [next, step_slice L it (a + 1) perm ht]
    rcases bnd_zero_step h with h | ⟨x, s, h, hs⟩
    · simp [h]
    · -- an element is discarded only when a permit was there, and then `a` elements remain to discard
      simp only [h]
      obtain ⟨tk, q⟩ := perm.next
      cases tk <;> cases x <;> first | exact ih q s hs | simp

/-- … and by the search limit, however large `a` is (`skip(10**15)` ends in a violation after `l` elements) -/
theorem next_work_bounded_skip_permits (L : Option Nat) (a k : Nat) (t : Option Nat) (it : It)
    (h : Prod it) : next L (k + 2) (.slice it a (.left k) t) ≠ .outOfFuel :=
  (permitLoop_slice L).answers_prod (k + 1) (a, t) (.left k) it nofun (Nat.le_refl _) h

/-- `repeat`: at most one restart per `next()`; the repetition of an empty generator ends (it used to
spin for ever: 44f5035) -/
theorem next_work_bounded_repeat (L : Option Nat) (g : G) (cur : It) (fresh : Bool)
    (hg : Prod (g.start L)) (hc : Prod cur) : next L 2 (.repeat_ g cur fresh) ≠ .outOfFuel :=
  bnd_next ((ranked_repeat L 0 g (bnd_prod L hg)).bound (cur, fresh) (bnd_prod L hc))

example : next none 2 ((G.repeat_ (.fromArr [])).start none) = .done := by rfl

/-- `add`: one step per part that has ended -/
theorem next_work_bounded_chain (L : Option Nat) (rest : List G) (cur : It)
    (hr : ∀ g ∈ rest, Prod (g.start L)) (hc : Prod cur) :
    next L (rest.length + 1) (.chain cur rest) ≠ .outOfFuel := by
  simpa using bnd_next ((ranked_chain L 0 rest.length).bound (cur, rest)
    ⟨bnd_prod L hc, fun g hg => bnd_prod L (hr g hg), Nat.le_refl _⟩)

/-- the hypotheses are satisfiable: `count().to_generator().map(f)` has no internal loop -/
example (f : F) : Prod ((G.map (.fromCount none) f).start (some 5)) := by
  simp only [G.start]; exact Gen.Prod.map f (Gen.Prod.count 0 none)

/-- once the deadline has passed no user-function body begins: neither by a call … -/
theorem timeout_gates_calls (argErr : Bool) (udLimit : Option Nat) (calls d now : Nat) (h : d ≤ now) :
    (beginCall argErr udLimit calls (some d) now).1 ≠ .bodyRuns := by
  have hc : checkTimeout (some d) now = false := by simp [checkTimeout]; omega
  unfold beginCall
  rw [hc]
  cases argErr <;> simp
  split <;> simp

/-- … nor by a turn of the tail-call loop -/
theorem timeout_gates_tail_calls (recLimit : Option Nat) (depth d now : Nat) (h : d ≤ now) :
    (tailIteration recLimit depth (some d) now).1 ≠ .bodyRuns := by
  have hc : checkTimeout (some d) now = false := by simp [checkTimeout]; omega
  unfold tailIteration
  rw [hc]
  simp only
  split
  · split <;> simp
  · simp

/-- before the deadline, under the call limit and without an error argument, the body does run -/
theorem call_begins_before_deadline (udLimit : Option Nat) (calls d now : Nat) (h : now < d)
    (hl : ∀ l, udLimit = some l → calls + 1 < l) :
    (beginCall false udLimit calls (some d) now).1 = .bodyRuns := by
  have hc : checkTimeout (some d) now = true := by simp [checkTimeout]; omega
  unfold beginCall
  rw [hc]
  cases udLimit with
  | none => simp [incrementCallLimit]
  | some l =>
    have := hl l rfl
    have h2 : ¬ (l ≤ calls + 1) := by omega
    simp [incrementCallLimit, h2]

end XrayModel.C10
