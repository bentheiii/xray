/-
C04 — Static checking accepts exactly the assignable programs.
Property theorems only.  The model (`XrayModel/Types.lean`) mirrors `src/xtype.rs` and the call/position
checks of `compilation_scope.rs` / `parser.rs`; the documented relation `Sub s r` ("a value of type `s` may be
used where `r` is required": identical types, the bottom type into anything, tuples / natives / compounds
component- and name-wise, function types by exact arity and component types) and the fragments `declarable`
(what can be written as a type: no `unknown`, no `XFunc`) and `wfTy ar` (every type name used with its number of
parameters) are defined in `XrayProofs/Types.lean`.
-/
import XrayProofs.Types
namespace XrayModel.C04
open XrayModel

/-- **accept ⇔ assignable** at the heart of every position: `bind_in_assignment` succeeds with an empty binding
exactly when the supplied type is assignable to the (written) required type. -/
theorem bind_empty_iff_assignable (ar : String → Nat) (r s : Ty)
    (hd : declarable r = true) (hr : wfTy ar r = true) (hs : wfTy ar s = true) :
    bindIn r s = some [] ↔ Sub s r :=
  bindIn_nil_iff ar r s hd hr hs

/-- `let v: R = e`, `fn f(..)->R { e }` and `fn f(p: R ?= e)` are accepted exactly when the type of `e` is
assignable to `R` (generic parameters in scope are opaque there: nothing may be bound). -/
theorem accept_iff (ar : String → Nat) (pos : Pos) (hp : pos.requiresEmpty = true) (r s : Ty)
    (hd : declarable r = true) (hr : wfTy ar r = true) (hs : wfTy ar s = true) :
    accepts pos r s = true ↔ Sub s r := by
  rw [← bindIn_nil_iff ar r s hd hr hs]
  cases pos <;> simp [Pos.requiresEmpty] at hp <;> simp only [accepts] <;>
    (cases h : bindIn r s with
     | none => simp
     | some b => cases b <;> simp)

/-- non-vacuity of `accept_iff`: an empty sequence literal is accepted where `Sequence<int>` is declared, a
`Sequence<float>` is not -/
example : accepts .letDecl (.native "Sequence" [.int]) (.native "Sequence" [.unknown]) = true ∧
    accepts .letDecl (.native "Sequence" [.int]) (.native "Sequence" [.float]) = false := by decide

/-- the bottom type (errors, elements of empty containers) is assignable to every type, binding nothing -/
theorem bottom_into_anything (r : Ty) : bindIn r .unknown = some [] :=
  bindIn_unknown r

/-- identical (written) types are assignable -/
theorem identical_accepted (ar : String → Nat) (r : Ty) (hd : declarable r = true) (hr : wfTy ar r = true) :
    bindIn r r = some [] :=
  (bindIn_nil_iff ar r r hd hr hr).mpr (sub_refl r hd)

/-- **generic parameters are bound consistently**: mixing two bindings succeeds exactly with, at every generic
parameter, the common type of what the two sides bound it to (`joinAt`: absent on one side → the other side's type;
present on both → their `common_type`, failure if there is none) -/
theorem mix_consistent (self other res : Bnd) (hnd : (other.map Prod.fst).Nodup)
    (h : mix self other = some res) (k : String) :
    joinAt (Bnd.get self k) (Bnd.get other k) = some (Bnd.get res k) := by
  induction other generalizing self with
  | nil => cases h; cases hg : Bnd.get res k <;> rfl
  | cons e rest ih =>
    obtain ⟨k1, v1⟩ := e
    rw [List.map_cons, List.nodup_cons] at hnd
    rw [mix_cons] at h
    obtain ⟨c, hc, h⟩ := Option.bind_eq_some_iff.mp h
    have := ih (self.insert k1 c) hnd.2 h
    rw [get_insert] at this
    simp only [Bnd.get]
    split
    · rename_i hk; subst hk
      rw [if_pos rfl, get_eq_none hnd.1] at this
      rw [← this]
      cases hg : Bnd.get self k1 <;> simp [hg, joinAt] at hc ⊢ <;> exact hc
    · rename_i hk
      rwa [if_neg hk] at this

/-- the bottom type is the unit of `common_type` (an empty container literal takes the type of the other side) -/
theorem commonType_unknown (a : Ty) : commonType a .unknown = some a ∧ commonType .unknown a = some a :=
  ⟨commonType_unknown_right a, commonType_unknown_left a⟩

/-- non-vacuity: `T := Optional<unknown>` mixed with `T := Optional<int>` is `T := Optional<int>`; with `T := str` it fails -/
example : mix [("T", .native "Optional" [.unknown])] [("T", .native "Optional" [.int])] = some [("T", .native "Optional" [.int])] ∧
    mix [("T", .native "Optional" [.unknown])] [("T", .str)] = none := ⟨rfl, rfl⟩

/-- `common_type` does not depend on the order of its arguments (types of expressions that are not function names) -/
theorem commonType_comm (a b : Ty) (ha : funcFree a = true) (hb : funcFree b = true) :
    commonType a b = commonType b a :=
  Option.ext fun c => ⟨commonType_swap a b c ha hb, commonType_swap b a c hb ha⟩

/-- **inferred types are least common types**: when `common_type` succeeds its result is an upper bound of both
types for the assignability order `Sub`, and it is below every other upper bound -/
theorem commonType_lub (ar : String → Nat) (a b c : Ty) (ha : good ar a) (hb : good ar b)
    (h : commonType a b = some c) :
    Sub a c ∧ Sub b c ∧ ∀ d, Sub a d → Sub b d → Sub c d :=
  ⟨(commonType_ub ar a b c ha hb h).2.1, (commonType_ub ar a b c ha hb h).2.2,
   fun d h1 h2 => commonType_least a b c d h h1 h2⟩

/-- non-vacuity: `[P(none(), [1]), P(some(1), [])]` (the input of `fix:` 143d6b4 in /repo): the common type joins argument-wise -/
example : commonType (.compound .struct "P" [.native "Optional" [.unknown], .native "Sequence" [.int]])
      (.compound .struct "P" [.native "Optional" [.int], .native "Sequence" [.unknown]]) =
    some (.compound .struct "P" [.native "Optional" [.int], .native "Sequence" [.int]]) := rfl

/-- **soundness with generics** (`bind_sound`): whenever `bind_in_assignment` succeeds on a written required type `r`
and a fully known supplied type `s` (no XFunc, no generic parameter; `unknown` allowed), the supplied type is assignable
to `r` instantiated with the binding found — whatever was bound, at every depth. `subst` substitutes everywhere. -/
theorem bind_sound (ar : String → Nat) (r s : Ty) (b : Bnd) (hd : declarable r = true) (hr : wfTy ar r = true)
    (hg : ground s = true) (hw : wfTy ar s = true) (h : bindIn r s = some b) : Sub s (subst b r) :=
  (bindIn_sound ar r s b hd hr hg hw h).2

/-- the same for a function name supplied where a function type is required (arity window, parameters, return type) -/
theorem bind_sound_function_name (ar : String → Nat) (ps : List Ty) (r : Ty) (g : Option (List String))
    (ps' : List Ty) (n' : Nat) (r' : Ty) (b : Bnd)
    (hd : declarable (.callable ps r) = true) (hr : wfTy ar (.callable ps r) = true)
    (hgp : groundList ps' = true) (hgr : ground r' = true) (hw : wfTy ar (.func g ps' n' r') = true)
    (h : bindIn (.callable ps r) (.func g ps' n' r') = some b) :
    Sub (.func g ps' n' r') (subst b (.callable ps r)) := by
  have hd := Bool.and_eq_true_iff.mp hd
  have hr := Bool.and_eq_true_iff.mp hr
  have hw := Bool.and_eq_true_iff.mp (Bool.and_eq_true_iff.mp hw).1
  rw [bindIn_callable] at h
  obtain ⟨hc, h⟩ := Option.ite_none_left_eq_some.mp h
  have hc := in_window_iff.mp hc
  obtain ⟨acc, bret, hacc, hbret, hm⟩ := tail_some h
  obtain ⟨a1, -, a3⟩ := bindZip_sound ar ps ps' [] acc hd.1 hr.1 hgp hw.1 (bok_nil ar) hacc
  obtain ⟨r1, r2⟩ := bindIn_sound ar r r' bret hd.2 hr.2 hgr hw.2 hbret
  rw [List.take_of_length_le hc.2] at a3
  obtain ⟨-, t2, t3⟩ := tail_sound ar (groundList_take ps' _ hgp) hgr a1 r1 hm a3 r2
  have hl := substList_length b ps
  exact .func (hl ▸ hc.1) (hl ▸ hc.2) (hl ▸ t2) t3

/-- **generic parameters are bound consistently over all arguments**: when a call binds, *one* binding makes every
argument assignable to its instantiated parameter -/
theorem specBind_sound (ar : String → Nat) (f : FuncSpec) (args : List Ty) (b : Bnd)
    (hd : declarableList f.ps = true) (hr : wfList ar f.ps = true)
    (hg : groundList args = true) (hw : wfList ar args = true) (h : specBind f args = some b) :
    SubList args (substList b (f.ps.take args.length)) := by
  obtain ⟨hc, h⟩ := Option.ite_none_left_eq_some.mp h
  have hc := in_window_iff.mp hc
  obtain ⟨-, -, k3⟩ := bindZip_sound ar f.ps args [] b hd hr hg hw (bok_nil ar) h
  rwa [List.take_of_length_le hc.2] at k3

/-- the same for struct construction: one binding of the struct's generic parameters fits every field -/
theorem compoundBind_sound (ar : String → Nat) (fields args : List Ty) (b : Bnd)
    (hd : declarableList fields = true) (hr : wfList ar fields = true)
    (hg : groundList args = true) (hw : wfList ar args = true) (h : compoundBind fields args = some b) :
    SubList args (substList b fields) := by
  obtain ⟨hl, h⟩ := Option.ite_none_left_eq_some.mp h
  have hl : args.length = fields.length := by simpa using hl
  rw [compoundBindLoop_eq] at h
  obtain ⟨-, -, k3⟩ := bindZip_sound ar fields args [] b hd hr hg hw (bok_nil ar) h
  rwa [take_length_of_eq hl, take_length_of_eq hl.symm] at k3

/-- **argument, field and variant-payload positions**: an accepted supplied type is assignable to the required type
under some instantiation of the receiving declaration's generic parameters -/
theorem accept_generic_sound (ar : String → Nat) (pos : Pos) (hp : pos.requiresEmpty = false) (r s : Ty)
    (hd : declarable r = true) (hr : wfTy ar r = true) (hg : ground s = true) (hw : wfTy ar s = true)
    (h : accepts pos r s = true) : ∃ b, Sub s (subst b r) := by
  cases pos <;> simp [Pos.requiresEmpty] at hp <;> simp only [accepts, Option.isSome_iff_exists] at h <;>
    obtain ⟨b, hb⟩ := h
  · have := specBind_sound ar { gens := none, ps := [r], nreq := 1, ret := .int } [s] b
      (by simp [declarableList, hd]) (by simp [wfList, hr]) (by simp [groundList, hg]) (by simp [wfList, hw]) hb
    simp only [List.length_cons, List.length_nil, List.take_succ_cons, List.take_zero, substList] at this
    cases this with | cons h1 _ => exact ⟨b, h1⟩
  · have := compoundBind_sound ar [r] [s] b
      (by simp [declarableList, hd]) (by simp [wfList, hr]) (by simp [groundList, hg]) (by simp [wfList, hw]) hb
    simp only [substList] at this
    cases this with | cons h1 _ => exact ⟨b, h1⟩
  · exact ⟨b, (bindIn_sound ar r s b hd hr hg hw hb).2⟩

/-- **completeness and minimality** (`bind_complete`): if *some* instantiation `σ` of the generic parameters makes a
fully known data type `s` (no function type, no generic parameter; `unknown` allowed) assignable to `r`, then
`bind_in_assignment` succeeds, and the binding it returns is the least one: every parameter it binds is bound by `σ`
to a type above (`Sub`) the one found — the inferred binding is the least common type of what the parameter met. -/
theorem bind_complete (σ : Bnd) (r s : Ty) (hd : data s = true) (h : Sub s (subst σ r)) :
    ∃ b, bindIn r s = some b ∧ ble b σ := by
  obtain ⟨b, hb, h1, _⟩ := (bindIn_complete_all σ).1 r s hd h
  exact ⟨b, hb, bleM_ble h1⟩

/-- **argument, field and variant-payload positions accept exactly the assignable**: a fully known data value is
accepted where `r` is required iff some instantiation of the receiving declaration's generic parameters makes its type
assignable to `r` -/
theorem accept_generic_iff (ar : String → Nat) (pos : Pos) (hp : pos.requiresEmpty = false) (r s : Ty)
    (hdr : declarable r = true) (hr : wfTy ar r = true) (hd : data s = true) (hw : wfTy ar s = true) :
    accepts pos r s = true ↔ ∃ σ, Sub s (subst σ r) := by
  constructor
  · exact accept_generic_sound ar pos hp r s hdr hr (data_ground_all.1 s hd) hw
  · rintro ⟨σ, h⟩
    obtain ⟨b, hb, h1, h2⟩ := (bindIn_complete_all σ).1 r s hd h
    cases pos <;> simp [Pos.requiresEmpty] at hp
    · -- argument: `XFuncSpec::bind` of a one-parameter function
      obtain ⟨res, hm, _, _⟩ := mix_complete σ [] b (bleM_nil σ) h1 bdata_nil h2
      simp [accepts, specBind, bindZip, hb, hm]
    · -- field: `XCompoundSpec::bind` of a one-field struct
      obtain ⟨res, hm, _, _⟩ := mix_complete σ [] b (bleM_nil σ) h1 bdata_nil h2
      simp [accepts, compoundBind, compoundBindLoop, hb, hm]
    · simp [accepts, hb]

/-- non-vacuity of `specBind_sound`: `fn f<T>(a: T, b: Optional<T>)` called with `(Sequence<unknown>, Optional<Sequence<int>>)`
binds `T := Sequence<int>` -/
example : specBind { gens := some ["T"], ps := [.generic "T", .native "Optional" [.generic "T"]], nreq := 2, ret := .int }
      [.native "Sequence" [.unknown], .native "Optional" [.native "Sequence" [.int]]] =
    some [("T", .native "Sequence" [.int])] := rfl

/-- **the inferred type of a generic call has no free generic parameter of the callee** (`rtype_closed`): every generic
parameter `g` of the called function is gone from the result type — replaced by what the arguments bound it to, or by the
bottom type when it met nothing but the bottom type — provided the argument types do not mention `g` themselves (a
recursive call inside the generic function) and neither do the bound types. Holds whether or not OTHER generic parameters
of the same call were bound. -/
theorem rtype_closed (gens : List String) (ret : Ty) (b : Bnd) (args : List Ty) (g : String)
    (hg : g ∈ gens) (hret : declarable ret = true) (hargs : mentionsGenericList g args = false) (hb : BNoGen g b) :
    mentionsGeneric g (rtypeForCall (some gens) ret b args) = false := by
  obtain ⟨i1, -, i3⟩ := fillUnbound_spec args g gens b hb
  exact (resolveBind_closed_all g _ i1 (i3 g hg hargs)).1 ret hret

/-- non-vacuity: `fn pair<A,B>(a: Sequence<A>, b: Sequence<B>) -> (Sequence<A>, Sequence<B>)` called as `pair([1], [])`:
`A` is bound, `B` met only the bottom type and is completed to it -/
example : typeOfCall (.func (some ["A", "B"]) [.native "Sequence" [.generic "A"], .native "Sequence" [.generic "B"]] 2
      (.tuple [.native "Sequence" [.generic "A"], .native "Sequence" [.generic "B"]]))
      [.native "Sequence" [.int], .native "Sequence" [.unknown]] =
    .ok (.tuple [.native "Sequence" [.int], .native "Sequence" [.unknown]]) := rfl

/-- a call binds only when the number of arguments lies in the window [required, all parameters] -/
theorem specBind_arity (f : FuncSpec) (args : List Ty) (b : Bnd) (h : specBind f args = some b) :
    f.nreq ≤ args.length ∧ args.length ≤ f.ps.length := by
  unfold specBind at h
  split at h
  · cases h
  · exact in_window_iff.mp ‹_›

/-- function types are assignable to function types only at exactly the same arity (whatever is bound) -/
theorem callable_exact_arity (ps ps' : List Ty) (r r' : Ty) (b : Bnd)
    (h : bindIn (.callable ps r) (.callable ps' r') = some b) : ps.length = ps'.length := by
  rw [bindIn_callable] at h
  simpa using (Option.ite_none_left_eq_some.mp h).1

/-- a call through a function-typed value type-checks only with exactly as many arguments as the type has
parameters, and then has the declared return type -/
theorem call_callable_exact (ps : List Ty) (r : Ty) (args : List Ty) (t : Ty)
    (h : typeOfCall (.callable ps r) args = .ok t) : args.length = ps.length ∧ t = r := by
  simp only [typeOfCall] at h
  split at h
  · cases h
  · rename_i hl
    split at h
    · cases h; exact ⟨by simpa using hl, rfl⟩
    · cases h

/-- **calls through function-typed values are checked exactly**: `f(a1, …, an)` for `f : (P1, …, Pn) -> (R)` is
accepted iff there are exactly `n` arguments and each is assignable to its parameter type (generic parameters in
the `Pi` are rigid: nothing may be bound) -/
theorem call_callable_iff (ar : String → Nat) (ps : List Ty) (r : Ty) (args : List Ty)
    (hd : declarableList ps = true) (hr : wfList ar ps = true) (hw : wfList ar args = true) :
    typeOfCall (.callable ps r) args = .ok r ↔ args.length = ps.length ∧ SubList args ps := by
  simp only [typeOfCall]
  by_cases hl : args.length = ps.length
  · simp only [hl, bne_self_eq_false, Bool.false_eq_true, if_false, true_and]
    rw [← callableArgs_iff ar ps args hd hr hw hl.symm]
    cases callableArgs ps args <;> simp
  · have : ¬ SubList args ps := fun h => hl h.length_eq
    simp [hl, this]

/-- a call through a variable holding a function respects the function's arity window -/
theorem call_func_window (g : Option (List String)) (ps : List Ty) (n : Nat) (r : Ty) (args : List Ty) (t : Ty)
    (h : typeOfCall (.func g ps n r) args = .ok t) : n ≤ args.length ∧ args.length ≤ ps.length := by
  simp only [typeOfCall] at h
  split at h
  · cases h
  · exact in_window_iff.mp ‹_›

/-- the inputs of `fix:` 2ad94d4 in /repo, on the model: `f("a")` for `f: (int)->(int)` is an argument type error,
`f(1, 2)` an arity error -/
example : typeOfCall (.callable [.int] .int) [.str] = .error .invalidArgumentType ∧
    typeOfCall (.callable [.int] .int) [.int, .int] = .error .callableBindingFailed ∧
    typeOfCall (.callable [.int] .int) [.int] = .ok .int := ⟨rfl, rfl, rfl⟩

end XrayModel.C04
