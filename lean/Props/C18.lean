/-
C18 — Strings are code-point sequences; literals mean what they say.
Property theorems only; helper lemmas live in XrayProofs/FString.lean, the model in XrayModel/{FString,Lex}.lean.

`s.buf : List Char` is the sequence of Unicode scalar values of the string (what `chars` shows); `s.wf` is
the representation invariant of `FencedString` (the char-start table is empty over a pure-ASCII buffer, or
holds the UTF-8 byte offset of every character).
-/
import XrayProofs.FString
import XrayProofs.Lex
namespace XrayModel.C18
open XrayModel.FStr XrayModel.FStr.FS XrayModel.Lex

/-- `from_string` keeps the text, establishes the invariant, and is canonical: the table is empty exactly
when every character is ASCII -/
theorem inv_fromString (cs : List Char) :
    (fromString cs).buf = cs ∧ (fromString cs).wf ∧
    ((fromString cs).starts = [] ↔ ∀ c ∈ cs, c.utf8Size = 1) :=
  fromString_spec cs

/-- `len` is the number of code points, whatever the representation -/
theorem len_chars (s : FS) (h : s.wf) : s.len = s.buf.length := FStr.len_chars s h

/-- the byte offsets of the model are those of the UTF-8 encoding: the encoded buffer (what the driver shows and
the tie compares with the implementation's bytes) is exactly `byteLen` long, one to four bytes per code point -/
theorem utf8_length (cs : List Char) : (encode cs).length = byteLen cs := encode_length cs

/-- slicing is list slicing on code points: for `a ≤ len` and `a ≤ b` the Rust code neither panics nor
leaves the invariant, and yields the code points `a … min b len` (the end is clipped as for lists) -/
theorem substring_chars (s : FS) (hs : s.wf) (a b : Nat) (ha : a ≤ s.buf.length) (hab : a ≤ b) :
    ∃ r, s.substring a (some b) = .ok r ∧ r.wf ∧ r.buf = (s.buf.drop a).take (b - a) :=
  substring_some s hs a b ha hab

/-- slicing to the end -/
theorem substring_to_end (s : FS) (hs : s.wf) (a : Nat) (ha : a ≤ s.buf.length) :
    ∃ r, s.substring a none = .ok r ∧ r.wf ∧ r.buf = s.buf.drop a :=
  substring_none s hs a ha

-- the hypotheses are satisfiable on a string mixing 1-, 2- and 4-byte characters
example : (fromString ['a', 'é', '😀', 'b']).wf ∧ (fromString ['a', 'é', '😀', 'b']).substring 1 (some 3)
    = .ok ⟨['é', '😀'], [0, 2]⟩ := ⟨(inv_fromString _).2.1, by decide +kernel⟩

/-- concatenation (`push`, `+`) keeps the invariant and concatenates the code points, whichever of the two
representations the operands have -/
theorem push_chars (s o : FS) (hs : s.wf) (ho : o.wf) : (s.push o).wf ∧ (s.push o).buf = s.buf ++ o.buf :=
  push_spec s o hs ho

/-- `push_ascii` with an ASCII argument -/
theorem pushAscii_chars (s : FS) (t : List Char) (hs : s.wf) (ht : ∀ c ∈ t, c.utf8Size = 1) :
    (s.pushAscii t).wf ∧ (s.pushAscii t).buf = s.buf ++ t := pushAscii_spec s t hs ht

/-- every operation that builds a string keeps the invariant (`substring` for in-range requests, `push`,
`from_string`, and the case mappings, which rebuild the table from the mapped text) -/
theorem inv_preserved (s o : FS) (hs : s.wf) (ho : o.wf) (a : Nat) (e : Option Nat) (r : FS)
    (allCased : Bool) (mapped : List Char) :
    (s.push o).wf ∧ (s.substring a e = .ok r → a ≤ s.buf.length → (∀ b, e = some b → a ≤ b) → r.wf) ∧
    (s.caseMap allCased mapped = some r → r.wf ∧ r.buf = mapped) := by
  refine ⟨(push_spec s o hs ho).1, ?_, ?_⟩
  · intro h ha hae
    have ⟨r', h1, h2⟩ : ∃ r', s.substring a e = .ok r' ∧ r'.wf := by
      cases e with
      | none => exact (substring_none s hs a ha).imp fun _ h => ⟨h.1, h.2.1⟩
      | some b => exact (substring_some s hs a b ha (hae b rfl)).imp fun _ h => ⟨h.1, h.2.1⟩
    rw [h1] at h; cases h; exact h2
  · intro h
    unfold FS.caseMap at h
    split at h
    · cases h
    · cases h; exact ⟨(fromString_spec mapped).2.1, (fromString_spec mapped).1⟩

/-- `s[i]`: every index in `-len ≤ i < len` (negative ones count from the end) yields exactly that code point -/
theorem get_spec (s : FS) (hs : s.wf) (i : Int) (hlen : s.buf.length < usizeLimit)
    (hlo : -(s.buf.length : Int) ≤ i) (hhi : i < s.buf.length) :
    ∃ r, get s i = .ok r ∧ r.wf ∧
      r.buf = (s.buf.drop (if i < 0 then i + s.buf.length else i).toNat).take 1 :=
  FStr.get_spec s hs i hlen hlo hhi

/-- an index outside `-len ≤ i < len` is an error value -/
theorem get_out_of_range (s : FS) (hs : s.wf) (i : Int)
    (h : i < -(s.buf.length : Int) ∨ (s.buf.length : Int) ≤ i) : ∃ m, get s i = .err m :=
  FStr.get_out_of_range s hs i h

/-- `find(s, n, start)`: the least character index `≥ start` at which `n` occurs in the code-point sequence,
`none` if there is none (`occAt n cs i` : `n` is a prefix of `cs.drop i`) -/
theorem find_spec (s n : FS) (hs : s.wf) (hn : n.buf ≠ []) (st : Nat) (hst : st ≤ s.buf.length)
    (h64 : st < usizeLimit) :
    (∃ i, find s n (some st) = .ok (some i) ∧ st ≤ i ∧ occAt n.buf s.buf i ∧
        ∀ j, st ≤ j → j < i → ¬ occAt n.buf s.buf j) ∨
    (find s n (some st) = .ok none ∧ ∀ j, st ≤ j → j ≤ s.buf.length → ¬ occAt n.buf s.buf j) :=
  FStr.find_spec s n hs hn st hst h64

/-- `rfind(s, n, end)`: the greatest character index at which `n` occurs inside the first `end` code points -/
theorem rfind_spec (s n : FS) (hs : s.wf) (hn : n.buf ≠ []) (e : Nat) (h64 : e < usizeLimit) :
    (∃ i, rfind s n (some e) = .ok (some i) ∧ occAt n.buf (s.buf.take e) i ∧
        ∀ j, i < j → j ≤ (s.buf.take e).length → ¬ occAt n.buf (s.buf.take e) j) ∨
    (rfind s n (some e) = .ok none ∧ ∀ j, j ≤ (s.buf.take e).length → ¬ occAt n.buf (s.buf.take e) j) :=
  FStr.rfind_spec s n hs hn e h64

/-- whatever the integer arguments, the index handling of `get`, `find`, `rfind` and `substring` never reaches
a Rust panic (no byte slice past the end or inside a character, no table index out of range): a request is
answered by a value or by an error value -/
theorem out_of_range_is_error (s n : FS) (hs : s.wf) (i j : Int) (oi : Option Int) :
    ¬ (get s i).isPanic ∧ ¬ (find s n oi).isPanic ∧ ¬ (rfind s n oi).isPanic ∧
    ¬ (FStr.substring s i j).isPanic :=
  ⟨get_no_panic s hs i, find_no_panic s n hs oi, rfind_no_panic s n hs oi, substring_no_panic s hs i j⟩

-- the inputs of `fix:` 3367ebc, 8077002 and d4b9ce0 in /repo, on the model.  Before 3367ebc `to_lowercase` kept
-- the table: that of "aİb" is not the table of its lower-casing "ai̇b"
example : ¬ (FS.mk ['a', 'i', '\u0307', 'b'] (fromString ['a', 'İ', 'b']).starts).wf := by
  intro h
  rcases h with ⟨h1, _⟩ | h
  · revert h1; decide
  · revert h; decide
example : get (fromString ['a', 'b', 'c']) 5 = .err "index out of bounds" := by decide +kernel
example : find (fromString ['é', 'a']) (fromString ['a']) none = .ok (some 1) := by decide +kernel

/-! ### literals (model: XrayModel/Lex.lean, `parseLiteral` = the `#`-fence / quote scanner of xray.pest followed by
`apply_escapes`; `escapes_total` and `escapes_plain` are in Props/C12.lean) -/

/-- a raw literal `r#…#"t"#…#` (either quote kind, any fence) denotes exactly `t` when `t` does not contain the
quote character -/
theorem raw_literal_means_itself (q : Char) (hq : isQuote q) (n : Nat) (t : List Char) (hnot : q ∉ t) :
    parseLiteral ('r' :: (List.replicate n '#' ++ q :: (t ++ q :: List.replicate n '#'))) = some (.ok t, []) :=
  parseLiteral_raw q hq n t (no_close_of_not_mem q n t _ hnot)

/-- a plain literal whose text has neither the quote character nor a backslash denotes exactly that text -/
theorem plain_literal_means_itself (q : Char) (hq : isQuote q) (n : Nat) (t : List Char) (hnot : q ∉ t)
    (hb : ∀ c ∈ t, c ≠ '\\') :
    parseLiteral (List.replicate n '#' ++ q :: (t ++ q :: List.replicate n '#')) = some (.ok t, []) :=
  parseLiteral_plain q hq n t hb (no_close_of_not_mem q n t _ hnot)

/-- inside a fence of at least one `#` the text may contain its own quote character, as long as no quote is
directly followed by `#`: the literal still denotes exactly the text (the fence is matched, not the first quote) -/
theorem fence_admits_quotes (q : Char) (hq : isQuote q) (n : Nat) (hn : 1 ≤ n) (t : List Char)
    (h : ∀ i, t[i]? = some q → t[i + 1]? ≠ some '#') :
    parseLiteral ('r' :: (List.replicate n '#' ++ q :: (t ++ q :: List.replicate n '#'))) = some (.ok t, []) ∧
    ((∀ c ∈ t, c ≠ '\\') →
      parseLiteral (List.replicate n '#' ++ q :: (t ++ q :: List.replicate n '#')) = some (.ok t, [])) :=
  ⟨parseLiteral_raw q hq n t (no_close_of_fence q hq n hn t h),
   fun hb => parseLiteral_plain q hq n t hb (no_close_of_fence q hq n hn t h)⟩

/-- the escape sequences of the book (string_literals.md) denote the documented characters; an undocumented
one is a compilation error, never a character -/
theorem escape_table :
    applyEscapes ['\\', 'n'] = .ok ['\n'] ∧ applyEscapes ['\\', 'r'] = .ok ['\r'] ∧
    applyEscapes ['\\', 't'] = .ok ['\t'] ∧ applyEscapes ['\\', '\\'] = .ok ['\\'] ∧
    applyEscapes ['\\', '"'] = .ok ['"'] ∧ applyEscapes ['\\', '\''] = .ok ['\''] ∧
    applyEscapes ['\\', '0'] = .ok [Char.ofNat 0] ∧
    applyEscapes "\\u{1F600}".toList = .ok ['😀'] ∧ applyEscapes "\\u{41}".toList = .ok ['A'] ∧
    applyEscapes "\\q".toList = .error "BadEscapeSequence" ∧
    applyEscapes "\\u{110000}".toList = .error "BadEscapeSequence" ∧
    applyEscapes "\\u{D800}".toList = .error "BadEscapeSequence" ∧
    applyEscapes "\\u{+41}".toList = .error "BadEscapeSequence" ∧
    applyEscapes "\\u{0000041}".toList = .error "BadEscapeSequence" := by decide +kernel

example : parseLiteral "##\"a\"#b\"##".toList = some (.ok "a\"#b".toList, []) := by decide +kernel
example : parseLiteral "'it\\'s'".toList = some (.ok "it's".toList, []) := by decide +kernel

end XrayModel.C18
