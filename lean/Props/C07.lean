/-
C07 — Tail-call optimisation is semantically transparent.
Theorems over the core evaluator (XrayModel/Core.lean).
-/
import XrayProofs.CoreTco
namespace XrayModel.C07
open XrayModel.Core

/-- A self-call that is not offered the tail slot is an ordinary call, whatever `tco` says. -/
theorem non_tail_self_call_is_ordinary (fuel : Nat) (cfg : Cfg) (fr : Frame) (f : String) (c : Val)
    (args : List Expr) (st : St) (hs : fr.self = some (f, c)) (hl : lookup f fr.env = none) :
    eval (fuel + 1) cfg fr (.call f args) false st = callVal fuel cfg fr c args false st := by
  simp [eval, hs, hl]

/-- With the tail slot free and tco on, a self-call evaluates its arguments and hands them to the
trampoline; no frame is created and no call is counted at this point. -/
theorem tail_self_call_returns_args (fuel : Nat) (cfg : Cfg) (fr : Frame) (f : String) (c : Val)
    (args : List Expr) (st st' : St) (vs : List Val) (hs : fr.self = some (f, c))
    (hl : lookup f fr.env = none) (ht : cfg.tco = true)
    (ha : evalList fuel cfg fr args st = (.ok vs, st')) :
    eval (fuel + 1) cfg fr (.call f args) true st = (.tail vs, st') := by
  simp [eval, hs, hl, ht, ha]

/-! ## 1. A tail call never escapes -/

/-- An evaluation that was not offered the tail slot never returns a tail call — so every
`eval(…, false)` site of the interpreter may apply `unwrap_value` to the result. -/
theorem tail_never_escapes (fuel : Nat) (cfg : Cfg) (fr : Frame) (e : Expr) (st : St) (args : List Val) :
    (eval fuel cfg fr e false st).1 ≠ .tail args :=
  Res.ne_tail ((noTailAt cfg fuel).eval fr e false st rfl) args

example : eval 20 {} (sumFrame 3 0) sumBody true {} = (.tail [.int 2, .int 3], {}) ∧
    eval 30 {} (sumFrame 3 0) sumBody false {} = (.val (.int 6), {}) := by
  constructor <;> rfl

/-- Calls never return a tail call to their caller: a call by name or a native without the tail
slot, and — whatever the slot — a call of a function value, `eval_func_with_values`, the trampoline
and closure creation. -/
theorem tail_never_escapes_calls (fuel : Nat) (cfg : Cfg) (fr : Frame) (st : St) (a : List Val) :
    (∀ f args, (callNamed fuel cfg fr f args false st).1 ≠ .tail a) ∧
    (∀ f args, (builtin fuel cfg fr f args false st).1 ≠ .tail a) ∧
    (∀ c args tail, (callVal fuel cfg fr c args tail st).1 ≠ .tail a) ∧
    (∀ h c vs, (callUser fuel cfg h c vs st).1 ≠ .tail a) ∧
    (∀ h c vs rec, (tramp fuel cfg h c vs rec st).1 ≠ .tail a) ∧
    (∀ fn, (mkClos fuel cfg fr fn st).1 ≠ .tail a) := by
  have H := noTailAt cfg fuel
  exact ⟨fun f args => Res.ne_tail (H.callNamed fr f args false st rfl) a, fun f args => Res.ne_tail (H.builtin fr f args false st rfl) a,
    fun c args tail => Res.ne_tail (H.callVal fr c args tail st) a, fun h c vs => Res.ne_tail (H.callUser h c vs st) a,
    fun h c vs rec => Res.ne_tail (H.tramp h c vs rec st) a, fun fn => Res.ne_tail (H.mkClos fr fn st) a⟩

/-- Argument lists, parameter defaults, the declarations of a body and a whole program never end
with a tail call as their outcome. -/
theorem tail_never_escapes_lists (fuel : Nat) (cfg : Cfg) (fr : Frame) (st : St) (a : List Val) :
    (∀ es, (evalList fuel cfg fr es st).1 ≠ .error (.tail a)) ∧
    (∀ ps, (evalDflts fuel cfg fr ps st).1 ≠ .error (.tail a)) ∧
    (∀ ds, (evalDecls fuel cfg fr ds st).1 ≠ .error (.tail a)) ∧
    (∀ ds, (runProgram fuel cfg ds).1 ≠ .error (.tail a)) := by
  have H := noTailAt cfg fuel
  exact ⟨fun es => (H.evalList fr es st).ne a, fun ps => (H.evalDflts fr ps st).ne a,
    fun ds => (H.evalDecls fr ds st).ne a, fun ds => (H.evalDecls _ ds {}).ne a⟩

/-- With the optimisation switched off no evaluation whatsoever returns a tail call. -/
theorem no_tail_without_tco (fuel : Nat) (cfg : Cfg) (htco : cfg.tco = false) (fr : Frame) (tail : Bool)
    (st : St) (a : List Val) :
    (∀ e, (eval fuel cfg fr e tail st).1 ≠ .tail a) ∧
    (∀ f args, (callNamed fuel cfg fr f args tail st).1 ≠ .tail a) ∧
    (∀ f args, (builtin fuel cfg fr f args tail st).1 ≠ .tail a) := by
  have H := noTailAt cfg fuel
  have ht : (tail && cfg.tco) = false := by rw [htco, Bool.and_false]
  exact ⟨fun e => Res.ne_tail (H.eval fr e tail st ht) a, fun f args => Res.ne_tail (H.callNamed fr f args tail st ht) a,
    fun f args => Res.ne_tail (H.builtin fr f args tail st ht) a⟩

/-- `unwrap_value` is never applied to a TailCall: the model turns every such application into the
outcome `stuck "tail escaped"`, and no evaluation whatsoever — any fuel, configuration, frame,
expression, with or without the tail slot; calls, trampoline, lists, declarations, programs —
produces it. -/
theorem tail_escape_unreachable (fuel : Nat) (cfg : Cfg) (fr : Frame) (st : St) :
    (∀ e tail, (eval fuel cfg fr e tail st).1 ≠ .stuck "tail escaped") ∧
    (∀ c args tail, (callVal fuel cfg fr c args tail st).1 ≠ .stuck "tail escaped") ∧
    (∀ h c vs, (callUser fuel cfg h c vs st).1 ≠ .stuck "tail escaped") ∧
    (∀ h c vs rec, (tramp fuel cfg h c vs rec st).1 ≠ .stuck "tail escaped") ∧
    (∀ es, (evalList fuel cfg fr es st).1 ≠ .error (.stuck "tail escaped")) ∧
    (∀ ds, (evalDecls fuel cfg fr ds st).1 ≠ .error (.stuck "tail escaped")) ∧
    (∀ ds, (runProgram fuel cfg ds).1 ≠ .error (.stuck "tail escaped")) := by
  have H := noEscAt cfg fuel
  have key : ∀ r : Res, r.isEsc = false → r ≠ .stuck "tail escaped" := by
    rintro r h rfl; cases h
  exact ⟨fun e tail => key _ (H.eval fr e tail st), fun c args tail => key _ (H.callVal fr c args tail st),
    fun h c vs => key _ (H.callUser h c vs st), fun h c vs rec => key _ (H.tramp h c vs rec st),
    fun es => (H.evalList fr es st).ne, fun ds => (H.evalDecls fr ds st).ne, fun ds => (H.evalDecls _ ds {}).ne⟩

/-! ## 2. Only a self-call by name in tail position takes the tail path -/

/-- A tail call can only come out of an evaluation that was offered the tail slot, with tco on, in
a frame that has a recursion cell `name` which no local binding shadows, and from an expression that
is syntactically a call by name of `name` in tail position (`TailPos`: the call itself, or the
then/else argument of `if`, the second argument of `and`, `or`, `if_error`, nested). -/
theorem tail_only_self_call (fuel : Nat) (cfg : Cfg) (fr : Frame) (e : Expr) (tail : Bool) (st st' : St)
    (a : List Val) (h : eval fuel cfg fr e tail st = (.tail a, st')) :
    tail = true ∧ cfg.tco = true ∧
      ∃ name c, fr.self = some (name, c) ∧ lookup name fr.env = none ∧ TailPos name e :=
  (tailOriginAt cfg fuel).eval fr e tail st a st' h

example : TailPos "f" sumBody := .ifElse _ _ _ (.call _)

/-- A self-call that is not in tail position is never treated as a tail call, whatever the slot:
(1) a call of anything that is neither the recursion cell nor a forwarding native — so a self-call
under an operator (`add(f(n-1), 1)`), in argument position (`g(f(n-1))`), through an alias
(`let g = f; g(n-1)`) or inside a lambda body run by another frame (whose cell is not `f`);
(2) a computed callee (a captured copy), tuples, arrays, items, variables, lambdas;
(3) the condition of `if` and the first argument of `and`/`or`/`if_error` (the other arguments
not being tail positions themselves);
(4) anything at all in a frame without recursion cell (top level, anonymous lambda) or whose cell
is shadowed. -/
theorem non_tail_not_optimised (fuel : Nat) (cfg : Cfg) (fr : Frame) (tail : Bool) (st : St) (a : List Val) :
    (∀ op args, op ∉ ["if", "and", "or", "if_error"] → (∀ c, fr.self ≠ some (op, c)) →
        (eval fuel cfg fr (.call op args) tail st).1 ≠ .tail a) ∧
    (∀ fe args es e i x fn, (eval fuel cfg fr (.callE fe args) tail st).1 ≠ .tail a ∧
        (eval fuel cfg fr (.tup es) tail st).1 ≠ .tail a ∧ (eval fuel cfg fr (.arr es) tail st).1 ≠ .tail a ∧
        (eval fuel cfg fr (.item e i) tail st).1 ≠ .tail a ∧ (eval fuel cfg fr (.var x) tail st).1 ≠ .tail a ∧
        (eval fuel cfg fr (.lam fn) tail st).1 ≠ .tail a) ∧
    (∀ c x y, (∀ name, ¬ TailPos name x ∧ ¬ TailPos name y) → (∀ v, fr.self ≠ some ("if", v)) →
        (eval fuel cfg fr (.call "if" [c, x, y]) tail st).1 ≠ .tail a) ∧
    (∀ op x y, op ∈ ["and", "or", "if_error"] → (∀ name, ¬ TailPos name y) → (∀ v, fr.self ≠ some (op, v)) →
        (eval fuel cfg fr (.call op [x, y]) tail st).1 ≠ .tail a) ∧
    ((fr.self = none ∨ ∃ name c v, fr.self = some (name, c) ∧ lookup name fr.env = some v) →
        ∀ e, (eval fuel cfg fr e tail st).1 ≠ .tail a) := by
  have key : ∀ e, (eval fuel cfg fr e tail st).1 = .tail a →
      ∃ name c, fr.self = some (name, c) ∧ lookup name fr.env = none ∧ TailPos name e := by
    intro e h
    have := tail_only_self_call fuel cfg fr e tail st (eval fuel cfg fr e tail st).2 a (by rw [← h])
    exact this.2.2
  refine ⟨?_, ?_, ?_, ?_, ?_⟩
  · intro op args hop hself h
    obtain ⟨name, c, hs, _, hp⟩ := key _ h
    rcases hp.inv with rfl | ⟨_, _, _, rfl, _⟩ | ⟨_, _, rfl | rfl | rfl, _⟩
    · exact hself c hs
    all_goals simp at hop
  · intro fe args es e i x fn
    refine ⟨?_, ?_, ?_, ?_, ?_, ?_⟩ <;> intro h <;> obtain ⟨_, _, _, _, hp⟩ := key _ h <;> cases hp
  · intro c x y hxy hself h
    obtain ⟨name, v, hs, _, hp⟩ := key _ h
    rcases hp.inv with rfl | ⟨_, _, _, _, hargs, hp⟩ | ⟨_, _, h1 | h1 | h1, _⟩
    · exact hself v hs
    · simp only [List.cons.injEq, and_true] at hargs
      obtain ⟨_, rfl, rfl⟩ := hargs
      rcases hp with hp | hp
      · exact (hxy name).1 hp
      · exact (hxy name).2 hp
    all_goals simp at h1
  · intro op x y hop hy hself h
    obtain ⟨name, v, hs, _, hp⟩ := key _ h
    rcases hp.inv with rfl | ⟨_, _, _, rfl, _⟩ | ⟨_, _, _, hargs, hp⟩
    · exact hself v hs
    · simp at hop
    · simp only [List.cons.injEq, and_true] at hargs
      obtain ⟨_, rfl⟩ := hargs
      exact hy name hp
  · intro hfr e h
    obtain ⟨name, c, hs, hl, _⟩ := key _ h
    rcases hfr with hn | ⟨name', c', v, hs', hl'⟩
    · rw [hn] at hs; cases hs
    · rw [hs'] at hs; cases hs; rw [hl] at hl'; cases hl'

/-- `fn f(n) { if(n == 0, 0, add(f(n - 1), 1)) }`: the self-call sits under an operator; offered the
tail slot, the body runs the inner call as an ordinary call and returns a value. -/
example :
    let body : Expr := .call "if" [.call "eq" [.var "n", .int 0], .int 0,
      .call "add" [.call "f" [.call "sub" [.var "n", .int 1]], .int 1]]
    let c : Val := .clos (.mk (some "f") [.mk "n" none] [] body) [] []
    eval 40 {} { env := [("n", .int 2)], self := some ("f", c), height := 1 } body true {} = (.val (.int 2), {}) := by
  rfl

/-! ## 4. A tail loop uses no depth and no calls; only the recursion counter grows -/

/-- One iteration of the trampoline. If the body of the running closure (frame built by
`callFrame` at height `h + 1`, declarations evaluated) ends with a tail call, the loop goes on
with the new arguments **at the same height `h`**, **from exactly the state `st2` the body left**
(the loop adds nothing to `calls` and writes nothing) and with the recursion counter `rec + 1`,
provided `rec + 1` does not exceed the recursion limit; and it is the recursion violation exactly
in the other case (`rec + 1 > l`). Neither the depth limit nor the call limit is consulted. -/
theorem tail_loop_uses_no_depth_no_calls (fuel : Nat) (cfg : Cfg) (h : Nat) (f : Func) (dflts : List Val)
    (env ps : List (String × Val)) (args newArgs : List Val) (rec : Nat) (st st1 st2 : St) (fr' : Frame)
    (hd : depthOk cfg h)
    (hb : bindParams f.params args dflts = some ps)
    (hdecl : evalDecls fuel cfg (callFrame h f dflts env ps) f.decls st = (.ok fr', st1))
    (hbody : eval fuel cfg fr' f.body true st1 = (.tail newArgs, st2)) :
    (recOk cfg (rec + 1) →
      tramp (fuel + 1) cfg h (.clos f dflts env) args rec st
        = tramp fuel cfg h (.clos f dflts env) newArgs (rec + 1) st2) ∧
    (∀ l, cfg.recLimit = some l → rec + 1 > l →
      tramp (fuel + 1) cfg h (.clos f dflts env) args rec st = (.viol .recursion, st2)) :=
  tramp_body_tail fuel cfg h f dflts env ps args newArgs rec st st1 st2 fr' hd hb hdecl hbody

/-- the hypotheses are satisfiable: one turn of `f(3, 0)` under depth limit 2 and call limit 1 -/
example : let cfg : Cfg := { depthLimit := some 2, callLimit := some 1, recLimit := some 5 }
    depthOk cfg 0 ∧ recOk cfg (0 + 1) ∧
    bindParams sumFn.params [.int 3, .int 0] [] = some [("n", .int 3), ("acc", .int 0)] ∧
    evalDecls 20 cfg (callFrame 0 sumFn [] [] [("n", .int 3), ("acc", .int 0)]) sumFn.decls {} = (.ok (sumFrame 3 0), {}) ∧
    eval 20 cfg (sumFrame 3 0) sumFn.body true {} = (.tail [.int 2, .int 3], {}) := by
  refine ⟨?_, ?_, ?_, ?_, ?_⟩
  · intro l hl; cases hl; decide
  · intro l hl; cases hl; decide
  all_goals rfl

/-- **Every iteration count.** The accumulator-style function
`fn f(n, acc) { if(n == 0, acc, f(n - 1, acc + n)) }`, called as `f(n, acc)` from height `h`, for
*every* `n`: under any depth limit that admits the one frame (`h + 1 < depth limit`) and any call
limit that admits the one call, the optimised run returns `acc + (0 + 1 + … + n)`, leaves the state
as it was but for that one counted call, provided `n ≤` recursion limit (or none is set) — and it is
the recursion violation exactly when `n` exceeds the recursion limit. The loop is bounded by the
recursion limit only. -/
theorem tail_loop_bounded_by_recursion_limit_only (cfg : Cfg) (htco : cfg.tco = true) (h : Nat)
    (hd : depthOk cfg h) (n : Nat) (acc : Int) (st : St) (k : Nat)
    (hc : ∀ l, cfg.callLimit = some l → st.calls + 1 < l) :
    let st1 : St := if cfg.callLimit.isSome then { st with calls := st.calls + 1 } else st
    (recOk cfg n →
      callUser (k + 16 + n) cfg h sumClos [.int n, .int acc] st = (.val (.int (acc + tri n)), st1)) ∧
    (∀ l, cfg.recLimit = some l → n > l →
      callUser (k + 16 + n) cfg h sumClos [.int n, .int acc] st = (.viol .recursion, st1)) ∧
    2 * tri n = n * (n + 1) :=
  ⟨(sum_call cfg htco h hd n acc st k hc).1, (sum_call cfg htco h hd n acc st k hc).2, two_tri n⟩

/-- 10⁵ iterations under depth limit 2, call limit 2 and recursion limit 10⁵ succeed; one more
iteration is the recursion violation; the reference run (tco off) of three iterations already
exceeds depth limit 3. -/
example :
    let cfg : Cfg := { depthLimit := some 2, callLimit := some 2, recLimit := some 100000 }
    callUser (16 + 100000) cfg 0 sumClos [.int (100000 : Nat), .int 0] {} = (.val (.int (0 + tri 100000)), { calls := 1 }) ∧
    callUser (16 + 100001) cfg 0 sumClos [.int (100001 : Nat), .int 0] {} = (.viol .recursion, { calls := 1 }) ∧
    (callUser 40 { depthLimit := some 3, tco := false } 0 sumClos [.int 3, .int 0] {}).1 = .viol .depth := by
  intro cfg
  have hd : depthOk cfg 0 := by intro l hl; cases hl; decide
  have hc : ∀ l, cfg.callLimit = some l → ({} : St).calls + 1 < l := by intro l hl; cases hl; decide
  have H := fun n => tail_loop_bounded_by_recursion_limit_only cfg rfl 0 hd n 0 {} 0 hc
  exact ⟨(H 100000).1 (by intro l hl; cases hl; decide), (H 100001).2.1 100000 rfl (by decide), rfl⟩

/-- The call counter is touched once per user call, before the trampoline starts — never by the
loop: with a call limit, `callUser` adds one to `calls`, compares, and enters the loop with
recursion counter 0. -/
theorem call_counted_once_before_loop (fuel : Nat) (cfg : Cfg) (h : Nat) (c : Val) (args : List Val) (st : St)
    (l : Nat) (he : firstErr args = none) (hl : cfg.callLimit = some l) :
    callUser (fuel + 1) cfg h c args st =
      if st.calls + 1 ≥ l then (.viol .calls, { st with calls := st.calls + 1 })
      else tramp fuel cfg h c args 0 { st with calls := st.calls + 1 } := by
  simp [callUser, he, hl]

/-! ## 3. The optimisation is semantically transparent

`cT` / `cF`: no limits configured (`depthLimit = callLimit = recLimit = none`), tco on / off.
`FrameOk fr`: the recursion cell of the frame, if any, holds a closure (what `from_template` puts
there; true of every frame the interpreter builds). -/

/-- More fuel never changes an answer: whatever `n` units of fuel answer (anything but "out of
fuel"), `m ≥ n` units answer too — for expressions, calls, the trampoline and whole programs. -/
theorem fuel_monotone (cfg : Cfg) (n m : Nat) (hle : n ≤ m) :
    (∀ fr e tail st, (eval n cfg fr e tail st).1 ≠ .oof → eval m cfg fr e tail st = eval n cfg fr e tail st) ∧
    (∀ h c args st, (callUser n cfg h c args st).1 ≠ .oof → callUser m cfg h c args st = callUser n cfg h c args st) ∧
    (∀ h c args rec st, (tramp n cfg h c args rec st).1 ≠ .oof →
        tramp m cfg h c args rec st = tramp n cfg h c args rec st) ∧
    (∀ ds, (runProgram n cfg ds).1 ≠ .error .oof → runProgram m cfg ds = runProgram n cfg ds) := by
  have H := fuelLe (cfg := cfg) hle
  exact ⟨fun fr e tail st h => H.eval _ _ _ _ (Res.isOof_of_ne h), fun h c args st hh => H.callUser _ _ _ _ (Res.isOof_of_ne hh),
    fun h c args rec st hh => H.tramp _ _ _ _ _ (Res.isOof_of_ne hh), fun ds h => H.evalDecls _ _ _ (exOof_of_ne h)⟩

/-- Reference ⟶ optimised, with the very same fuel. Whatever the reference semantics (tco off: a
self-call is an ordinary call) answers — a value, an error value, a stuck state; the output and
counters in `st'` — the optimised semantics answers too:
for an expression that is not offered the tail slot, for a call of a function value, for
`eval_func_with_values`, for the trampoline (whatever the heights and the recursion counters the two
runs start from) and for a whole program. -/
theorem tco_transparent_off_to_on (n : Nat) :
    (∀ fr e st r st', FrameOk fr → eval n cF fr e false st = (r, st') → r ≠ .oof →
        eval n cT fr e false st = (r, st')) ∧
    (∀ fr c args tail st r st', FrameOk fr → callVal n cF fr c args tail st = (r, st') → r ≠ .oof →
        callVal n cT fr c args tail st = (r, st')) ∧
    (∀ h h2 c args st r st', callUser n cF h c args st = (r, st') → r ≠ .oof →
        callUser n cT h2 c args st = (r, st')) ∧
    (∀ h h2 c args rec rec2 st r st', tramp n cF h c args rec st = (r, st') → r ≠ .oof →
        tramp n cT h2 c args rec2 st = (r, st')) ∧
    (∀ ds fr st', runProgram n cF ds = (.ok fr, st') → runProgram n cT ds = (.ok fr, st')) ∧
    (∀ ds r st', runProgram n cF ds = (.error r, st') → r ≠ .oof → runProgram n cT ds = (.error r, st')) := by
  have H := simAt n
  have prog := fun ds => runProgram_transfer (H.evalDecls _ 0 ds {} .root)
  exact ⟨fun fr e st r st' hf => transfer (H.evalF fr fr.height e st hf),
    fun fr c args tail st r st' hf => transfer (H.callVal fr fr.height c args tail st hf),
    fun h h2 c args st r st' => transfer (H.callUser h h2 c args st),
    fun h h2 c args rec rec2 st r st' => transfer (H.tramp h h2 c args rec rec2 st),
    fun ds => (prog ds).1, fun ds => (prog ds).2⟩

/-- The same with the tail slot offered (the invariant the trampoline maintains): the optimised
run either gives the reference answer itself, or it hands back a tail call `.tail args` at a state
`st1` — and then the reference answer is what the reference trampoline, started on `args` at `st1`
for the function in the frame's recursion cell, returns (with less fuel). -/
theorem tco_tail_call_is_the_call (n : Nat) (fr : Frame) (e : Expr) (st : St) (r : Res) (st' : St)
    (hf : FrameOk fr) (h : eval n cF fr e true st = (r, st')) (hr : r ≠ .oof) :
    eval n cT fr e true st = (r, st') ∨
    ∃ name c args st1 k, fr.self = some (name, c) ∧ eval n cT fr e true st = (.tail args, st1) ∧
      k < n ∧ tramp k cF fr.height c args 0 st1 = (r, st') := by
  rcases (simAt n).eval fr fr.height e true st hf (by rw [h]; exact Res.isOof_of_ne hr) with
    he | ⟨_, name, c, args, st1, hs, hT, k, hk, hF⟩
  · left; rw [← h]; exact he
  · right; exact ⟨name, c, args, st1, k, hs, hT, hk, by rw [hF, h]⟩

/-- Optimised ⟶ reference, with an explicit fuel bound. Whatever the optimised semantics answers
with fuel `m` (a value, an error value, a stuck state — anything but "out of fuel"; same output and
counters), the reference semantics answers with any fuel `N ≥ phi m = m (m + 7) / 2`: a tail
iteration costs the optimised run one unit of fuel, the reference run needs the whole nesting. -/
theorem tco_transparent_on_to_off (m N : Nat) (hN : phi m ≤ N) :
    (∀ fr e st r st', FrameOk fr → eval m cT fr e false st = (r, st') → r ≠ .oof →
        eval N cF fr e false st = (r, st')) ∧
    (∀ fr c args tail st r st', FrameOk fr → callVal m cT fr c args tail st = (r, st') → r ≠ .oof →
        callVal N cF fr c args tail st = (r, st')) ∧
    (∀ h h2 c args st r st', callUser m cT h c args st = (r, st') → r ≠ .oof →
        callUser N cF h2 c args st = (r, st')) ∧
    (∀ h h2 c args rec rec2 st r st', tramp m cT h c args rec st = (r, st') → r ≠ .oof →
        tramp N cF h2 c args rec2 st = (r, st')) ∧
    (∀ ds fr st', runProgram m cT ds = (.ok fr, st') → runProgram N cF ds = (.ok fr, st')) ∧
    (∀ ds r st', runProgram m cT ds = (.error r, st') → r ≠ .oof → runProgram N cF ds = (.error r, st')) := by
  have H := simB m
  obtain ⟨j, rfl⟩ : ∃ j, N = phi m + j := ⟨N - phi m, by omega⟩
  have prog := fun ds => runProgram_transfer (H.evalDecls _ 0 ds {} j .root)
  exact ⟨fun fr e st r st' hf => transfer (H.evalF fr fr.height e st j hf),
    fun fr c args tail st r st' hf => transfer (H.callVal fr fr.height c args tail st j hf),
    fun h h2 c args st r st' => transfer (H.callUser h2 h c args st j),
    fun h h2 c args rec rec2 st r st' => transfer (H.tramp h2 h c args rec2 rec st j),
    fun ds => (prog ds).1, fun ds => (prog ds).2⟩

/-- **Transparency.** With no limits configured, the optimised and the reference semantics
terminate on the same inputs with the same outcome — value or error value, stuck state, written
output and counters: for an expression evaluated without the tail slot in a frame whose recursion
cell holds a closure, for `eval_func_with_values` (any heights), and for whole programs. -/
theorem tco_transparent :
    (∀ fr e st r st', FrameOk fr → r ≠ .oof →
      ((∃ n, eval n cT fr e false st = (r, st')) ↔ (∃ n, eval n cF fr e false st = (r, st')))) ∧
    (∀ h h2 c args st r st', r ≠ .oof →
      ((∃ n, callUser n cT h c args st = (r, st')) ↔ (∃ n, callUser n cF h2 c args st = (r, st')))) ∧
    (∀ ds fr st', (∃ n, runProgram n cT ds = (.ok fr, st')) ↔ (∃ n, runProgram n cF ds = (.ok fr, st'))) ∧
    (∀ ds r st', r ≠ .oof →
      ((∃ n, runProgram n cT ds = (.error r, st')) ↔ (∃ n, runProgram n cF ds = (.error r, st')))) := by
  have on := fun n => tco_transparent_on_to_off n (phi n) (Nat.le_refl _)
  have off := tco_transparent_off_to_on
  refine ⟨?_, ?_, ?_, ?_⟩
  · intro fr e st r st' hf hr
    exact ⟨fun ⟨n, h⟩ => ⟨phi n, (on n).1 fr e st r st' hf h hr⟩, fun ⟨n, h⟩ => ⟨n, (off n).1 fr e st r st' hf h hr⟩⟩
  · intro h h2 c args st r st' hr
    exact ⟨fun ⟨n, hh⟩ => ⟨phi n, (on n).2.2.1 h h2 c args st r st' hh hr⟩,
      fun ⟨n, hh⟩ => ⟨n, (off n).2.2.1 h2 h c args st r st' hh hr⟩⟩
  · intro ds fr st'
    exact ⟨fun ⟨n, h⟩ => ⟨phi n, (on n).2.2.2.2.1 ds fr st' h⟩, fun ⟨n, h⟩ => ⟨n, (off n).2.2.2.2.1 ds fr st' h⟩⟩
  · intro ds r st' hr
    exact ⟨fun ⟨n, h⟩ => ⟨phi n, (on n).2.2.2.2.2 ds r st' h hr⟩, fun ⟨n, h⟩ => ⟨n, (off n).2.2.2.2.2 ds r st' h hr⟩⟩

/-- `f(3, 0)` for the accumulator-style sum: both semantics give 6 -/
example : callUser 40 cF 0 sumClos [.int 3, .int 0] {} = (.val (.int 6), {}) ∧
    callUser 40 cT 0 sumClos [.int 3, .int 0] {} = (.val (.int 6), {}) := by
  constructor <;> rfl

end XrayModel.C07
