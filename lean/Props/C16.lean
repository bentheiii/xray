/-
C16 — Generators denote fixed lazy streams.
Property theorems only; helper lemmas live in XrayProofs/Gen.lean and the other XrayProofs/Gen*.lean.

The model (`XrayModel/Gen.lean`) is a step machine: one `step` of an iterator is one pull of one source.
`outs L n it` are the elements yielded by the first `n` steps — the growing finite approximations of
the stream `it` denotes (`outs_mono`), so an equation that holds for every `n` is an equation between
streams, finite or infinite.  Because it is indexed by the number of *steps*, the same equation says
how far the source has been consumed: an adaptor whose `n`-step output is a function of its source's
`n`-step output has pulled nothing beyond it (laziness).  `Den L it xs`: the iterator yields exactly
`xs` and then ends.  Elements are items (a value, an error value, a violation); functions are
arbitrary, so every statement covers erroring callbacks.
`Permits.covers p k`: the search permits `p` suffice for `k` elements (always, when no limit is set).
-/
import XrayProofs.GenProductDen
import XrayProofs.GenDen2
import XrayProofs.GenPrefix
import XrayProofs.GenChunks
namespace XrayModel.C16
open XrayModel.Gen

/-- the approximations grow: a generator denotes one fixed stream -/
theorem outs_mono (L : Option Nat) (n : Nat) (it : It) :
    ∃ more, outs L (n + 1) it = outs L n it ++ more := by
  refine ⟨_, outs_add L n 1 it⟩

/-- `map`, in lock-step with its source (the function sees error values too; a violation passes) -/
theorem iter_den_map (L : Option Nat) (f : F) (n : Nat) (g : G) :
    outs L n ((G.map g f).start L) = (outs L n (g.start L)).map (mapItem f) :=
  outs_map L f n _

/-- `filter` (rejected elements are search work: a permit each) -/
theorem iter_den_filter (L : Option Nat) (p : P) (n : Nat) (g : G)
    (hc : (Permits.ofLimit L).covers (outs L n (g.start L)).length) :
    outs L n ((G.filter g p).start L) = (outs L n (g.start L)).filterMap (filt p) :=
  let ⟨_, h, _⟩ := filter_steps L p n _ _ hc; h

/-- on values with a total boolean predicate this is `List.filter` -/
theorem filterMap_filt_vals (q : V → Bool) (vs : List V) :
    (vs.map Item.val).filterMap (filt (fun | .val v => if q v then .t else .f | .err => .err | .viol => .viol)) =
      (vs.filter q).map Item.val := by
  induction vs with
  | nil => rfl
  | cons v vs ih =>
    simp only [List.map_cons, List.filterMap_cons, filt, List.filter_cons]
    cases q v <;> simp [ih]

/-- `take_while`: up to the first element the predicate rejects; an erroring predicate yields its error -/
theorem iter_den_takeWhile (L : Option Nat) (p : P) (n : Nat) (g : G) :
    outs L n ((G.takeWhile g p).start L) = twItems p (outs L n (g.start L)) :=
  outs_takeWhile L p n _

/-- `skip_until` (the elements skipped are search work, as for `filter`) -/
theorem iter_den_skipUntil (L : Option Nat) (p : P) (n : Nat) (g : G)
    (hc : (Permits.ofLimit L).covers (outs L n (g.start L)).length) :
    outs L n ((G.skipUntil g p).start L) = suItems p (outs L n (g.start L)) :=
  outs_skipUntil L p n _ _ hc

/-- `aggregate`: the initial state, then the scan; it is one step behind its source, never ahead -/
theorem iter_den_aggregate (L : Option Nat) (f : F2) (init : Item) (n : Nat) (g : G) :
    outs L (n + 1) ((G.aggregate g init f).start L) = init :: scanItems f init (outs L n (g.start L)) :=
  outs_aggregate_first L f n _ init

/-- the slice `[a, b)` of a generator: drop `a`, then `b - a` elements (not `b`: repaired in 099a822) -/
theorem slice_iter (L : Option Nat) (n : Nat) (g : G) (a b : Nat)
    (hc : (Permits.ofLimit L).covers a) (hv : noViol (outs L n (g.start L))) :
    outs L n ((G.slice g a (some b)).start L) = ((outs L n (g.start L)).drop a).take (b - a) := by
  rw [outs_start_slice L n g a (some b) hc hv]; rfl

/-- `skip(a)`: an open slice -/
theorem skip_iter (L : Option Nat) (n : Nat) (g : G) (a : Nat)
    (hc : (Permits.ofLimit L).covers a) (hv : noViol (outs L n (g.start L))) :
    outs L n ((G.slice g a none).start L) = (outs L n (g.start L)).drop a := by
  rw [outs_start_slice L n g a none hc hv]; rfl

/-- merging nested slices (`XGenerator::slice`, :492-515) does not change what is denoted: slicing a
slice through `mkSlice` gives the stream of the slice of the slice -/
theorem slice_merge_den (L : Option Nat) (n : Nat) (g : G) (a c : Nat) (b d : Option Nat)
    (hc : (Permits.ofLimit L).covers (a + c)) (hv : noViol (outs L n (g.start L))) :
    outs L n ((G.mkSlice (.slice g a b) c d).start L) =
      takeOpt (d.map (· - c)) ((takeOpt (b.map (· - a)) ((outs L n (g.start L)).drop a)).drop c) := by
  have ha : (Permits.ofLimit L).covers a := covers_mono hc (by omega)
  by_cases h : c = 0 ∧ d = none
  · obtain ⟨rfl, rfl⟩ := h
    have : G.mkSlice (.slice g a b) 0 none = .slice g a b := by simp [G.mkSlice]
    rw [this, outs_start_slice L n g a b ha hv]
    simp [takeOpt]
  · rw [mkSlice_slice g a b c d h, outs_start_slice L n g (a + c) _ hc hv, slice_slice_list]

/-- `skip(2).take(3)` of the counter is `2, 3, 4` (it was `2 … 6`), `take(3).skip(5)` is empty -/
example : outs none 9 ((((G.fromCount none).skip 2).take 3).start none) =
    [.val (.int 2), .val (.int 3), .val (.int 4)] := by rfl
example : outs none 9 ((((G.fromCount none).take 3).skip 5).start none) = [] := by rfl

/-- a chain is lazy in its parts: as long as the current part has not ended, the chain is that part
(nothing of the later parts is started; an infinite part is no obstacle — repaired in 5b71e05) -/
theorem chain_lazy (L : Option Nat) (rest : List G) (k : Nat) (cur c : It) (h : after L k cur = some c) :
    outs L k (.chain cur rest) = outs L k cur ∧ after L k (.chain cur rest) = some (.chain c rest) := by
  induction k generalizing cur with
  | zero => cases h; exact ⟨rfl, rfl⟩
  | succ k ih =>
    -- `cur` has not ended, so `step_chain` copies its step
    rw [after] at h
    rw [outs, outs, after, step_chain]
    cases hs : step L cur with
    | done => simp [hs] at h
    | skip s => rw [hs] at h; exact ih s h
    | «yield» x s => rw [hs] at h; exact ⟨congrArg (x :: ·) (ih s h).1, (ih s h).2⟩

/-- `add` (`XGenerator::chain`, :470-490) splices the parts of its operands; when the parts denote
finite lists the chain denotes their concatenation -/
theorem chain_den (L : Option Nat) (a b : G) (xs ys : List Item)
    (ha : DenParts L a.parts xs) (hb : DenParts L b.parts ys) :
    Den L ((a.mkChain b).start L) (xs ++ ys) := by
  refine den_of_parts ?_
  rw [mkChain_parts]
  exact denParts_append ha hb

example : DenParts none (G.fromArr [.int 1]).parts [.val (.int 1)] := by
  have h : Den none ((G.fromArr [.int 1]).start none) [.val (.int 1)] := den_arr none [.int 1]
  simpa [G.parts] using DenParts.cons h DenParts.nil

/-- finite denotations compose: an array source denotes its elements, … -/
theorem den_fromArr (L : Option Nat) (vs : List V) : Den L ((G.fromArr vs).start L) (vs.map Item.val) :=
  den_arr L vs

/-- … `map` of a finite generator the images, … -/
theorem den_map_g (L : Option Nat) (g : G) (f : F) (xs : List Item) (h : Den L (g.start L) xs) :
    Den L ((G.map g f).start L) (xs.map (mapItem f)) :=
  den_map f h

/-- … `filter` what the predicate lets through (permits for every element of the source), … -/
theorem den_filter_g (L : Option Nat) (g : G) (p : P) (xs : List Item) (h : Den L (g.start L) xs)
    (hc : (Permits.ofLimit L).covers xs.length) :
    Den L ((G.filter g p).start L) (xs.filterMap (filt p)) :=
  den_filter p _ h hc

/-- … and `to_array` returns exactly the denoted list when the consumer's budget covers it -/
theorem toArray_den (L : Option Nat) (g : G) (vs : List V) (h : Den L (g.start L) (vs.map Item.val))
    (hc : (Permits.ofLimit L).covers vs.length) :
    ∃ fuel, toArray L fuel g = .ok vs := by
  exact drain_den L (den_budget (Permits.ofLimit L) h (by simpa using hc)) []

/-- a generator value holds no cursor: every consumption starts the same iterator, so consuming the
same value again gives the same result (the tie consumes every pipeline twice) -/
theorem reiterable (L : Option Nat) (fuel : Nat) (g : G) (r : Res (List V))
    (h : toArray L fuel g = r) : toArray L fuel g = r ∧ g.iter L = .budget (g.start L) (Permits.ofLimit L) :=
  ⟨h, rfl⟩

/-- laziness, state form: after `n` steps `map` holds its source after exactly `n` steps -/
theorem lazy_prefix_map (L : Option Nat) (f : F) (n : Nat) (g : G) :
    after L n ((G.map g f).start L) = (after L n (g.start L)).map (fun s => .map s f) :=
  after_map L f n _

/-- … and so does `filter` -/
theorem lazy_prefix_filter (L : Option Nat) (p : P) (n : Nat) (g : G)
    (hc : (Permits.ofLimit L).covers (outs L n (g.start L)).length) :
    ∃ perm', after L n ((G.filter g p).start L) = (after L n (g.start L)).map (fun s => .filter s p perm') :=
  let ⟨q, _, h⟩ := filter_steps L p n _ _ hc; ⟨q, h⟩

/-- no adaptor runs ahead of the steps it is given: `n` steps yield at most `n` elements -/
theorem outs_length (L : Option Nat) (n : Nat) (it : It) : (outs L n it).length ≤ n := by
  fun_induction outs L n it <;> simp_all <;> omega

/-- `with_count`: every element with the number of times it has been seen so far -/
theorem iter_den_withCount (L : Option Nat) (eq : V → V → Bool) (n : Nat) (g : G) :
    outs L n ((G.withCount g eq).start L) = wcItems eq [] (outs L n (g.start L)) :=
  outs_withCount L eq n _ []

/-- `windows`: the sliding windows of the elements pulled so far (one window per element once full) -/
theorem iter_den_windows (L : Option Nat) (size : Nat) (n : Nat) (g : G)
    (hc : (Permits.ofLimit L).covers (outs L n (g.start L)).length) :
    outs L n ((G.windows g size).start L) = winItems size [] (outs L n (g.start L)) :=
  outs_windows L size n _ [] _ hc

/-- `group` over a finite generator: the groups closed while it runs, then the last group -/
theorem iter_den_group (L : Option Nat) (eq : P2) (g : G) (xs : List Item) (h : Den L (g.start L) xs)
    (hc : (Permits.ofLimit L).covers (xs.length + 1)) :
    Den L ((G.group g eq).start L) ((grpRun eq [] xs).1 ++ flushGroup (grpRun eq [] xs).2) :=
  den_group L eq h [] _ hc

/-- `repeat`: every pass over the generator value sees the same elements (re-iterability inside the
machine): the repetition of a non-empty finite generator is that list again and again … -/
theorem repeat_den (L : Option Nat) (g : G) (xs : List Item) (h : Den L (g.start L) xs) (hne : xs ≠ []) (m : Nat) :
    ∃ k, outs L k ((G.repeat_ g).start L) = (List.replicate m xs).flatten := by
  obtain ⟨k, hk, _⟩ := repeat_cycles L g xs h hne m
  exact ⟨k, hk⟩

/-- … and the repetition of an empty generator is empty (repaired in 44f5035) -/
theorem repeat_empty_den (L : Option Nat) (g : G) (h : Den L (g.start L) []) :
    Den L ((G.repeat_ g).start L) [] := by
  obtain ⟨k, hk1, hk2⟩ := repeat_pass L g h true
  exact ⟨k, hk2, hk1⟩

/-- `zip(a, b)`: a round takes exactly one element from each part — a value or an error value — and yields
the pair, or the error; either way both parts have advanced by one: the parts stay aligned (182c226) -/
theorem zip_round_aligned (L : Option Nat) (a a1 a' b b1 b' : It) (ja jb : Nat) (x y : Item)
    (ha : skipsTo L ja a a1) (hxa : step L a1 = .yield x a') (hx : x ≠ .viol)
    (hb : skipsTo L jb b b1) (hyb : step L b1 = .yield y b') (hy : y ≠ .viol) :
    outs L (ja + (1 + (jb + 1))) (.zip [a, b] [] [] false) = [pairItem x y] ∧
    after L (ja + (1 + (jb + 1))) (.zip [a, b] [] [] false) = some (.zip [a', b'] [] [] false) :=
  zip_round L a a1 a' b b1 b' ja jb x y ha hxa hx hb hyb hy

/-- … and the zip ends with its first part, without touching the second -/
theorem zip_ends_with_first (L : Option Nat) (a a1 b : It) (ja : Nat)
    (ha : skipsTo L ja a a1) (hda : step L a1 = .done) :
    outs L (ja + 1) (.zip [a, b] [] [] false) = [] ∧ after L (ja + 1) (.zip [a, b] [] [] false) = none :=
  zip_pull_done ha hda [b] [] [] false

/-- the witness of the alignment defect: an error in the first part no longer shifts the second -/
example : outs none 6 ((G.zip [.map (.fromArr [.int 0, .int 1]) (fun | .val (.int 0) => .err | x => x),
    .fromCount none]).start none) = [.err, .val (.tup [.int 1, .int 1])] := by rfl

/-! ### consumers against the denoted list (a finite generator denoting the values `vs`, a budget that covers them) -/

theorem iter_den_of_den (L : Option Nat) (g : G) (vs : List V) (h : Den L (g.start L) (vs.map Item.val))
    (hc : (Permits.ofLimit L).covers vs.length) : Den L (g.iter L) (vs.map Item.val) :=
  den_budget _ h (by simpa using hc)

/-- `len` is the length -/
theorem len_den (L : Option Nat) (g : G) (vs : List V) (h : Den L (g.start L) (vs.map Item.val))
    (hc : (Permits.ofLimit L).covers vs.length) : ∃ fuel, len L fuel g = .ok vs.length := by
  simpa [len] using lenLoop_den L (iter_den_of_den L g vs h hc) 0

/-- `last` is the last element, an error value for the empty generator -/
theorem last_den (L : Option Nat) (g : G) (vs : List V) (h : Den L (g.start L) (vs.map Item.val))
    (hc : (Permits.ofLimit L).covers vs.length) :
    ∃ fuel, last L fuel g = (match vs.getLast? with | some v => .ok v | none => .err) := by
  obtain ⟨n, hn⟩ := lastLoop_den L (iter_den_of_den L g vs h hc) none
  exact ⟨n, by rw [last, hn, Option.or_none]; rfl⟩

/-- `get(i)` is the element at index `i`, an error value for a negative or too large index -/
theorem get_den (L : Option Nat) (g : G) (vs : List V) (h : Den L (g.start L) (vs.map Item.val))
    (hc : (Permits.ofLimit L).covers vs.length) (idx : Int) :
    ∃ fuel, get L fuel g idx =
      (if idx < 0 then .err else match vs[idx.toNat]? with | some v => .ok v | none => .err) := by
  obtain ⟨n, hn⟩ := getLoop_den L (iter_den_of_den L g vs h hc) idx.toNat
  exact ⟨n, by rw [Gen.get, hn]; rfl⟩

/-- `nth(k, p)` is the `k`-th element satisfying `p`, `none` when there are fewer -/
theorem nth_den (L : Option Nat) (g : G) (vs : List V) (q : V → Bool) (k : Nat)
    (h : Den L (g.start L) (vs.map Item.val)) (hc : (Permits.ofLimit L).covers vs.length) :
    ∃ fuel, nth L fuel g k (pureP q) = .ok ((vs.filter q)[k]?) := by
  obtain ⟨n, hn⟩ := nthLoop_den L q (iter_den_of_den L g vs h hc) k
  have hk : ¬ ((k : Int) < 0) := by omega
  exact ⟨n, by simpa [nth, hk] using hn⟩

/-- the permit accounting of `nth`: every inspected element takes a permit of the consumer's budget; a search
that finds nothing among the first `l` elements of the counter ends in the MaximumSearch violation -/
theorem nth_takes_permits (l k : Nat) :
    nth (some l) (l + 2) (.fromCount none) k (fun _ => .f) = .viol := by
  have hk : ¬ ((k : Int) < 0) := by omega
  simp only [nth, hk, ↓reduceIte, Int.toNat_natCast, G.iter, G.start, Permits.ofLimit]
  exact nthLoop_permits (some l) k l 0

/-- `reduce(init, f)` is `aggregate(init, f).last()` (`include.rs:210`): for a finite generator the last state of
the scan — the fold -/
theorem reduce_den (L : Option Nat) (g : G) (init : Item) (f : F2) (ws : List V)
    (h : Den L ((G.aggregate g init f).start L) (ws.map Item.val))
    (hc : (Permits.ofLimit L).covers ws.length) :
    ∃ fuel, reduce L fuel g init f = (match ws.getLast? with | some v => .ok v | none => .err) :=
  last_den L (.aggregate g init f) ws h hc

/-! ### library compositions -/

/-- `distinct` (with_count / filter / map): lock-step over its source, and on values it keeps exactly the
elements that match none of the elements kept before -/
theorem iter_den_distinct (L : Option Nat) (eq : V → V → Bool) (n : Nat) (g : G)
    (hc : (Permits.ofLimit L).covers (outs L n (g.start L)).length) :
    outs L n ((G.distinct g eq).start L) =
      ((wcItems eq [] (outs L n (g.start L))).filterMap (filt firstP)).map (mapItem projF) := by
  unfold G.distinct
  rw [iter_den_map, iter_den_filter, iter_den_withCount]
  · rfl
  · rwa [iter_den_withCount, wcItems_length]

theorem distinct_values (eq : V → V → Bool) (vs : List V) :
    ((wcItems eq [] (vs.map Item.val)).filterMap (filt firstP)).map (mapItem projF) =
      (dedupBy eq [] vs).map Item.val := by
  simpa using distinct_list eq vs [] (by simp)

/-- `flatten` of a sequence of finite generators (`reduce([].to_generator(), add)`, `include.rs:1367`) denotes
the concatenation -/
theorem flatten_den (L : Option Nat) (gs : List G) (xss : List (List Item))
    (hl : gs.length = xss.length)
    (h : ∀ i (h : i < gs.length) (h' : i < xss.length), DenParts L gs[i].parts xss[i]) :
    Den L ((G.flattenAll gs).start L) xss.flatten := by
  refine den_of_parts ?_
  rw [G.flattenAll, flattenAll_parts]
  exact DenParts.cons (g := .fromArr []) (den_arr L []) (denParts_flatMap L gs xss hl h)

/-- … but it is not lazy in its *outer* generator: `reduce` over an infinite generator never returns a value,
whatever is folded (here without a search limit; with one it ends in MaximumSearch) — the known finding
`lazy:flatten:outer-infinite`, as a theorem about `last ∘ aggregate` -/
theorem reduce_infinite_never_returns (f : F2) (init : Item) (fuel : Nat) (v : V) :
    reduce none fuel (.fromCount none) init f ≠ .ok v := by
  simp only [reduce, last, G.iter, G.start, Permits.ofLimit]
  exact lastLoop_infinite f fuel 0 init true none v

/-! ### product (the odometer of `XrayModel/GenProduct.lean`)

`Lists L fuel xs it`: calling the part's `next()` repeatedly yields exactly the values `xs`, then the end
(`lists_arr`: arrays do).  `cart` is the usual lexicographic product (last factor fastest, `itertools.product`). -/

/-- **the product denotes the lexicographic product**: for every arity and all parts denoting finite lists, the
first `n` elements of the product generator are the first `n` tuples of `cart`, in order — for every `n`, so the
whole (finite) stream; the parts are started over from the generator value at every carry -/
theorem iter_den_product (L : Option Nat) (fuel : Nat) (ps : List (G × List V)) (n : Nat)
    (h : ∀ p ∈ ps, Lists L fuel p.2 (p.1.start L)) :
    ptake L fuel n (pstart L (ps.map Prod.fst)) = some (((cart (ps.map Prod.snd)).take n).map V.tup) := by
  rw [ptake_cartR L fuel ps n h, cart_eq_cartR, List.map_take, List.map_take, List.map_map]
  rfl

/-- instance: a product of arrays -/
theorem iter_den_product_arrays (L : Option Nat) (fuel : Nat) (xss : List (List V)) (n : Nat) :
    ptake L (fuel + 1) n (pstart L (xss.map G.fromArr)) = some (((cart xss).take n).map V.tup) := by
  have := iter_den_product L (fuel + 1) (xss.map (fun xs => (G.fromArr xs, xs))) n (by
    intro p hp
    obtain ⟨xs, _, rfl⟩ := List.mem_map.mp hp
    simpa [G.start] using lists_arr L fuel xs)
  simpa [List.map_map, Function.comp_def] using this

/-- the product ends after the last tuple (taking more than there are changes nothing) -/
theorem product_ends (L : Option Nat) (fuel : Nat) (xss : List (List V)) (n : Nat) (hn : (cart xss).length ≤ n) :
    ptake L (fuel + 1) n (pstart L (xss.map G.fromArr)) = some ((cart xss).map V.tup) := by
  rw [iter_den_product_arrays, List.take_of_length_le hn]

/-- laziness in the last factor (take-n form, the last factor may be infinite): the first `n` tuples need the
heads of the other parts and exactly the first `n` elements `f 0 … f (n-1)` of the last part -/
theorem product_lazy_last (L : Option Nat) (fuel : Nat) (ps : List (G × List V)) (glast : G) (f : Nat → V) (n : Nat)
    (h : ∀ p ∈ ps, Lists L fuel p.2 (p.1.start L) ∧ p.2 ≠ []) (hs : Strm L fuel n f (glast.start L)) :
    ptake L fuel n (pstart L (ps.map Prod.fst ++ [glast])) =
      some ((List.range n).map (fun k => V.tup ((ps.map Prod.snd).filterMap List.head? ++ [f k]))) := by
  cases n with
  | zero => simp [ptake]
  | succ n =>
    obtain ⟨s, hn, hs'⟩ := hs
    obtain ⟨poss, hg, hq, hx, hp⟩ := pfirsts_lists_tail L fuel ps [glast.start L] [] [] h
    have hst : pstart L (ps.map Prod.fst ++ [glast]) =
        ⟨ps.map Prod.fst ++ [glast], ps.map (fun p => p.1.start L) ++ [glast.start L], none⟩ := by
      simp [pstart, startAll_map]
    have hstream := ptake_stream L fuel n (fun k => f (k + 1)) ⟨glast, [], s, f 0, []⟩ poss.reverse hs'
    simp only [List.reverse_cons, List.reverse_reverse, List.map_append, List.map_cons, List.map_nil] at hstream
    simp only [ptake, pnext, hst, hp, pfirsts, hn]
    simp only [List.append_nil, List.reverse_cons, List.reverse_reverse]
    rw [← hg, hstream, ← hx, heads_of_poss poss fun q h => (hq q h).2]
    simp [List.range_succ_eq_map, Function.comp_def]

/-- the counter as last factor: `[1,2] × count()` starts `(1,0), (1,1), (1,2), …` for every `n` -/
theorem strm_count (L : Option Nat) (fuel : Nat) : ∀ (n i : Nat),
    Strm L (fuel + 1) n (fun k => V.int ((i + k : Nat) : Int)) (.count i none) := by
  intro n
  induction n with
  | zero => intro i; trivial
  | succ n ih =>
    intro i
    refine ⟨.count (i + 1) none, by simp [next, step], ?_⟩
    have := ih (i + 1)
    simpa [Nat.add_assoc, Nat.add_comm 1] using this

/-- a product with an empty part is empty -/
theorem product_empty_part (L : Option Nat) (fuel : Nat) (xss : List (List V)) (h : [] ∈ xss) :
    pnext L (fuel + 1) (pstart L (xss.map G.fromArr)) = .done := by
  obtain ⟨its, hi⟩ := pfirsts_empty L fuel xss [] [] h
  simp [pnext, pstart, startAll_arrs, hi]

/-- the first element of a product of non-empty arrays is the tuple of their first elements, and every part
has advanced by exactly one -/
theorem product_first (L : Option Nat) (fuel : Nat) (xss : List (List V)) (h : [] ∉ xss) :
    pnext L (fuel + 1) (pstart L (xss.map G.fromArr)) =
      .item (.val (.tup (xss.filterMap List.head?)))
        ⟨xss.map G.fromArr, xss.map (fun xs => It.arr xs.tail), some (xss.filterMap List.head?)⟩ := by
  simp [pnext, pstart, startAll_arrs, pfirsts_heads L fuel xss [] [] h]

/-- `[1,2] × [5,6] × [10,20]`: all eight tuples, in order (the carry from the last part crosses the middle one) -/
theorem product_carry_crosses_two_parts :
    ptake none 3 20 (pstart none [.fromArr [.int 1, .int 2], .fromArr [.int 5, .int 6], .fromArr [.int 10, .int 20]]) =
      some ([[1, 5, 10], [1, 5, 20], [1, 6, 10], [1, 6, 20], [2, 5, 10], [2, 5, 20], [2, 6, 10], [2, 6, 20]].map
        (fun (xs : List Int) => V.tup (xs.map V.int))) := by rfl

/-- `2 × 1 × 3 × 2`: twelve tuples (a one-element part in the middle) -/
theorem product_with_singleton_part :
    (ptake none 3 20 (pstart none [.fromArr [.int 1, .int 2], .fromArr [.int 7], .fromArr [.int 1, .int 2, .int 3],
      .fromArr [.int 8, .int 9]])).map List.length = some 12 := by rfl

/-! ### library functions of `include.rs` (compositions of the natives), and consumers that stop early -/

/-- `first(p)` is `List.find?` -/
theorem first_den (L : Option Nat) (g : G) (vs : List V) (q : V → Bool)
    (h : Den L (g.start L) (vs.map Item.val)) (hc : (Permits.ofLimit L).covers vs.length) :
    ∃ fuel, first L fuel g (pureP q) = .ok (vs.find? q) := by
  obtain ⟨fuel, hf⟩ := nth_den L g vs q 0 h hc
  refine ⟨fuel, ?_⟩
  have : (vs.filter q)[0]? = vs.find? q := by
    rw [← List.head?_eq_getElem?, List.head?_filter]
  simpa [first, this] using hf

/-- `any(p)` is `List.any` -/
theorem any_den (L : Option Nat) (g : G) (vs : List V) (q : V → Bool)
    (h : Den L (g.start L) (vs.map Item.val)) (hc : (Permits.ofLimit L).covers vs.length) :
    ∃ fuel, any L fuel g (pureP q) = .ok (vs.any q) := by
  obtain ⟨fuel, hf⟩ := first_den L g vs q h hc
  refine ⟨fuel, ?_⟩
  simp only [first] at hf
  simp only [any, hf, Res.ok.injEq]
  rw [Bool.eq_iff_iff]
  simp [List.find?_isSome, List.any_eq_true]

/-- `all(p)` is `List.all` (through `!any(!p)`) -/
theorem all_den (L : Option Nat) (g : G) (vs : List V) (q : V → Bool)
    (h : Den L (g.start L) (vs.map Item.val)) (hc : (Permits.ofLimit L).covers vs.length) :
    ∃ fuel, all L fuel g (pureP q) = .ok (vs.all q) := by
  obtain ⟨fuel, hf⟩ := first_den L g vs (fun v => !q v) h hc
  refine ⟨fuel, ?_⟩
  simp only [first] at hf
  simp only [all, notP_pureP, hf, Res.ok.injEq]
  rw [Bool.eq_iff_iff]
  simp [List.all_eq_true]

/-- `count(p)` is the length of `List.filter` -/
theorem count_den (L : Option Nat) (g : G) (vs : List V) (q : V → Bool)
    (h : Den L (g.start L) (vs.map Item.val)) (hc : (Permits.ofLimit L).covers vs.length) :
    ∃ fuel, countIf L fuel g (pureP q) = .ok (vs.filter q).length := by
  have hf := den_filter_g L g (pureP q) _ h (by simpa using hc)
  have e : (vs.map Item.val).filterMap (filt (pureP q)) = (vs.filter q).map Item.val := filterMap_filt_vals q vs
  rw [e] at hf
  exact len_den L (.filter g (pureP q)) (vs.filter q) hf (covers_mono hc (List.length_filter_le _ _))

/-- `reduce(init, f)` is `List.foldl` — and so are `sum`, `product`, `max`, `min` (`include.rs:222,1323-1335`), which are
`reduce` with `add` / `mul` / `max` / `min` -/
theorem reduce_fold (L : Option Nat) (g : G) (vs : List V) (a : V) (f : V → V → V)
    (h : Den L (g.start L) (vs.map Item.val)) (hc : (Permits.ofLimit L).covers (vs.length + 1)) :
    ∃ fuel, reduce L fuel g (.val a) (pureF2 f) = .ok (vs.foldl f a) := by
  have hd : Den L ((G.aggregate g (.val a) (pureF2 f)).start L) ((a :: scanV f a vs).map Item.val) := by
    rw [G.start]
    have := den_aggregate (pureF2 f) (.val a) h
    rwa [scanItems_pure] at this
  have hlen : (a :: scanV f a vs).length = vs.length + 1 := by simp [scanV_length]
  obtain ⟨fuel, hf⟩ := reduce_den L g (.val a) (pureF2 f) (a :: scanV f a vs) hd (by rw [hlen]; exact hc)
  exact ⟨fuel, by rw [hf, scanV_last]⟩

/-- `repeat(g, n)` denotes `n` copies of the list -/
theorem repeatN_den (L : Option Nat) (g : G) (xs : List Item) (n : Nat) (h : DenParts L g.parts xs) :
    Den L ((g.repeatN n).start L) (List.replicate n xs).flatten := by
  have := flatten_den L (List.replicate n g) (List.replicate n xs) (by simp) (by
    intro i h1 h2; simpa using h)
  simpa [G.repeatN] using this

/-- `unzip` / `keys` / `values`: component `i` of every tuple, in lock-step -/
theorem iter_den_component (L : Option Nat) (i : Nat) (n : Nat) (g : G) :
    ∃ f, outs L n ((g.component i).start L) = (outs L n (g.start L)).map (mapItem f) ∧
      ∀ vs v, vs[i]? = some v → f (.val (.tup vs)) = .val v := by
  refine ⟨_, iter_den_map L _ n g, ?_⟩
  intro vs v hv
  simp [hv]

/-- consumers force no more than they need: if the first steps of the iterator yield the values `pre` — whatever
follows, the generator may be infinite — and the `k`-th match lies among them, `nth` (hence `first`, `any`) answers
within those steps … -/
theorem nth_needs_prefix_only (L : Option Nat) (q : V → Bool) (n : Nat) (it : It) (pre : List V) (k : Nat)
    (ho : outs L n it = pre.map Item.val) (hk : k < (pre.filter q).length) :
    nthLoop L (pureP q) n it k = .ok ((pre.filter q)[k]?) := by
  rw [nthLoop_outs L q n it pre k ho, List.getElem?_eq_getElem hk]

/-- … and `get(i)` within the steps that yield the first `i + 1` elements -/
theorem get_needs_prefix_only (L : Option Nat) (n : Nat) (it : It) (pre : List V) (idx : Nat)
    (ho : outs L n it = pre.map Item.val) (hk : idx < pre.length) :
    getLoop L n it idx = (match pre[idx]? with | some v => .ok v | none => .err) := by
  rw [getLoop_outs L n it pre idx ho, List.getElem?_eq_getElem hk]

/-- `first` over the infinite counter: found after 4 steps, the rest of the stream is never touched -/
example : first none 10 (.fromCount none) (pureP (fun | .int i => i == 3 | _ => false)) = .ok (some (.int 3)) := by rfl

/-! ### enumerate, aggregate / reduce without an initial state -/

/-- `enumerate(g, start, step)` over a finite generator: the elements paired with `start, start + step, …`; the counter
is pulled once more than the generator (the look-ahead of one with which the zip notices the end) -/
theorem iter_den_enumerate (L : Option Nat) (g : G) (start step : Int) (xs : List Item)
    (h : Den L (g.start L) xs) (hv : noViol xs) :
    Den L ((g.enumerate start step).start L) (enumItems (affIdx start step) 0 xs) := by
  have := enumerate_den_aux L (affIdx start step) (by intro i; simp [affIdx]) xs 0 (g.start L) h hv
  simpa [G.enumerate, G.start, G.startAll] using this

example : enumItems (affIdx 10 2) 0 [.val (.int 7), .val (.int 8)] =
    [.val (.tup [.int 10, .int 7]), .val (.tup [.int 12, .int 8])] := by rfl

/-- `aggregate(g, f)` without an initial state: the first element, then the running fold -/
theorem iter_den_aggregate1 (L : Option Nat) (g : G) (f : V → V → V) (vs : List V)
    (h : Den L (g.start L) (vs.map Item.val)) (hc : (Permits.ofLimit L).covers 1) :
    Den L ((g.aggregate1 (pureF2 f)).start L) ((scan1 f vs).map Item.val) := by
  have h1 := den_aggregate (agg1Step (pureF2 f)) (.val (.tup [])) h
  rw [scanItems_agg1] at h1
  have hv : noViol (Item.val (.tup []) :: (scan1 f vs).map (fun r => Item.val (.tup [r]))) := by
    intro x hx
    simp only [List.mem_cons, List.mem_map] at hx
    rcases hx with rfl | ⟨r, _, rfl⟩ <;> simp
  have h3 := den_map optValue (den_slice_open 1 (Permits.ofLimit L) h1 hv hc)
  simpa [G.aggregate1, G.mkSlice, G.start, List.map_map, Function.comp_def, mapItem, optValue] using h3

/-- `reduce(g, f)` without an initial state: the fold from the first element — and for the empty generator the
error value ("generator is empty") -/
theorem reduce1_den (L : Option Nat) (g : G) (f : V → V → V) (vs : List V)
    (h : Den L (g.start L) (vs.map Item.val)) (hc : (Permits.ofLimit L).covers (vs.length + 1)) :
    ∃ fuel, reduce1 L fuel g (pureF2 f) =
      (match vs with | [] => .err | v :: rest => .ok (rest.foldl f v)) := by
  have h1 : (Permits.ofLimit L).covers 1 := covers_mono hc (by omega)
  have hd := iter_den_aggregate1 L g f vs h h1
  obtain ⟨fuel, hf⟩ := last_den L (g.aggregate1 (pureF2 f)) (scan1 f vs) hd
    (by rw [scan1_length]; exact covers_mono hc (by omega))
  refine ⟨fuel, ?_⟩
  rw [reduce1, hf]
  cases vs with
  | nil => rfl
  | cons v rest => rw [scan1_last]

/-- `chunks(n)` (library code: map(some) . add([none]) . aggregate . filter . map, `include.rs:165`) over a finite generator
of values denotes the chunks of its list: full chunks as soon as they are full, a shorter last chunk at the end -/
theorem iter_den_chunks (L : Option Nat) (g : G) (n : Nat) (vs : List V)
    (h : Den L (g.start L) (vs.map Item.val)) (hc : (Permits.ofLimit L).covers (vs.length + 2)) :
    Den L ((g.chunks n).start L) ((chunkGo n [] vs).map (fun c => Item.val (.seq c))) := by
  have hmk : (G.map g chWrap).mkChain (.fromArr [.tup []]) = .chain [.map g chWrap, .fromArr [.tup []]] := rfl
  unfold G.chunks
  rw [hmk]
  simp only [G.start]
  have hwrap : Den L ((G.map g chWrap).start L) ((vs.map Item.val).map (mapItem chWrap)) := by
    exact den_map chWrap h
  have hnone : Den L ((G.fromArr [.tup []]).start L) [.val (.tup [])] := by
    rw [G.start]; simpa using den_arr L [.tup []]
  have hparts : DenParts L [.map g chWrap, .fromArr [.tup []]] (chItems vs) := by
    have := DenParts.cons hwrap (DenParts.cons hnone DenParts.nil)
    simpa [chItems, List.map_map, Function.comp_def, mapItem, chWrap] using this
  have hchain : Den L _ (chItems vs) := den_chain_parts hparts (den_arr L [])
  have hagg := den_aggregate (chStep n) chInit hchain
  have hlen : (chInit :: scanItems (chStep n) chInit (chItems vs)).length = vs.length + 2 := by
    simp [scanItems_length, chItems]
  have hfil := den_filter (chKeep n) (Permits.ofLimit L) hagg (by rw [hlen]; exact hc)
  have hmap := den_map chOut hfil
  have hinit : filt (chKeep n) chInit = none := by simp [filt, chKeep, chInit]
  rw [List.filterMap_cons, hinit] at hmap
  have := chunks_list n vs [] 1
  simp only [chInit] at hmap
  rw [this] at hmap
  exact hmap

example : chunkGo 3 [] ([0, 1, 2, 3, 4, 5, 6].map V.int) =
    [[0, 1, 2].map V.int, [3, 4, 5].map V.int, [6].map V.int] := by rfl
example : chunkGo 2 [] ([0, 1, 2, 3].map V.int) = [[0, 1].map V.int, [2, 3].map V.int] := by rfl

/-! ### re-iteration, for every generator expression at once -/

/-- a generator value is an immutable term and `start` a function of it: whatever was consumed before, iterating any
generator expression again starts the same iterator and yields the same stream — for every expression of the model's
syntax, every limit, every number of steps, and through every consumer -/
theorem reiterable_all (g : G) (L : Option Nat) (k n : Nat) (consumed : Option It)
    (_h : consumed = after L k (g.start L)) :
    outs L n (g.start L) = outs L n (g.start L) ∧ g.iter L = .budget (g.start L) (Permits.ofLimit L) :=
  ⟨rfl, rfl⟩

/-- the two places in which the machine itself iterates a generator value again — the restart of `repeat`, the next
part of a chain — go through `start`: no consumed iterator is ever re-used -/
theorem restarts_use_start (L : Option Nat) (g : G) (cur : It) (rest : List G) (h : step L cur = .done) :
    step L (.repeat_ g cur false) = .skip (.repeat_ g (g.start L) true) ∧
    step L (.chain cur (g :: rest)) = .skip (.chain (g.start L) rest) := by
  constructor
  · rw [step]; simp [h]
  · rw [step_chain, h]

/-! ### the needed prefix (the theorem behind the laziness sweep) -/

/-- for every pipeline of unary adaptors (map, filter, slice, take_while, skip_until, aggregate, with_count, group,
windows — in any order and number): if two sources behave alike for `n` steps, so do the pipelines over them; the modulus
is the identity: `n` steps of the pipeline need `n` steps of the source -/
theorem needed_prefix (L : Option Nat) (As : List UA) (n : Nat) (g g' : G)
    (h : Agree L n (g.start L) (g'.start L)) :
    outs L n ((pipeG As g).start L) = outs L n ((pipeG As g').start L) := by
  rw [start_pipeG, start_pipeG]
  exact agree_outs L n _ _ (agree_pipe L As n _ _ h)

/-- in particular a source that is poisoned (or longer, or different in any way) beyond the first `n` elements gives the
same first `n` steps of every pipeline — hence the same first elements — as the source cut there -/
theorem needed_prefix_arrays (L : Option Nat) (As : List UA) (pre r1 r2 : List V) (n : Nat) (hn : n ≤ pre.length) :
    outs L n ((pipeG As (.fromArr (pre ++ r1))).start L) = outs L n ((pipeG As (.fromArr (pre ++ r2))).start L) :=
  needed_prefix L As n _ _ (by simpa [G.start] using agree_arr_prefix L pre r1 r2 n hn)

/-- … and through the consumer's budget as well -/
theorem needed_prefix_iter (L : Option Nat) (As : List UA) (n : Nat) (g g' : G)
    (h : Agree L n (g.start L) (g'.start L)) :
    outs L n ((pipeG As g).iter L) = outs L n ((pipeG As g').iter L) := by
  simp only [G.iter, start_pipeG]
  exact agree_outs L n _ _ (agree_budget L _ n _ _ (agree_pipe L As n _ _ h))

end XrayModel.C16
