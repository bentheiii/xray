/-
C02 — Core evaluation follows the documented semantics: the syntax half (operators with their precedence and
associativity; operator, method and index sugar) and the evaluation-order statements.

Model: `XrayModel/Syntax.lean` (the PEG of the expression rules of `xray.pest`, pest's `PrecClimber` mirrored
loop for loop over the operator table that `translate/ops.py` regenerates from `parser.rs` / `xray.pest` on
every run into `Generated/Ops.lean`, the unary and accessor desugaring of `parse_expr`) and the run-time core
evaluator `XrayModel/Core.lean`.
-/
import XrayProofs.Syntax
import XrayProofs.CoreErrors
namespace XrayModel.C02
open XrayModel.Syntax Generated.Ops

/-! ## the operator table that the parser uses *is* the documented one
(book/src/lang/functions.md "Operators": `**` `*` `/` `%` `+` `-` `|` `&` `^` `<=` `<` `>=` `>` `==` `!=` `&&` `||`
"resolved in this order", each an alias of the named function).  The left-hand side is regenerated from parser.rs
and xray.pest on every run: an edit of the table, of a token or of a desugaring arm changes it. -/

/-- token ↦ (function it calls, precedence level (6 = tightest), associativity), in the order of the grammar's
    ordered choice -/
theorem table_documented :
    pestBinary.map (fun p => (p.2, infixName p.1, climberInfo p.1)) =
      [("**", some "pow", some (6, .right)),
       ("+", some "add", some (4, .left)), ("-", some "sub", some (4, .left)),
       ("*", some "mul", some (5, .left)), ("/", some "div", some (5, .left)), ("%", some "mod", some (5, .left)),
       ("&&", some "and", some (1, .left)), ("||", some "or", some (1, .left)),
       ("==", some "eq", some (2, .left)), ("!=", some "ne", some (2, .left)),
       ("<=", some "le", some (2, .left)), (">=", some "ge", some (2, .left)),
       ("<", some "lt", some (2, .left)), (">", some "gt", some (2, .left)),
       ("&", some "bit_and", some (3, .left)), ("|", some "bit_or", some (3, .left)), ("^", some "bit_xor", some (3, .left))] := by
  decide +kernel

theorem unary_documented :
    pestUnary.map (fun p => (p.2, unaryName p.1)) = [("+", some "pos"), ("-", some "neg"), ("!", some "not")]
    ∧ indexFunc = "get" := by
  decide +kernel

/-- all operators of one precedence level associate the same way, and `**` is the only right-associative one -/
theorem levels_uniform :
    (∀ lvl ∈ climberLevels, ∀ x ∈ lvl, ∀ y ∈ lvl, x.2 = y.2) ∧
    (∀ p ∈ pestBinary, ((climberInfo p.1).map (·.2) = some Assoc.right ↔ p.2 = "**")) :=
  ⟨climberLevels_uniform, by decide +kernel⟩

/-- the grammar's ordered choice over the operator tokens never lets a shorter token shadow a longer one
    (`**` before `*`, `&&` before `&`, `<=` before `<` …): the first alternative that matches is the longest -/
theorem lex_longest :
    ∀ i j : Fin pestBinary.length, i < j → ¬ (pestBinary[i].2.toList.isPrefixOf pestBinary[j].2.toList) := by
  decide +kernel

/-! ## sugar: operators, methods and indexing are calls of named functions

The desugared forms are *equal as static-expression trees* (`XStaticExpr`) to the explicit calls, so whatever the
compiler and the evaluator do with the explicit call — overload resolution included — they do with the sugar:
a user overload of `add` takes effect for `+` exactly as for `add(a, b)`. -/

/-- `a ⊕ b` is `f(a, b)` for the function `f` the table gives the operator, for all operand trees -/
theorem operator_is_call (r f : String) (a b : SExpr) (hf : infixName r = some f) (hi : (climberInfo r).isSome) :
    buildBinary a [(r, b)] = some (.call (.ident f) [a, b]) := by
  obtain ⟨⟨p, as⟩, hp⟩ := Option.isSome_iff_exists.mp hi
  simp [buildBinary, climb, climbRec, climbInner, hp, foldTree, hf, newCall]

/-- the same on source text, for every operator of the grammar: `a ⊕ b`, `f(a, b)` and `a.f(b)` parse to one tree -/
theorem operator_is_call_text :
    ∀ p ∈ pestBinary, ∃ f, infixName p.1 = some f ∧
      (parse ("a " ++ p.2 ++ " b")).show = "(call (id " ++ f ++ ") (id a) (id b))" ∧
      (parse (f ++ "(a, b)")).show = "(call (id " ++ f ++ ") (id a) (id b))" ∧
      (parse ("a." ++ f ++ "(b)")).show = "(call (id " ++ f ++ ") (id a) (id b))" := by
  decide +kernel

/-- a unary operator is a call of its function; a run of unary operators applies the one nearest the operand first -/
theorem unary_is_call (r f : String) (rs : List String) (e e' : SExpr) (hf : unaryName r = some f)
    (h : applyUnary rs e = some e') : applyUnary (r :: rs) e = some (.call (.ident f) [e']) := by
  simp [applyUnary, h, hf, newCall]

theorem unary_is_call_text :
    ∀ p ∈ pestUnary, ∃ f, unaryName p.1 = some f ∧
      (parse (p.2 ++ "a")).show = "(call (id " ++ f ++ ") (id a))" ∧
      (parse (f ++ "(a)")).show = "(call (id " ++ f ++ ") (id a))" ∧
      (parse (p.2 ++ " - a")).show = "(call (id " ++ f ++ ") (call (id neg) (id a)))" := by
  decide +kernel

/-- `x.f(ys)` is `f(x, ys)` -/
theorem method_sugar (x : SExpr) (f : String) (ys : List SExpr) :
    applyAccessor x (.method f ys) = applyAccessor (.ident f) (.call (x :: ys)) := rfl

/-- `a[bs]` is `get(a, bs)` -/
theorem index_sugar (a : SExpr) (bs : List SExpr) :
    applyAccessor a (.index bs) = applyAccessor (.ident "get") (.call (a :: bs)) := rfl

theorem sugar_text :
    (parse "x.f(y, z)").show = (parse "f(x, y, z)").show ∧ (parse "a[b]").show = (parse "get(a, b)").show ∧
    (parse "a[b, c]").show = (parse "a.get(b, c)").show ∧ (parse "a[b]").show = "(call (id get) (id a) (id b))" ∧
    -- accessors bind tighter than unary operators, unary operators tighter than binary ones
    (parse "-a.f(b)[c] ** d").show = (parse "pow(neg(get(f(a, b), c)), d)").show ∧
    (parse "!a == b").show = (parse "eq(not(a), b)").show := by
  decide +kernel

/-! ## precedence and associativity: the tree `climb` builds is the one the table prescribes

`climb` is pest's `PrecClimber::climb` (outer and inner `while` of `climb_rec`) over the pair list
`primary (operator primary)*` of a `Rule::expression`, with the table generated from parser.rs.
`Shaped climberInfo t` says that `t` obeys the table at every node (`shaped_node_iff`): the root of the right operand
binds tighter than the node's operator, or equally and is right-associative; the root of the left operand binds
tighter, or equally and the node's operator is left-associative — i.e. `t` is what one gets by writing the fully
parenthesised tree with no parentheses at all.  (A parenthesised group is a primary of the climber: the grammar hands
it over as one pair.)  `climb_spec`: such a tree is recovered exactly from its in-order listing; `climb_total`: on
every well-formed pair list `climb` answers, with a tree that lists back to the input and obeys the table; so the
table-obeying tree of a pair list exists, is unique (`climb_unique`) and is what the parser builds. -/

theorem shaped_node_iff {α : Type} (r : String) (l rt : Tree α) :
    Shaped climberInfo (.node r l rt) ↔
      ∃ p a, climberInfo r = some (p, a) ∧ Shaped climberInfo l ∧ Shaped climberInfo rt ∧
        (∀ s q b, rootRule l = some s → climberInfo s = some (q, b) → q > p ∨ (q = p ∧ a = Assoc.left)) ∧
        (∀ s, rootRule rt = some s → ∃ q b, climberInfo s = some (q, b) ∧ (q > p ∨ (q = p ∧ b = Assoc.right))) := by
  simp only [Shaped, absorbs_false_iff_gt, absorbs_true_iff]

/-- every tree that obeys the table is parsed back from its in-order listing (no parentheses) -/
theorem climb_spec {α : Type} (t : Tree α) (h : Shaped climberInfo t) : climb climberInfo (inorder t) = some t :=
  climb_complete climberInfo climberInfo_uniform t h

/-- on every well-formed pair list (a primary, then known operators and primaries alternating) `climb` answers;
    the tree lists back to exactly the input (nothing dropped, nothing reordered) and obeys the table -/
theorem climb_total {α : Type} (a : α) (ts : List (Item α)) (h : Alt climberInfo ts) :
    ∃ t, climb climberInfo (.prim a :: ts) = some t ∧ inorder t = .prim a :: ts ∧ Shaped climberInfo t :=
  climb_ok climberInfo climberInfo_uniform a ts h

/-- there is only one table-obeying tree over a given pair list -/
theorem climb_unique {α : Type} (t1 t2 : Tree α) (h1 : Shaped climberInfo t1) (h2 : Shaped climberInfo t2)
    (h : inorder t1 = inorder t2) : t1 = t2 := by
  have e1 := climb_spec t1 h1
  have e2 := climb_spec t2 h2
  rw [h, e2] at e1
  exact (Option.some.inj e1).symm

/-- the hypotheses are satisfiable: `a + b * c ** d ** e` obeys the table (it is what `climb` builds) … -/
example : Shaped climberInfo
    (Tree.node "BINARY_ADD" (.leaf "a") (.node "BINARY_MUL" (.leaf "b")
      (.node "BINARY_POW" (.leaf "c") (.node "BINARY_POW" (.leaf "d") (.leaf "e"))))) := by
  obtain ⟨t, h1, _, h3⟩ := climb_total "a"
    [.op "BINARY_ADD", .prim "b", .op "BINARY_MUL", .prim "c", .op "BINARY_POW", .prim "d", .op "BINARY_POW", .prim "e"]
    (.cons _ _ _ (by decide) (.cons _ _ _ (by decide) (.cons _ _ _ (by decide) (.cons _ _ _ (by decide) .nil))))
  have h : climb climberInfo
      [.prim "a", .op "BINARY_ADD", .prim "b", .op "BINARY_MUL", .prim "c", .op "BINARY_POW", .prim "d", .op "BINARY_POW", .prim "e"]
      = some (Tree.node "BINARY_ADD" (.leaf "a") (.node "BINARY_MUL" (.leaf "b")
          (.node "BINARY_POW" (.leaf "c") (.node "BINARY_POW" (.leaf "d") (.leaf "e"))))) := by decide +kernel
  rw [h] at h1; cases h1; exact h3

/-- … and `(a + b) * c` does not (it needs its parentheses: without them `climb` builds `a + (b * c)`) -/
example : ¬ Shaped climberInfo (Tree.node "BINARY_MUL" (.node "BINARY_ADD" (.leaf "a") (.leaf "b")) (.leaf "c")) := by
  intro h
  have := climb_spec _ h
  revert this
  decide +kernel

/-- the same through the whole pipeline on source text: `**` tightest and to the right, then `* / %`, `+ -`, `| & ^`,
    the comparisons, `&& ||`, each level to the left; unary tighter than binary; accessors tighter than unary -/
theorem precedence_text :
    (parse "a + b * c ** d ** e - f").show = (parse "sub(add(a, mul(b, pow(c, pow(d, e)))), f)").show ∧
    (parse "a - b - c").show = (parse "sub(sub(a, b), c)").show ∧
    (parse "a / b % c * d").show = (parse "mul(mod(div(a, b), c), d)").show ∧
    (parse "a || b && c == d | e + f").show = (parse "and(or(a, b), eq(c, bit_or(d, add(e, f))))").show ∧
    (parse "a < b <= c != d").show = (parse "ne(le(lt(a, b), c), d)").show ∧
    (parse "a ^ b & c | d").show = (parse "bit_or(bit_and(bit_xor(a, b), c), d)").show ∧
    (parse "-a ** -b").show = (parse "pow(neg(a), neg(b))").show ∧
    (parse "!a.f(b)[c]::d").show = "(call (id not) (member (call (id get) (call (id f) (id a) (id b)) (id c)) d))" ∧
    (parse "(a + b) * c").show = (parse "mul(add(a, b), c)").show := by
  decide +kernel

open XrayModel.Core

/-! ## evaluation order (over the run-time core model `XrayModel/Core.lean`)

Arguments are evaluated strictly, left to right, exactly once: a strict native and a user function both start with
`evalList` of the argument expressions; when it delivers values, `SeqVals` holds — the chain
`eval e₁` from the call's state, `eval e₂` from the state `e₁` left, … one evaluation per argument, in order — and the
call continues *on the values* (`prim f vs` / `callUser … vs`: neither can evaluate an argument expression again).
When an argument yields an error value or a violation, that outcome is the call's (C06 says which one).

The only natives of the core that skip an argument are `if`, `and`, `or`, `if_error` — documented as short-circuiting:
book/src/std/general.md:59 (`if`), std/bool.md:17 (`and`), :57 (`or`), std/errors.md:17 (`if_error`); further
documented short-circuit functions are outside the core model (`then` bool.md:61, optional `and/map/map_or/or/value_or`
optional.md:9-44, mapping `get` with default mapping.md:46, `if_error` with a message errors.md:21) and are covered by
the check only.  book/src/lang/functions.md:162: "users should assume that functions are not short-circuiting, unless
the documentation explicitly states otherwise". -/

theorem args_left_to_right_once (n : Nat) (cfg : Cfg) (fr : Frame) (es : List Expr) (st st' : St) (vs : List Val)
    (h : evalList n cfg fr es st = (.ok vs, st')) : SeqVals cfg fr n es st vs st' :=
  evalList_ok_seqVals n cfg fr es st st' vs h

theorem strict_once (n : Nat) (cfg : Cfg) (fr : Frame) (f : String) (args : List Expr) (tail : Bool) (st : St)
    (hf : isStrictPrim f = true) :
    (∀ vs st', evalList n cfg fr args st = (.ok vs, st') →
        SeqVals cfg fr n args st vs st' ∧ builtin (n + 1) cfg fr f args tail st = (prim f vs, st')) ∧
    (∀ r st', evalList n cfg fr args st = (.error r, st') → builtin (n + 1) cfg fr f args tail st = (r, st')) := by
  refine ⟨fun vs st' h => ⟨evalList_ok_seqVals _ _ _ _ _ _ _ h, ?_⟩, fun r st' h => ?_⟩ <;>
    rw [builtin_strict hf] <;> simp [strictCall, hf, h]

theorem user_call_once (n : Nat) (cfg : Cfg) (fr : Frame) (g : Func) (d : List Val) (env : List (String × Val))
    (args : List Expr) (tail : Bool) (st : St) :
    (∀ vs st', evalList n cfg fr args st = (.ok vs, st') →
        SeqVals cfg fr n args st vs st' ∧
        callVal (n + 1) cfg fr (.clos g d env) args tail st = callUser n cfg fr.height (.clos g d env) vs st') ∧
    (∀ r st', evalList n cfg fr args st = (.error r, st') → callVal (n + 1) cfg fr (.clos g d env) args tail st = (r, st')) := by
  refine ⟨fun vs st' h => ⟨evalList_ok_seqVals _ _ _ _ _ _ _ h, ?_⟩, fun r st' h => ?_⟩ <;> simp [callVal, h]

theorem shortcircuit_only_documented (f : String) (args : List Expr) (hdoc : f ∉ ["if", "and", "or", "if_error"])
    (n : Nat) (cfg : Cfg) (fr : Frame) (tail : Bool) (st : St) :
    (∃ a, args = [a] ∧ f = "is_error" ∧
        (∀ v st', eval n cfg fr a false st = (.val v, st') →
          builtin (n + 1) cfg fr f args tail st = (.val (.bool v.isErr), st')) ∧
        (∀ k st', eval n cfg fr a false st = (.viol k, st') → builtin (n + 1) cfg fr f args tail st = (.viol k, st'))) ∨
    (∃ a, args = [a] ∧ f = "display" ∧
        (∀ m st', eval n cfg fr a false st = (.val (.err m), st') →
          builtin (n + 1) cfg fr f args tail st = (.val (.err m), st')) ∧
        (∀ v s st', eval n cfg fr a false st = (.val v, st') → v.isErr = false → toStr v = some s →
          builtin (n + 1) cfg fr f args tail st = (.val v, { st' with out := st'.out ++ [s] })) ∧
        (∀ k st', eval n cfg fr a false st = (.viol k, st') → builtin (n + 1) cfg fr f args tail st = (.viol k, st'))) ∨
    builtin (n + 1) cfg fr f args tail st = strictCall n cfg fr f args st := by
  rcases builtin_shape f args with ⟨_, _, _, rfl, _⟩ | ⟨_, _, rfl, _⟩ | ⟨_, _, rfl, _⟩ | ⟨_, _, rfl, _⟩ |
    ⟨a, rfl, rfl⟩ | ⟨a, rfl, rfl⟩ | hd
  · simp at hdoc
  · simp at hdoc
  · simp at hdoc
  · simp at hdoc
  · left
    refine ⟨a, rfl, rfl, fun v st' h => ?_, fun k st' h => ?_⟩ <;> simp [builtin, h]
  · right; left
    refine ⟨a, rfl, rfl, fun m st' h => ?_, fun v s st' h hv hs => ?_, fun k st' h => ?_⟩
    · simp [builtin, h]
    · cases v <;> simp_all [builtin, Val.isErr]
    · simp [builtin, h]
  · right; right; exact hd n cfg fr tail st

theorem documented_do_skip (n : Nat) (cfg : Cfg) (fr : Frame) (c b b' x : Expr) (tail : Bool) (st st' : St) :
    (eval n cfg fr c false st = (.val (.bool false), st') →
      builtin (n + 1) cfg fr "and" [c, b] tail st = builtin (n + 1) cfg fr "and" [c, b'] tail st ∧
      builtin (n + 1) cfg fr "if" [c, b, x] tail st = builtin (n + 1) cfg fr "if" [c, b', x] tail st) ∧
    (eval n cfg fr c false st = (.val (.bool true), st') →
      builtin (n + 1) cfg fr "or" [c, b] tail st = builtin (n + 1) cfg fr "or" [c, b'] tail st ∧
      builtin (n + 1) cfg fr "if" [c, x, b] tail st = builtin (n + 1) cfg fr "if" [c, x, b'] tail st) ∧
    (∀ k : Int, eval n cfg fr c false st = (.val (.int k), st') →
      builtin (n + 1) cfg fr "if_error" [c, b] tail st = builtin (n + 1) cfg fr "if_error" [c, b'] tail st) := by
  refine ⟨fun h => ?_, fun h => ?_, fun k h => ?_⟩ <;> simp [builtin, h]

/-- a user function named like the operator's function is what the operator calls -/
theorem overload_takes_effect (r f : String) (a b : SExpr) (a' b' : Expr) (hf : infixName r = some f)
    (hi : (climberInfo r).isSome) (ha : toCore a = some a') (hb : toCore b = some b')
    (fr : Frame) (c : Val) (hc : lookup f fr.env = some c) (n : Nat) (cfg : Cfg) (tail : Bool) (st : St) :
    ∃ e, (buildBinary a [(r, b)]).bind toCore = some e ∧
      eval (n + 2) cfg fr e tail st = callVal n cfg fr c [a', b'] tail st := by
  refine ⟨.call f [a', b'], ?_, eval_call_bound hc n cfg [a', b'] tail st⟩
  simp [operator_is_call r f a b hf hi, toCore, toCoreList, ha, hb]


/-! ## the derived comparisons depend only on the sign of `cmp`

`<  >  >=  <=` on a type with a user `cmp` are the documented functions of `cmp(a, b)` (std/general.md: "whether
`cmp(a,b)` is less than zero" …): whatever integer the user's `cmp` returns — `a::x - b::x`, a bignum, -1/0/1 — only
its sign matters.  (`!=` is the negation of the user's `eq`: `derivedNe` in the model, a definition about which nothing
is proved.) -/

theorem derived_cmp_spec (c : Int) :
    derivedOfCmp "lt" c = some (decide (c < 0)) ∧ derivedOfCmp "le" c = some (decide (c ≤ 0)) ∧
    derivedOfCmp "gt" c = some (decide (c > 0)) ∧ derivedOfCmp "ge" c = some (decide (c ≥ 0)) := by
  refine ⟨rfl, ?_, rfl, ?_⟩ <;> simp only [derivedOfCmp, Option.some.injEq] <;>
    rw [Bool.eq_iff_iff] <;> simp <;> omega

theorem derived_cmp_sign (name : String) (c c' : Int) (h : Int.sign c = Int.sign c') :
    derivedOfCmp name c = derivedOfCmp name c' := by
  have h1 : (c < 0 ↔ c' < 0) := by
    rw [← Int.sign_eq_neg_one_iff_neg, ← Int.sign_eq_neg_one_iff_neg, h]
  have h2 : (c > 0 ↔ c' > 0) := by
    show (0 < c ↔ 0 < c')
    rw [← Int.sign_eq_one_iff_pos, ← Int.sign_eq_one_iff_pos, h]
  unfold derivedOfCmp
  split <;> simp [h1, h2]

/-- the four are coherent with each other for every `cmp` result (exactly one of `<`, `==0`, `>`) -/
theorem derived_cmp_coherent (c : Int) :
    derivedOfCmp "ge" c = (derivedOfCmp "lt" c).map (!·) ∧ derivedOfCmp "le" c = (derivedOfCmp "gt" c).map (!·) ∧
    ¬ (derivedOfCmp "lt" c = some true ∧ derivedOfCmp "gt" c = some true) := by
  refine ⟨rfl, rfl, ?_⟩
  simp [derivedOfCmp]; omega

end XrayModel.C02
