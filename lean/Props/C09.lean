/-
C09 — Size limit is enforced and memory accounting balances.
`Generated.SizeLimitUses` (reads of `size_limit`, writes to the accounted total, the shape of
`Runtime::allocate`) is regenerated from /repo/src on every run; the three theorems proved by evaluation are re-checked against what
the code says now.  The trace theorems hold for every event trace — in particular for traces in which allocations fail
at arbitrary points — and need the roll-back in `allocate`, which `allocate_shape` reads off the source.
-/
import XrayProofs.Alloc
import Generated.SizeLimitUses
namespace XrayModel.C09
open XrayModel.Alloc Generated.SizeLimitUses

/-- the limit is consulted only in tests of the form `size (+ n, possibly saturating) > L`, so raising it can only turn a failure into a pass -/
theorem limit_uses_monotone : uses.all LimitUse.monotone = true := by decide

/-- `Runtime::allocate`, `deallocate`, `can_allocate_by`, `ManagedXValue::new` and the two `Drop` impls still have the
    modelled text, and a failed `allocate` gives its bytes back before returning the violation -/
theorem allocate_shape : allocShape.recognised = true ∧ allocShape.rollsBack = true := by decide

/-- the accounted total is written in exactly three places: the add and the roll-back in `allocate`, the subtraction
    in `deallocate` -/
theorem size_mutations_known :
    mutations.map (·.form) = [.addInAllocate, .rollBackInAllocate, .subInDeallocate] := by decide

/-- the accounted total never underflows: for every trace, on a runtime that starts at any baseline within its limit -/
theorem no_underflow (sh : AllocShape) (hsh : sh.rollsBack = true) (base : Nat) (limit : Option Nat)
    (hb : ∀ L, limit = some L → base ≤ L) (evs : List Ev) :
    (run sh (startAt base limit) evs).underflows = 0 :=
  (run_inv sh hsh base limit evs _ (startAt_inv base limit hb)).noUnderflow

/-- conservation: after *every* trace — whatever allocations and pre-flights failed on the way — the accounted total is
    the baseline plus the recorded sizes of the values that are still live … -/
theorem balance (sh : AllocShape) (hsh : sh.rollsBack = true) (base : Nat) (limit : Option Nat)
    (hb : ∀ L, limit = some L → base ≤ L) (evs : List Ev) :
    (run sh (startAt base limit) evs).st.size = base + liveSum (run sh (startAt base limit) evs).live :=
  (run_inv sh hsh base limit evs _ (startAt_inv base limit hb)).sum

/-- … so once everything that was successfully allocated has been dropped, the total is back at the baseline -/
theorem balance_all_dropped (sh : AllocShape) (hsh : sh.rollsBack = true) (base : Nat) (limit : Option Nat)
    (hb : ∀ L, limit = some L → base ≤ L) (evs : List Ev)
    (hdropped : (run sh (startAt base limit) evs).live = []) :
    (run sh (startAt base limit) evs).st.size = base := by
  rw [balance sh hsh base limit hb evs, hdropped]
  rfl

/-- an allocation that succeeds leaves the total within the limit (whatever the shape of `allocate`) -/
theorem allocate_ok_within (sh : AllocShape) (s s' : St) (bytes rec L : Nat) (hl : s.limit = some L)
    (h : allocate sh s bytes = (s', .ok rec)) : s'.size ≤ L ∧ rec = bytes := by
  rcases allocate_spec sh s bytes with ⟨hn, _⟩ | ⟨L1, _, _, ha⟩ | ⟨L1, hl1, hle, ha⟩
  · rw [hl] at hn; cases hn
  · rw [ha] at h; cases h
  · rw [hl] at hl1; injection hl1 with hl1; subst hl1
    rw [ha] at h
    injection h with h1 h2
    injection h2 with h2
    subst h1
    exact ⟨hle, h2.symm⟩

/-- the limit is enforced: with a limit `L` the accounted total is within `L` after every trace (a total above `L`
    never survives an allocation: the allocation returns the violation and the bytes are given back) -/
theorem limit_enforced (sh : AllocShape) (hsh : sh.rollsBack = true) (base L : Nat) (hb : base ≤ L) (evs : List Ev) :
    (run sh (startAt base (some L)) evs).st.size ≤ L :=
  (run_inv sh hsh base (some L) evs _ (startAt_inv base (some L) (by intro L' h; injection h with h; omega))).within L rfl

/-- raising the limit never turns a passing run into a failing one, and a passing run's accounting does not depend on
    the limit: same total, same live values, still no violation -/
theorem monotone_in_L (sh : AllocShape) (base L L' : Nat) (hLL : L ≤ L') (evs : List Ev)
    (hpass : (run sh (startAt base (some L)) evs).viols = 0) :
    (run sh (startAt base (some L')) evs).viols = 0 ∧
    (run sh (startAt base (some L')) evs).st.size = (run sh (startAt base (some L)) evs).st.size ∧
    (run sh (startAt base (some L')) evs).live = (run sh (startAt base (some L)) evs).live := by
  have h : run sh (startAt base (some L')) evs = relimit L' (run sh (startAt base (some L)) evs) :=
    run_relimit sh hLL evs (startAt base (some L)) rfl hpass
  rw [h]
  exact ⟨hpass, rfl, rfl⟩

/-- every value is accounted for at least its payload (and at least its own cell) -/
theorem payload_le_size (c : Consts) (v : Val) : v.payload c ≤ v.size c ∧ c.xvalue ≤ v.size c := by
  cases v <;> simp only [Val.payload, Val.size] <;> omega

/-- a native container is accounted for at least one pointer per value it holds — whatever the number of hash buckets
    its entries are spread over (a mapping of `len` entries in a single bucket still accounts `2 * len` pointers) -/
theorem native_entries_accounted (c : Consts) (n : Native) : n.entries * c.rc ≤ n.dynSize c := by
  cases n with
  | seqArray n | seqZip n | genZip n | genChain n => exact Nat.le_refl _
  | seqOther | genOther | optional => exact Nat.le_of_eq (Nat.zero_mul _)
  | seqChain parts => exact Nat.le_add_right _ _
  -- the owned nodes are among the `owned (+ 1) + 1` nodes the walk counts
  | stack owned reachesEnd => exact Nat.mul_le_mul_right _ (Nat.le_trans (Nat.le_add_right ..) (Nat.le_add_right ..))
  -- key pointers and value pointers, `len` of each; the bucket headers come on top
  | mapping buckets len =>
    show 2 * len * c.rc ≤ buckets * c.vec + len * c.rc + len * c.rc
    rw [Nat.mul_assoc, Nat.two_mul, Nat.add_assoc]
    exact Nat.le_add_left _ _
  | set buckets len => exact Nat.mul_le_mul_right _ (Nat.le_trans (Nat.le_add_right ..) (Nat.le_add_right ..))

/-- more collisions mean fewer buckets, and the accounted size of a mapping or set shrinks by the bucket headers only,
    never by the entries -/
theorem collisions_cost_headers_only (c : Consts) (b b' len : Nat) (hb : b ≤ b') :
    (Native.mapping b' len).dynSize c - (Native.mapping b len).dynSize c = (b' - b) * c.vec ∧
    (Native.set b' len).dynSize c - (Native.set b len).dynSize c = (b' - b) * c.rc := by
  obtain ⟨d, rfl⟩ := Nat.exists_eq_add_of_le hb
  simp only [Native.dynSize, Nat.add_mul, Nat.add_sub_cancel_left]
  constructor <;> omega

/-- the statements for the code as it is now -/
theorem xray_balance (base : Nat) (limit : Option Nat) (hb : ∀ L, limit = some L → base ≤ L) (evs : List Ev) :
    (run allocShape (startAt base limit) evs).underflows = 0 ∧
    (run allocShape (startAt base limit) evs).st.size = base + liveSum (run allocShape (startAt base limit) evs).live :=
  ⟨no_underflow allocShape allocate_shape.2 base limit hb evs, balance allocShape allocate_shape.2 base limit hb evs⟩

/-- the roll-back is necessary: the same model without it (the code before the repair) leaks the bytes of a failed
    allocation — one failed allocation, nothing live, and the total is not back at the baseline -/
theorem unrepaired_allocate_leaks :
    let r := run { recognised := true, rollsBack := false } (startAt 0 (some 10)) [.alloc 1 20]
    r.live = [] ∧ r.viols = 1 ∧ r.st.size = 20 := by decide

/- non-vacuity: a trace in which the second allocation fails (65 + 50 > 100) and so does the pre-flight after it
   (65 + 40 > 100), the first value is dropped afterwards, and a later allocation succeeds; the repaired accounting
   is back at the baseline -/
example :
    let r := run allocShape (startAt 5 (some 100)) [.alloc 1 60, .alloc 2 50, .preflight 40, .drop 1, .alloc 3 90, .drop 3]
    r.st.size = 5 ∧ r.viols = 2 ∧ r.live = [] := by decide

end XrayModel.C09
