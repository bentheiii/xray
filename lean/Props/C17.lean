/-
C17 — Mappings and sets are finite maps under any consistent hash.
Property theorems only; definitions (`Consistent`, `Inv`, `look`, `has`, `writeAll`, `foldF`, `Sub`) and helper
lemmas live in XrayProofs/HashMap.lean and XrayProofs/HashMapMore.lean, the model in XrayModel/HashMap.lean.

* `Consistent hash eq` is the premise of the property: `eq` is a total equivalence relation (`C.e`), `hash` is
  total (`C.h`), equal keys hash equally and hashes lie in `[0, 2^64)`.  Nothing else is assumed about the
  hash: it may be injective, collide, or be constant.
* `look C t k` is plain association-list lookup, over the classes of `C.e`, in the list of all stored entries
  (`toList t`) — no hashing, no buckets.  `has C t k = (look C t k).isSome`.
* `Inv C t` is the representation invariant: every key sits in the bucket of its hash, no two equivalent keys
  are stored, no bucket is empty, no hash occurs twice, `len` = number of stored entries.
Every operation theorem has the shape: on a well-formed table the operation succeeds (or returns the documented
error value — never a panic), the result is well-formed, and `look` of the result is the association-list
specification applied to `look` of the argument.
-/
import XrayProofs.HashMapMore
namespace XrayModel.C17
open XrayModel.HM

variable {K V : Type} {hash : K → Res Int} {eq : K → K → Res Bool}

/-- the premise is satisfiable by a constant hash under an equality coarser than identity (keys mod 3) -/
example : Consistent (K := Nat) (fun _ => .ok 0) (fun a b => .ok (a % 3 == b % 3)) where
  h := fun _ => 0
  e := fun a b => a % 3 == b % 3
  hash_ok := fun _ => rfl
  hash_lt := fun _ => by decide
  eq_ok := fun _ _ => rfl
  refl := fun _ => beq_self_eq_true _
  symm := fun _ _ h => beq_iff_eq.2 (beq_iff_eq.1 h).symm
  trans := fun _ _ _ h1 h2 => beq_iff_eq.2 ((beq_iff_eq.1 h1).trans (beq_iff_eq.1 h2))
  congr := fun _ _ _ => rfl

/-- a hash outside `[0, 2^64)` makes `locate` (hence every keyed operation) answer the error value
"hash is out of bounds" — never a panic, never a wrong bucket -/
theorem hash_out_of_range_is_error (hash : K → Res Int) (eq : K → K → Res Bool)
    (t : Table K V) (k : K) (x : Int) (hx : hash k = .ok x) (hr : x < 0 ∨ 18446744073709551616 ≤ x) :
    locate hash eq t k = .error (.err "hash is out of bounds") := by
  have : toU64 x = none := by
    unfold toU64
    split
    · omega
    · rfl
  simp [locate, hx, this]

/-- the empty mapping / set satisfies the invariant and holds nothing -/
theorem empty_spec (C : Consistent hash eq) :
    Inv C (empty : Table K V) ∧ (empty : Table K V).len = 0 ∧ ∀ k, look C (empty : Table K V) k = none :=
  ⟨⟨trivial, rfl⟩, rfl, fun _ => rfl⟩

/-- collision independence: on a well-formed table, lookup through the hash (`lookB`: the bucket of `hash k`,
then the equality scan) is plain association-list lookup over all entries — for EVERY consistent hash, the
constant one included -/
theorem collision_independent (C : Consistent hash eq) {t : Table K V} (hI : Inv C t) (k : K) :
    lookB C t k = look C t k := (look_eq_lookB C hI k).symm

/-- `len` counts classes: it is the number of stored entries, and the stored keys are pairwise inequivalent -/
theorem len_spec (C : Consistent hash eq) {t : Table K V} (hI : Inv C t) :
    t.len = (toList t).length ∧ (toList t).Pairwise (fun x y => C.e x.1 y.1 = false) :=
  ⟨by rw [toList_length]; exact hI.len_eq, toList_pairwise C hI⟩

/-- `lookup` returns what the association list returns -/
theorem lookup_spec (C : Consistent hash eq) {t : Table K V} (hI : Inv C t) (k : K) :
    lookup hash eq t k = .ok (look C t k) := lookup_eq C hI k

/-- `get(m, k, default)`: the stored value, else the (lazily evaluated) default -/
theorem get_default_spec (C : Consistent hash eq) {t : Table K V} (hI : Inv C t) (k : K) (d : Unit → Res V) :
    get3 hash eq t k d = match look C t k with
      | some v => .ok v
      | none => d () := by
  unfold get3
  rw [look_eq_lookB C hI]
  cases locate_cases C t k with
  | vacant _ hloc hl | missing _ _ hloc hl => rw [hloc, hl]
  | found hg hi _ hloc hl => simp only [hloc, hl, getAt, hg, hi]

/-- the library helpers `contains(m, k)` and `get(m, k)` (written in xray over `lookup`) -/
theorem contains_get_spec (C : Consistent hash eq) {t : Table K V} (hI : Inv C t) (k : K) :
    contains hash eq t k = .ok (has C t k) ∧
    get2 hash eq t k = match look C t k with
      | some v => .ok v
      | none => .error (.err "key not found") := by
  refine ⟨?_, get2_eq C hI k⟩
  rw [contains, lookup_eq C hI]; rfl

/-- `set` (insertion and overwrite): succeeds, keeps the invariant; afterwards every key equivalent to `k` maps
to `v` and every other key maps to what it mapped to before; `len` grows by one exactly when `k`'s class was absent -/
theorem set_spec (C : Consistent hash eq) {t : Table K V} (hI : Inv C t) (k : K) (v : V) :
    ∃ t', set hash eq t k v = .ok t' ∧ Inv C t' ∧
      (∀ k', look C t' k' = if C.e k' k then some v else look C t k') ∧
      t'.len = if (look C t k).isSome then t.len else t.len + 1 := by
  obtain ⟨t', h1, h2, h3, h4⟩ := put_spec C hI k (fun _ => v) (fun _ => v)
  have hv : pureNew (fun _ => v) (fun _ => v) (look C t k) = v := by cases look C t k <;> rfl
  rw [hv] at h4
  exact ⟨t', by simp only [HM.set, withUpdate, h1], h2, h4, h3⟩

/-- lookup after set: any key equivalent to the one just set yields the value just set -/
theorem lookup_after_set (C : Consistent hash eq) {t : Table K V} (hI : Inv C t) (k k' : K) (v : V)
    (he : C.e k' k = true) :
    ∃ t', set hash eq t k v = .ok t' ∧ lookup hash eq t' k' = .ok (some v) := by
  obtain ⟨t', h1, h2, h3, _⟩ := set_spec C hI k v
  exact ⟨t', h1, by rw [lookup_spec C h2, h3, he]; rfl⟩

/-- overwrite: setting an equivalent key again replaces the value and leaves `len` and all other keys alone -/
theorem overwrite (C : Consistent hash eq) {t : Table K V} (hI : Inv C t) (k k2 : K) (v v2 : V)
    (he : C.e k2 k = true) :
    ∃ t1 t2, set hash eq t k v = .ok t1 ∧ set hash eq t1 k2 v2 = .ok t2 ∧ t2.len = t1.len ∧
      ∀ k', look C t2 k' = if C.e k' k then some v2 else look C t k' := by
  obtain ⟨t1, h1, hI1, hl1, _⟩ := set_spec C hI k v
  obtain ⟨t2, h2, _, hl2, hn2⟩ := set_spec C hI1 k2 v2
  refine ⟨t1, t2, h1, h2, ?_, ?_⟩
  · rw [hn2, hl1, he]; rfl
  · intro k'
    rw [hl2, hl1, e_congr_right C he k']
    cases C.e k' k <;> rfl

/-- `set_default`: a present class leaves the mapping untouched and does not even evaluate the value; an
absent class is inserted (an erroring value is the result) -/
theorem set_default (C : Consistent hash eq) {t : Table K V} (hI : Inv C t) (k : K) (v : Unit → Res V) :
    match look C t k with
    | some _ => setDefault hash eq t k v = .ok t
    | none =>
      match v () with
      | .error er => setDefault hash eq t k v = .error er
      | .ok a => ∃ t', setDefault hash eq t k v = .ok t' ∧ Inv C t' ∧ t'.len = t.len + 1 ∧
          ∀ k', look C t' k' = if C.e k' k then some a else look C t k' := by
  unfold setDefault
  rw [look_eq_lookB C hI]
  cases locate_cases C t k with
  | found _ _ _ hloc hl => simp only [hl, hloc]
  | vacant _ hloc hl | missing _ _ hloc hl =>
    simp only [hl, hloc]
    cases v () with
    | error er => rfl
    | ok a =>
      have h := (tryPut_spec C hI k (fun _ => .ok a) (fun _ => .error (.panic "unreachable"))).2 a
      rw [tryPut, hloc, look_eq_lookB C hI, hl] at h
      exact h rfl

/-- `pop` (and set `remove`, with its own message): an absent class is the documented error value; a present
class is removed — it and only it — and `len` drops by one -/
theorem remove (C : Consistent hash eq) (msg : String) {t : Table K V} (hI : Inv C t) (k : K) :
    match look C t k with
    | none => popMsg hash eq msg t k = .error (.err msg)
    | some _ => ∃ t', popMsg hash eq msg t k = .ok t' ∧ Inv C t' ∧ t'.len + 1 = t.len ∧
        ∀ k', look C t' k' = if C.e k' k then none else look C t k' := by
  unfold popMsg
  by_cases h0 : t.len = 0
  · simp only [look_of_len_zero C hI h0, if_pos h0]
  · rw [look_eq_lookB C hI]
    cases locate_cases C t k with
    | vacant _ hloc hl | missing _ _ hloc hl => simp only [hl, hloc, if_neg h0]
    | found hg hi hek hloc hl => simp only [hl, hloc, if_neg h0]; exact removeAt_spec C hI hg hi hek

/-- `discard`: never an error; the class of `k` is gone afterwards, everything else is as before -/
theorem discard_spec (C : Consistent hash eq) {t : Table K V} (hI : Inv C t) (k : K) :
    ∃ t', discard hash eq t k = .ok t' ∧ Inv C t' ∧
      t'.len + (if (look C t k).isSome then 1 else 0) = t.len ∧
      ∀ k', look C t' k' = if C.e k' k then none else look C t k' := by
  obtain ⟨t', h1, h2, h3, h4⟩ := HM.discard_spec C hI k
  rw [look_fun C hI]
  exact ⟨t', h1, h2, h3, fun k' => by rw [look_eq_lookB C h2]; exact h4 k'⟩

/-- `clear`: the result is well formed, empty, and answers no key (`HM.clear_spec` read through `look`) -/
theorem clear_spec (C : Consistent hash eq) {t : Table K V} (hI : Inv C t) :
    Inv C (clear t) ∧ (clear t).len = 0 ∧ ∀ k, look C (clear t) k = none := by
  obtain ⟨h1, h2, h3⟩ := HM.clear_spec C hI
  exact ⟨h1, h2, fun k => by rw [look_eq_lookB C h1]; exact h3 k⟩

/-- bulk update (`update`, and `set` as its one-item case): the items are written in order, later items win -/
theorem bulk_update (C : Consistent hash eq) {t : Table K V} (hI : Inv C t) (items : List (K × V)) :
    ∃ t', update hash eq t (items.map .ok) = .ok t' ∧ Inv C t' ∧
      ∀ k', look C t' k' = writeAll C (look C t) items k' := by
  unfold update
  induction items generalizing t with
  | nil => exact ⟨t, rfl, hI, fun _ => rfl⟩
  | cons kv rest ih =>
    obtain ⟨k, v⟩ := kv
    obtain ⟨t1, h1, h2, _, h4⟩ := (tryPut_spec C hI k (fun _ => .ok v) (fun _ => .ok v)).2 v
      (by cases look C t k <;> rfl)
    obtain ⟨t', h5, h6, h7⟩ := ih h2
    refine ⟨t', ?_, h6, ?_⟩
    · simp only [List.map_cons, withUpdate, put_eq_tryPut, h1]; exact h5
    · rw [writeAll, ← funext h4]; exact h7

/-- `update_from_keys` refines the abstract fold `foldF` of the one-key step over the association function:
same result, same first error (an error item of the generator or an error of a callback) -/
theorem update_from_keys_spec (C : Consistent hash eq) (onEmpty : K → Res V) (onOcc : K → V → Res V)
    {t : Table K V} (hI : Inv C t) (ks : List (Res K)) :
    match foldF C onEmpty onOcc (look C t) ks with
    | .error er => updateFromKeys hash eq onEmpty onOcc t ks = .error er
    | .ok f => ∃ t', updateFromKeys hash eq onEmpty onOcc t ks = .ok t' ∧ Inv C t' ∧ ∀ k', look C t' k' = f k' :=
  updateFromKeys_spec C onEmpty onOcc hI ks

/-- counting: `update_counter` is the fold with `1` for a new class and `+ 1` for a present one -/
theorem counting (C : Consistent hash eq) {t : Table K Int} (hI : Inv C t) (ks : List (Res K)) :
    match foldF C (fun _ => .ok 1) (fun _ v => .ok (v + 1)) (look C t) ks with
    | .error er => updateCounter hash eq t ks = .error er
    | .ok f => ∃ t', updateCounter hash eq t ks = .ok t' ∧ Inv C t' ∧ ∀ k', look C t' k' = f k' := by
  have h := updateFromKeys_spec C (fun _ => .ok (1 : Int)) (fun _ v => .ok (v + 1)) hI ks
  unfold updateCounter
  generalize foldF C _ _ (look C t) ks = r at h ⊢
  cases r <;> exact h

/-- persistence: an update returns a new table; the old version still satisfies its invariant and still
answers every lookup exactly as before (the model is pure, so this is immediate — the tie re-reads every
earlier version of the real implementation after later updates) -/
theorem persistent (C : Consistent hash eq) {t : Table K V} (hI : Inv C t) (k : K) (v : V) (k' : K) :
    ∃ t', set hash eq t k v = .ok t' ∧ Inv C t ∧ lookup hash eq t k' = .ok (look C t k') := by
  obtain ⟨t', h1, _⟩ := set_spec C hI k v
  exact ⟨t', h1, hI, lookup_spec C hI k'⟩

/-- no operation on a well-formed table reaches a Rust panic (`unwrap` on `None`, index out of range,
`usize` underflow, `unreachable!`) -/
theorem no_panic (C : Consistent hash eq) {t : Table K V} (hI : Inv C t) (k : K) (v : V) (w : String) :
    set hash eq t k v ≠ .error (.panic w) ∧ pop hash eq t k ≠ .error (.panic w) ∧
    discard hash eq t k ≠ .error (.panic w) ∧ lookup hash eq t k ≠ .error (.panic w) ∧
    setDefault hash eq t k (fun _ => .ok v) ≠ .error (.panic w) := by
  refine ⟨?_, ?_, ?_, ?_, ?_⟩
  · obtain ⟨t', h1, _⟩ := set_spec C hI k v; rw [h1]; intro h; cases h
  · have h := remove C "key not found" hI k
    unfold pop
    split at h
    · rw [h]; intro h2; cases h2
    · obtain ⟨t', h1, _⟩ := h; rw [h1]; intro h2; cases h2
  · obtain ⟨t', h1, _⟩ := discard_spec C hI k; rw [h1]; intro h; cases h
  · rw [lookup_spec C hI]; intro h; cases h
  · have h := set_default C hI k (fun _ => .ok v)
    split at h
    · rw [h]; intro h2; cases h2
    · obtain ⟨t', h1, _⟩ := h; rw [h1]; intro h2; cases h2

/-! ### sets -/

/-- `add` / `update` on sets: the classes of the added keys join the set, nothing else changes -/
theorem set_add_spec (C : Consistent hash eq) {t : Table K Unit} (hI : Inv C t) (ks : List K) :
    ∃ t', sUpdate hash eq t (ks.map .ok) = .ok t' ∧ Inv C t' ∧
      ∀ k', has C t' k' = (has C t k' || ks.any (fun k => C.e k' k)) := sWithUpdate_spec C hI ks

/-- `contains` on a set is membership of the key's class -/
theorem set_contains_spec (C : Consistent hash eq) {t : Table K Unit} (hI : Inv C t) (k : K) :
    sContains hash eq t k = .ok (has C t k) := sContains_eq C hI k

/-- `|`, `&`, `-`, `^` are union, intersection, difference and symmetric difference of the class sets -/
theorem set_algebra (C : Consistent hash eq) {a b : Table K Unit} (ha : Inv C a) (hb : Inv C b) :
    (∃ r, bitOr hash eq a b = .ok r ∧ Inv C r ∧ ∀ k, has C r k = (has C a k || has C b k)) ∧
    (∃ r, bitAnd hash eq a b = .ok r ∧ Inv C r ∧ ∀ k, has C r k = (has C a k && has C b k)) ∧
    (∃ r, sSub hash eq a b = .ok r ∧ Inv C r ∧ ∀ k, has C r k = (has C a k && !has C b k)) ∧
    (∃ r, bitXor hash eq a b = .ok r ∧ Inv C r ∧ ∀ k, has C r k = (has C a k != has C b k)) := by
  refine ⟨bitOr_spec C ha b, ?_, sSub_spec C ha hb, ?_⟩
  · -- `&` filters the smaller operand by membership in the larger one
    unfold bitAnd orderByCard
    by_cases hl : a.len < b.len
    · simp only [if_pos hl, sContains_fun C hb]
      exact rebuild_spec C ha (has C b) (fun u v h => has_congr C b h)
    · simp only [if_neg hl, sContains_fun C ha]
      obtain ⟨r, h1, h2, h3⟩ := rebuild_spec C (x := b) ha (has C a) (fun u v h => has_congr C a h)
      exact ⟨r, h1, h2, fun k => by rw [h3, Bool.and_comm]⟩
  · -- `^` is `(a - b) | (b - a)`
    obtain ⟨x, hx1, hx2, hx3⟩ := sSub_spec C ha hb
    obtain ⟨y, hy1, hy2, hy3⟩ := sSub_spec C hb ha
    obtain ⟨r, hr1, hr2, hr3⟩ := bitOr_spec C hx2 y
    refine ⟨r, by simp only [bitXor, hx1, hy1, hr1], hr2, fun k => ?_⟩
    rw [hr3, hx3, hy3]
    cases has C a k <;> cases has C b k <;> rfl

/-- `<=`, `>=`, `<`, `>`, `==`, `is_disjoint` decide inclusion, proper inclusion, equality and disjointness of
the class sets (the `len` shortcuts in the library code are justified by counting classes) -/
theorem set_relations (C : Consistent hash eq) {a b : Table K Unit} (ha : Inv C a) (hb : Inv C b) :
    (∃ r, sLe hash eq a b = .ok r ∧ (r = true ↔ ∀ k, has C a k = true → has C b k = true)) ∧
    (∃ r, sLt hash eq a b = .ok r ∧ (r = true ↔ ((∀ k, has C a k = true → has C b k = true) ∧
        ¬ ∀ k, has C b k = true → has C a k = true))) ∧
    (∃ r, sEq hash eq a b = .ok r ∧ (r = true ↔ ∀ k, has C a k = has C b k)) ∧
    (∃ r, isDisjoint hash eq a b = .ok r ∧ (r = true ↔ ∀ k, ¬ (has C a k = true ∧ has C b k = true))) := by
  refine ⟨?_, ?_, ?_, ?_⟩
  · unfold sLe sGe
    simp only [sContains_eq C hb, allRes_ok, sToList_eq]
    by_cases hl : a.len ≤ b.len
    · exact ⟨_, if_pos hl, all_has_iff_sub C⟩
    · exact ⟨false, if_neg hl, by simp only [Bool.false_eq_true, false_iff]; exact fun h => hl (sub_len_le C ha hb h)⟩
  · unfold sLt sGt
    simp only [sContains_eq C hb, allRes_ok, sToList_eq]
    by_cases hl : a.len < b.len
    · refine ⟨_, if_pos hl, ?_⟩
      rw [all_has_iff_sub C]
      exact ⟨fun h => ⟨h, fun h2 => Nat.not_le_of_lt hl (sub_len_le C hb ha h2)⟩, fun h => h.1⟩
    · refine ⟨false, if_neg hl, ?_⟩
      simp only [Bool.false_eq_true, false_iff, not_and, Classical.not_not]
      exact fun h => sub_antisymm_of_len C ha hb h (Nat.le_of_not_lt hl)
  · unfold sEq orderByCard
    by_cases hl : a.len = b.len
    · have hnl : ¬ a.len < b.len := by rw [hl]; exact Nat.lt_irrefl _
      simp only [if_pos hl, if_neg hnl, sContains_eq C ha, allRes_ok, sToList_eq]
      refine ⟨_, rfl, ?_⟩
      rw [all_has_iff_sub C, has_eq_iff_sub C]
      exact ⟨fun h => ⟨sub_antisymm_of_len C hb ha h (by omega), h⟩, fun h => h.2⟩
    · refine ⟨false, if_neg hl, ?_⟩
      simp only [Bool.false_eq_true, false_iff, has_eq_iff_sub C, not_and]
      exact fun h1 h2 => hl (Nat.le_antisymm (sub_len_le C ha hb h1) (sub_len_le C hb ha h2))
  · have key : ∀ (x y : Table K Unit),
        ((keys x).all (fun i => !has C y i) = true ↔ ∀ k, ¬ (has C x k = true ∧ has C y k = true)) := fun x y =>
      (all_keys_iff C x _ fun u v h => by rw [has_congr C y h]).trans
        (forall_congr' fun k => by rw [not_and, Bool.not_eq_true, Bool.not_eq_true'])
    unfold isDisjoint orderByCard
    by_cases hl : a.len < b.len
    · simp only [if_pos hl, sContains_eq C hb, allRes_ok, sToList_eq]
      exact ⟨_, rfl, key a b⟩
    · simp only [if_neg hl, sContains_eq C ha, allRes_ok, sToList_eq]
      exact ⟨_, rfl, (key b a).trans (forall_congr' fun k => not_congr And.comm)⟩

/-! ### `==`, `hash`, `map_values` -/

/-- mapping `==` (with both mappings built on the same consistent `hash` / `eq`, and a total value equality
`ve`): true exactly when every key class is absent from both or present in both with `ve`-equal values — equality
of the two association lists over the classes.  (Set `==` is the third clause of `set_relations`.) -/
theorem mapping_eq_spec (C : Consistent hash eq) (veq : V → V → Res Bool) (ve : V → V → Bool)
    (hve : ∀ a b, veq a b = .ok (ve a b)) {m0 m1 : Table K V} (h0 : Inv C m0) (h1 : Inv C m1) :
    ∃ r, dynEq hash eq veq m0 m1 = .ok r ∧ (r = true ↔ ∀ k, optRel ve (look C m0 k) (look C m1 k) = true) := by
  unfold dynEq
  rw [dynEqGo_eq C veq ve hve h1]
  by_cases hl : m0.len = m1.len
  · rw [if_neg fun h => h hl]
    refine ⟨_, rfl, ?_⟩
    rw [List.all_eq_true]
    constructor
    · intro hall
      -- from the stored keys of `m0` to all keys of their classes
      have H : ∀ k v, look C m0 k = some v → optRel ve (some v) (look C m1 k) = true := fun k v hk => by
        obtain ⟨k0, hm, hek⟩ := findE_some_mem hk
        rw [look_congr C m1 hek]; exact hall _ hm
      -- so `m1` has every class of `m0`, and, being no larger, no other
      have hsub : Sub C m1 m0 := sub_antisymm_of_len C h0 h1 (Nat.le_of_eq hl.symm) (h := fun k hk => by
        obtain ⟨v, hv⟩ := Option.isSome_iff_exists.1 hk
        exact (optRel_isSome (H k v hv)).symm)
      intro k
      cases hk : look C m0 k with
      | some v => exact H k v hk
      | none =>
        cases hk1 : look C m1 k with
        | none => rfl
        | some o => have := hsub k (by rw [has, hk1]; rfl); rw [has, hk] at this; cases this
    · intro hrel kv hm
      have := hrel kv.1
      rwa [look_of_stored C h0 hm] at this
  · rw [if_pos hl]
    refine ⟨false, rfl, ?_⟩
    simp only [Bool.false_eq_true, false_iff]
    exact fun hrel => hl (len_eq_of_has_eq C h0 h1 fun k => optRel_isSome (hrel k))

/-- set `hash` on the repaired code: sets with the same members hash equally — whatever the insertion and
removal history, the stored representatives, or the (consistent) key hash — and the hash lies in `[0, 2^64)` -/
theorem set_hash_congr (C : Consistent hash eq) {a b : Table K Unit} (ha : Inv C a) (hb : Inv C b)
    (h : ∀ k, has C a k = has C b k) : sHash a = sHash b ∧ sHash a < 2 ^ 64 :=
  ⟨sHash_congr C ha hb h, sHash_lt a⟩

/-- mapping `hash` on the repaired code, for a total value hash with values in range (`VHashOK vhash vh`):
the hash succeeds, lies in `[0, 2^64)`, and mappings with the same association list over the classes hash equally -/
theorem mapping_hash_congr (C : Consistent hash eq) {vhash : V → Res Int} {vh : V → Nat} (hv : VHashOK vhash vh)
    {a b : Table K V} (ha : Inv C a) (hb : Inv C b) (h : ∀ k, look C a k = look C b k) :
    dynHash vhash a = dynHash vhash b ∧ ∃ n, dynHash vhash a = .ok n ∧ n < 2 ^ 64 := by
  refine ⟨?_, dynHash_lt hv a⟩
  have hm : ∀ k, has C a k = has C b k := fun k => by rw [has, has, h k]
  -- both are the set hash of the classes xor the value hashes read off the keys, a class function of the key
  rw [dynHash_eq C hv ha, dynHash_eq C hv hb, sHash_congr C ha hb hm, funext h]
  exact congrArg _ (congrArg _ (xorSum_perm (keys_perm C ha hb hm _ fun u v huv => by rw [look_congr C b huv])))

/-- `map_values(m, f)` for a total `f`: same key classes, every value mapped, `len` unchanged, invariant kept -/
theorem map_values_spec {W : Type} (C : Consistent hash eq) (f : V → Res W) (g : V → W) (hf : ∀ v, f v = .ok (g v))
    {t : Table K V} (hI : Inv C t) :
    ∃ t', mapValues hash eq f t = .ok t' ∧ Inv C t' ∧ t'.len = t.len ∧ ∀ k, look C t' k = (look C t k).map g := by
  have h := mapValues_fold C f hI
  rw [foldF_fresh C _ _ g _ (toList_pairwise C hI)
    (fun kv hkv => by rw [mvEmpty_stored C f hI hkv, hf]) _ (fun _ _ => rfl)] at h
  obtain ⟨t', h1, h2, h3⟩ := h
  have hlook : ∀ k, look C t' k = (look C t k).map g := fun k => by
    rw [h3]
    show (findE C.e k _).or none = _
    rw [findE_map_values, Option.or_none]; rfl
  exact ⟨t', h1, h2, len_eq_of_has_eq C h2 hI fun k => by rw [has, has, hlook, Option.isSome_map], hlook⟩

/-! ### the hash-keyed consumer `with_count` (and `distinct`, which filters its output) -/

/-- the reference `put` hands back (read by `with_count` only) is the slot of the key's class: the value returned
is the value now stored for `k`'s class in the new table, namely `on_found(previous)` / `on_empty()` — for a found
key that is NOT the last entry of its bucket too -/
theorem put_returns_slot (C : Consistent hash eq) {t : Table K V} (hI : Inv C t) (k : K) (onEmpty : Unit → V)
    (onFound : V → V) :
    ∃ t', putRet hash eq t k onEmpty onFound = .ok (t', pureNew onEmpty onFound (look C t k)) ∧
      put hash eq t k onEmpty onFound = .ok t' ∧ Inv C t' ∧
      look C t' k = some (pureNew onEmpty onFound (look C t k)) := by
  obtain ⟨t', h1, h2, _, h4⟩ := put_spec C hI k onEmpty onFound
  exact ⟨t', by rw [putRet_eq C hI, h1], h1, h2, by rw [h4, C.refl]; rfl⟩

/-- `with_count(h, e)` over a stream yields every element with the running count of its equivalence class
(`wcSpec`), whatever collisions the hash produces and in whatever order colliding elements recur -/
theorem with_count_spec (C : Consistent hash eq) (ks : List K) :
    withCount hash eq empty (ks.map .ok) = (wcSpec C (fun _ => 0) ks).map .ok :=
  withCount_spec C (⟨trivial, rfl⟩ : Inv C (empty : Table K Nat)) ks

/-! ### `keys`, `values` and `update(m, Mapping)` -/

/-- `keys(m)` and `values(m)` enumerate the stored entries in one common order: as many as `len(m)`, the keys
pairwise inequivalent (one per class), position `i` of `values` is the value bound to position `i` of `keys`,
and a key is present exactly when an equivalent key is listed — under any consistent hash -/
theorem keys_values_spec (C : Consistent hash eq) {t : Table K V} (hI : Inv C t) :
    (keys t).length = t.len ∧ (values t).length = t.len ∧
    (keys t).Pairwise (fun x y => C.e x y = false) ∧
    (∀ kv ∈ (keys t).zip (values t), look C t kv.1 = some kv.2) ∧
    (∀ k, has C t k = true ↔ ∃ x ∈ keys t, C.e k x = true) := by
  have hz : (keys t).zip (values t) = toList t := by
    rw [keys, values, List.zip_map']
    exact List.map_id _
  refine ⟨keys_length C hI, by rw [values, List.length_map, ← keys_length C hI, keys, List.length_map],
    keys_pairwise C hI, fun kv hkv => look_of_stored C hI (hz ▸ hkv), has_iff_keys C t⟩

/-- `update(m, s)` for a mapping `s`: the result is well-formed and answers every key with `s`'s binding where `s`
has one and with `m`'s otherwise (right-biased union of the two finite maps), whatever the iteration order of `s` -/
theorem update_from_mapping_spec (C : Consistent hash eq) {t s : Table K V} (hI : Inv C t) (hS : Inv C s) :
    ∃ t', updateFromMapping hash eq t s = .ok t' ∧ Inv C t' ∧
      ∀ k, look C t' k = match look C s k with | some v => some v | none => look C t k := by
  obtain ⟨t', h1, h2, h3⟩ := bulk_update C hI (toList s)
  refine ⟨t', h1, h2, fun k => ?_⟩
  rw [h3 k, writeAll_pairwise C _ (toList_pairwise C hS)]
  rfl

/-- consequence: updating with an empty mapping, or with the mapping itself, changes no answer -/
theorem update_from_mapping_idem (C : Consistent hash eq) {t : Table K V} (hI : Inv C t) :
    ∃ t', updateFromMapping hash eq t t = .ok t' ∧ Inv C t' ∧ ∀ k, look C t' k = look C t k := by
  obtain ⟨t', h1, h2, h3⟩ := update_from_mapping_spec C hI hI
  refine ⟨t', h1, h2, fun k => ?_⟩
  rw [h3 k]; cases look C t k <;> rfl

/-- `map_values(m, f)` with an erroring `f`: the result is the error of the FIRST stored entry (in the iteration order
`keys`/`values` expose) on whose value `f` errs — the entries before it are mapped, none after it is evaluated into the
result, and no table is produced -/
theorem map_values_first_error {W : Type} (C : Consistent hash eq) (f : V → Res W) {t : Table K V} (hI : Inv C t)
    (pre post : List (K × V)) (k : K) (v : V) (er : Err) (hsplit : toList t = pre ++ (k, v) :: post)
    (hpre : ∀ kv ∈ pre, ∃ w, f kv.2 = .ok w) (hv : f v = .error er) :
    mapValues hash eq f t = .error er := by
  have h := mapValues_fold C f hI
  have hst : ∀ kv ∈ pre ++ [(k, v)], mvEmpty C f t kv.1 = f kv.2 := fun kv hkv =>
    mvEmpty_stored C f hI (by rw [hsplit, List.append_cons]; exact List.mem_append_left _ hkv)
  have hpw := toList_pairwise C hI
  rw [hsplit, List.append_cons] at hpw
  rw [hsplit, List.map_append, List.map_cons,
    foldF_fresh_err C _ _ pre k v _ er (List.pairwise_append.1 hpw).1
      (fun kv hkv => by rw [hst kv (List.mem_append_left _ hkv)]; exact hpre kv hkv)
      (by rw [hst (k, v) (List.mem_append_right _ List.mem_cons_self)]; exact hv) _ (fun _ _ => rfl)] at h
  exact h

end XrayModel.C17
