/-
C20 — Documented conversions are mutually inverse and canonical.
Property theorems only; helper lemmas live in XrayProofs/Conv*.lean.

`date`, `julian_day`, `weekday`, `fraction`, … are the definitions in Generated/StdInt.lean, which the translator
/verif/translate/std_int.py regenerates from /repo/src/builtin/include.rs on every run: the statements below are
about what the library source says now.  `DateValid` / `DateNext` are the proleptic Gregorian calendar written
down independently in XrayModel/Conv.lean (leap rule, month lengths, successor).
-/
import XrayProofs.ConvDate
import XrayProofs.ConvFrac
import XrayProofs.ConvTime
import XrayProofs.ConvStr
import XrayProofs.ConvJson
import XrayProofs.ConvDigits
namespace XrayModel.C20
open XrayGen XrayModel.Conv

/-! ### calendar date ↔ Julian day (all integers, not only the ±3 000 000 that the tie runs through) -/

/-- every Julian day converts to a date and back without change -/
theorem jd_date_roundtrip (jd : Int) : julian_day (date jd) = jd := (date_good jd).1

/-- every date of the (proleptic) Gregorian calendar converts to a Julian day and back without change -/
theorem date_jd_roundtrip (d : Date) (h : DateValid d) : date (julian_day d) = d :=
  jd_inj _ _ (date_good _).2 h (date_good _).1

example : DateValid ⟨2024, 2, 29⟩ ∧ DateValid ⟨-4713, 11, 24⟩ ∧ ¬ DateValid ⟨1900, 2, 29⟩ := by decide

/-- `date` only produces dates that exist in the Gregorian calendar (canonical form) -/
theorem date_valid (jd : Int) : DateValid (date jd) := (date_good jd).2

/-- consecutive Julian days are consecutive calendar days: with `date_epoch` this pins `date` to *the*
Gregorian calendar -/
theorem date_succ (jd : Int) : date (jd + 1) = DateNext (date jd) :=
  jd_inj _ _ (date_valid _) (next_valid _ (date_valid jd))
    (by rw [jd_date_roundtrip, jd_next _ (date_valid jd), jd_date_roundtrip])

/-- anchor: Julian day 2440588 is 1970-01-01 (the Unix epoch used by `datetime`/`unix`) -/
theorem date_epoch : date 2440588 = ⟨1970, 1, 1⟩ ∧ julian_day std_unix_epoch = 2440588 := by decide +kernel

/-- the weekday of a Julian day is the day number modulo 7 (Monday = 0) -/
theorem weekday_date (jd : Int) : weekday (date jd) = jd % 7 := by
  unfold weekday
  rw [jd_date_roundtrip, Int.fmod_eq_emod_of_nonneg _ (by decide)]

/-- weekdays advance by one (mod 7) from each day to the next, for every Julian day -/
theorem weekday_step (jd : Int) : weekday (date (jd + 1)) = (weekday (date jd) + 1) % 7 := by
  rw [weekday_date, weekday_date]; omega

/-- weekdays are canonical: always in 0 … 6, also for days before the epoch of the Julian day count -/
theorem weekday_range (jd : Int) : 0 ≤ weekday (date jd) ∧ weekday (date jd) < 7 := by
  rw [weekday_date]; omega

/-- 1970-01-01 was a Thursday (Monday = 0) -/
theorem weekday_epoch : weekday std_unix_epoch = 3 := by decide +kernel


/-! ### datetime ↔ Unix seconds
Floats are abstract: the statements hold for every carrier `F` and operations `O` that satisfy the stated law of
exact arithmetic (`DivModLaw`: 60·⌊t/60⌋ + (t − 60·⌊t/60⌋) = t; `AddLaw`: adding whole minutes to seconds in [0,60) and
splitting again returns the parts).  The laws are satisfiable: exact binary fixed point satisfies both (examples).
IEEE doubles satisfy them for the times the tie samples (multiples of 2^-10 s in ±10^11 s); for other doubles they
can fail by rounding (design/C20.md). -/

/-- Unix seconds → `Datetime` → Unix seconds is the identity (negative and fractional times included) -/
theorem unix_datetime_roundtrip {F : Type} (O : FloatOps F) (law : DivModLaw O) (t : F) :
    unix O (datetime O t) = t := by
  unfold unix datetime add_int_float
  simp only []
  rw [jd_date_roundtrip, Int.add_sub_cancel, minutes_split, Int.mul_comm 60]
  exact law t

example : DivModLaw (fixOps 1048576) := fix_divmod

/-- a canonical `Datetime` (valid date, 0 ≤ hours < 24, 0 ≤ minutes < 60, seconds in [0, 60)) → Unix seconds →
`Datetime` is the identity -/
theorem datetime_unix_roundtrip {F : Type} (O : FloatOps F) (law : AddLaw O) (dt : Datetime F)
    (hv : DateValid dt.date) (hh : 0 ≤ dt.hours ∧ dt.hours < 24) (hm : 0 ≤ dt.minutes ∧ dt.minutes < 60)
    (hs : SecondsInRange O dt.seconds) : datetime O (unix O dt) = dt := by
  obtain ⟨d, h, m, s⟩ := dt
  simp only at hv hh hm hs
  unfold unix datetime add_int_float
  simp only []
  have e : ((julian_day d - julian_day std_unix_epoch) * 86400 + h * 60 * 60 + m * 60) =
      ((julian_day d - julian_day std_unix_epoch) * 1440 + h * 60 + m) * 60 := by omega
  rw [e]
  obtain ⟨l1, l2⟩ := law ((julian_day d - julian_day std_unix_epoch) * 1440 + h * 60 + m) s hs
  rw [l1, l2]
  have a1 : Int.fmod ((julian_day d - julian_day std_unix_epoch) * 1440 + h * 60 + m) 60 = m := by
    rw [Int.fmod_eq_emod_of_nonneg _ (by decide)]; omega
  have a2 : Int.fdiv ((julian_day d - julian_day std_unix_epoch) * 1440 + h * 60 + m) 60 =
      (julian_day d - julian_day std_unix_epoch) * 24 + h := by
    rw [Int.fdiv_eq_ediv_of_nonneg _ (by decide)]; omega
  rw [a1, a2]
  have a3 : Int.fmod ((julian_day d - julian_day std_unix_epoch) * 24 + h) 24 = h := by
    rw [Int.fmod_eq_emod_of_nonneg _ (by decide)]; omega
  have a4 : Int.fdiv ((julian_day d - julian_day std_unix_epoch) * 24 + h) 24 + julian_day std_unix_epoch = julian_day d := by
    rw [Int.fdiv_eq_ediv_of_nonneg _ (by decide)]; omega
  rw [a3, a4]
  rw [date_jd_roundtrip d hv]

example : AddLaw (fixOps 1048576) := fix_add

/-- `datetime` always yields canonical integer fields (also for negative times: floored, not truncated) -/
theorem datetime_canonical {F : Type} (O : FloatOps F) (t : F) :
    DateValid (datetime O t).date ∧ 0 ≤ (datetime O t).hours ∧ (datetime O t).hours < 24 ∧
      0 ≤ (datetime O t).minutes ∧ (datetime O t).minutes < 60 := by
  unfold datetime
  simp only []
  simp (disch := decide) only [Int.fmod_eq_emod_of_nonneg]
  exact ⟨date_valid _, by omega, by omega, by omega, by omega⟩

/-- `datetime` has no error path except a zero divisor literal (i.e. none) -/
theorem datetime_total (t : Int) : datetime_dom (fixOps 1048576) t = true := by
  unfold datetime_dom; simp only []; rw [fix_lit]; decide

/-! ### fractions -/

/-- the library's Euclid loop terminates within its fuel for all operands and computes the gcd -/
theorem gcd_correct (a b : Int) : gcd_dom a b = true ∧ XrayGen.gcd a b = (Int.gcd a b : Int) :=
  ⟨gcd_total a b, gcd_spec a b⟩

/-- `fraction n d` (d ≠ 0) is defined, has a positive denominator, is in lowest terms and denotes n/d —
for operands of every magnitude (the division is exact integer division) -/
theorem fraction_lowest_terms (n d : Int) (hd : d ≠ 0) :
    fraction_dom n d = true ∧ 0 < (fraction n d).d ∧ Int.gcd (fraction n d).n (fraction n d).d = 1 ∧
      (fraction n d).n * d = n * (fraction n d).d := by
  obtain ⟨h1, ⟨h2, h3⟩, h4⟩ := fraction_spec n d hd
  exact ⟨h1, h2, h3, h4⟩

example : fraction (2 ^ 70 + 1) 3 = ⟨1180591620717411303425, 3⟩ ∧ fraction (3 * 2 ^ 70) (-6) = ⟨-590295810358705651712, 1⟩ ∧
    fraction 6 (-4) = ⟨-3, 2⟩ := by decide +kernel

/-- a zero denominator is an error value, not a fraction -/
theorem fraction_zero_denominator (n : Int) : fraction_dom n 0 = false := fraction_zero_den n

/-- canonical: two fractions in canonical form that denote the same rational are the same structure, so the
field-wise `eq` of the library decides equality of rationals -/
theorem fraction_canonical_unique (a b : Fraction) (ha : Canonical a) (hb : Canonical b) :
    fr_eq a b = true ↔ a.n * b.d = b.n * a.d := by
  constructor
  · intro h
    simp only [fr_eq, Bool.and_eq_true, decide_eq_true_eq] at h
    rw [h.1, h.2]
  · intro h
    have := canonical_unique a b ha hb h
    subst this
    simp [fr_eq]

/-- normalising a canonical fraction again changes nothing -/
theorem fraction_idempotent (f : Fraction) (hf : Canonical f) : fraction f.n f.d = f := by
  obtain ⟨_, hc, he⟩ := fraction_spec f.n f.d (by have := hf.1; omega)
  exact canonical_unique _ _ hc hf he

/-- addition is exact (stated by cross-multiplication) and returns a canonical fraction -/
theorem fr_add_exact (a b : Fraction) (ha : a.d ≠ 0) (hb : b.d ≠ 0) :
    fr_add_dom a b = true ∧ Canonical (fr_add a b) ∧
      (fr_add a b).n * (a.d * b.d) = (a.n * b.d + b.n * a.d) * (fr_add a b).d :=
  fraction_spec _ _ (Int.mul_ne_zero ha hb)

theorem fr_sub_exact (a b : Fraction) (ha : a.d ≠ 0) (hb : b.d ≠ 0) :
    fr_sub_dom a b = true ∧ Canonical (fr_sub a b) ∧
      (fr_sub a b).n * (a.d * b.d) = (a.n * b.d - b.n * a.d) * (fr_sub a b).d :=
  fraction_spec _ _ (Int.mul_ne_zero ha hb)

theorem fr_mul_exact (a b : Fraction) (ha : a.d ≠ 0) (hb : b.d ≠ 0) :
    fr_mul_dom a b = true ∧ Canonical (fr_mul a b) ∧
      (fr_mul a b).n * (a.d * b.d) = (a.n * b.n) * (fr_mul a b).d :=
  fraction_spec _ _ (Int.mul_ne_zero ha hb)

/-- division by a non-zero fraction is exact; the sign moves to the numerator -/
theorem fr_div_exact (a b : Fraction) (ha : a.d ≠ 0) (hb : b.n ≠ 0) :
    fr_div_dom a b = true ∧ Canonical (fr_div a b) ∧
      (fr_div a b).n * (a.d * b.n) = (a.n * b.d) * (fr_div a b).d :=
  fraction_spec _ _ (Int.mul_ne_zero ha hb)

/-- division by zero is an error value -/
theorem fr_div_zero (a b : Fraction) (hb : b.n = 0) : fr_div_dom a b = false := by
  unfold fr_div_dom; rw [hb, Int.mul_zero]; exact fraction_zero_den _

/-- negation and absolute value keep the canonical form -/
theorem fr_neg_abs_canonical (a : Fraction) (ha : Canonical a) : Canonical (fr_neg a) ∧ Canonical (fr_abs a) := by
  unfold Canonical fr_neg fr_abs at *
  simp only [abs_eq]
  refine ⟨⟨ha.1, by rw [Int.neg_gcd]; exact ha.2⟩, ha.1, ?_⟩
  have : Int.gcd (a.n.natAbs : Int) a.d = Int.gcd a.n a.d := by unfold Int.gcd; rw [Int.natAbs_natCast]
  rw [this]; exact ha.2

/-- `floor` and `ceil` of a fraction with positive denominator are the integer bounds of n/d -/
theorem fr_floor_ceil_spec (a : Fraction) (h : 0 < a.d) :
    (fr_floor a * a.d ≤ a.n ∧ a.n < (fr_floor a + 1) * a.d) ∧
      ((fr_ceil a - 1) * a.d < a.n ∧ a.n ≤ fr_ceil a * a.d) := by
  constructor
  · unfold fr_floor
    rw [Int.fdiv_eq_ediv_of_nonneg _ (by omega)]
    exact ⟨Int.ediv_mul_le _ (by omega), Int.lt_ediv_add_one_mul_self _ h⟩
  · unfold fr_ceil
    rw [Int.fdiv_eq_ediv_of_nonneg _ (by omega)]
    have h1 := Int.ediv_mul_le (-a.n) (show a.d ≠ 0 by omega)
    have h2 := Int.lt_ediv_add_one_mul_self (-a.n) h
    generalize (-a.n) / a.d = q at *
    constructor
    · have : (-q - 1) * a.d = -((q + 1) * a.d) := by
        rw [Int.add_mul, Int.sub_mul, Int.neg_mul]; omega
      omega
    · have : -q * a.d = -(q * a.d) := Int.neg_mul _ _
      omega

/-- `trunc` of a fraction with positive denominator is the quotient rounded toward zero -/
theorem fr_trunc_spec (a : Fraction) (h : 0 < a.d) : fr_trunc a = Int.tdiv a.n a.d := by
  unfold fr_trunc fr_floor fr_ceil
  by_cases hn : 0 ≤ a.n
  · simp only [ge_iff_le, hn, decide_true, if_true]
    rw [Int.fdiv_eq_ediv_of_nonneg _ (by omega), Int.tdiv_eq_ediv_of_nonneg hn]
  · simp only [ge_iff_le, hn, decide_false, Bool.false_eq_true, if_false]
    rw [Int.fdiv_eq_ediv_of_nonneg _ (by omega), ← Int.tdiv_eq_ediv_of_nonneg (by omega), Int.neg_tdiv, Int.neg_neg]

/-- positive integer powers are exact and canonical -/
theorem fr_pow_exact (a : Fraction) (b : Int) (ha : a.d ≠ 0) (hb : 0 < b) :
    fr_pow_dom a b = true ∧ Canonical (fr_pow a b) ∧
      (fr_pow a b).n * a.d ^ b.toNat = a.n ^ b.toNat * (fr_pow a b).d := by
  have hd : a.d ^ b.toNat ≠ 0 := Int.pow_ne_zero ha
  obtain ⟨h1, h2, h3⟩ := fraction_spec (a.n ^ b.toNat) (a.d ^ b.toNat) hd
  unfold fr_pow_dom fr_pow
  have hb' : (decide (b ≥ 0)) = true := by simp; omega
  have hb0 : ¬ b = 0 := by omega
  simp only [hb', if_true, h1, hb0, decide_false, Bool.and_false, Bool.not_false, Bool.and_true]
  exact ⟨by trivial, h2, h3⟩

/-- the remainder of fractions is the floored remainder of the cross products over the common denominator -/
theorem fr_mod_exact (a b : Fraction) (ha : a.d ≠ 0) (hb : b.d ≠ 0) (hn : b.n ≠ 0) :
    fr_mod_dom a b = true ∧ Canonical (fr_mod a b) ∧
      (fr_mod a b).n * (a.d * b.d) = Int.fmod (a.n * b.d) (b.n * a.d) * (fr_mod a b).d := by
  obtain ⟨h1, h2, h3⟩ := fraction_spec (Int.fmod (a.n * b.d) (b.n * a.d)) (a.d * b.d) (Int.mul_ne_zero ha hb)
  unfold fr_mod_dom fr_mod
  have : b.n * a.d ≠ 0 := Int.mul_ne_zero hn ha
  simp only [h1, Bool.and_true, decide_eq_true_eq, ne_eq]
  exact ⟨this, h2, h3⟩

/-! ### code point ↔ character -/

/-- `chr` succeeds exactly on Unicode scalar values (surrogates and values above 0x10FFFF are error values) and
`code_point` returns the number it was given -/
theorem chr_code_point (i : Int) (h0 : 0 ≤ i) (hs : isScalar i.toNat = true) :
    ∃ s, chr i = .ok s ∧ codePoint s = .ok i := by
  have hlt : i < 4294967296 := by
    simp only [isScalar, Bool.or_eq_true, Bool.and_eq_true, decide_eq_true_eq] at hs; omega
  refine ⟨[i.toNat], ?_, ?_⟩
  · unfold chr; rw [if_neg (by omega), if_pos hs]
  · unfold codePoint; simp only; congr 1; omega

/-- conversely: the one-character string of a scalar value goes to its code point and back to the same string -/
theorem code_point_chr (c : Nat) (hs : isScalar c = true) :
    codePoint [c] = .ok (c : Int) ∧ chr (c : Int) = .ok [c] := by
  have hlt : c < 4294967296 := by
    simp only [isScalar, Bool.or_eq_true, Bool.and_eq_true, decide_eq_true_eq] at hs; omega
  refine ⟨rfl, ?_⟩
  unfold chr; rw [if_neg (by omega), Int.toNat_natCast, if_pos hs]

/-- `chr` never fabricates a character: outside the scalar values it is an error value -/
theorem chr_rejects (i : Int) (h : i < 0 ∨ isScalar i.toNat = false) : ∃ e, chr i = .error e := by
  unfold chr
  by_cases h1 : i < 0 ∨ 4294967296 ≤ i
  · exact ⟨_, if_pos h1⟩
  · rw [if_neg h1]
    rcases h with h | h
    · omega
    · rw [h]; exact ⟨_, rfl⟩

example : isScalar 0xD7FF = true ∧ isScalar 0xD800 = false ∧ isScalar 0xDFFF = false ∧ isScalar 0xE000 = true ∧
    isScalar 0x10FFFF = true ∧ isScalar 0x110000 = false := by decide

/-! ### integer → digits in any base ≥ 2 (the route to text in an arbitrary base; `to_int(text, b)` is C14's `toStr_ofStr`)
`IntB.digits` is C14's arm-for-arm mirror of the loop of `digits` in int.rs. -/

/-- `digits(n, b)` succeeds for every `n` and every base `b ≥ 2`; the positional value of the digit list
(`from_digits`, Horner) is `n` again; and the list is canonical: empty for 0, otherwise no leading zero (the most
significant digit is non-zero) and its length `L` satisfies `b^(L-1) ≤ |n| < b^L`, i.e. `L = ⌊log_b |n|⌋ + 1` -/
theorem digits_roundtrip_canonical (n b : LB) (hn : n.wf) (hb : b.wf) (hb2 : 2 ≤ b.den) :
    ∃ ds, IntB.digits n b = .ints ds ∧ Digits.horner b.den (ds.map LB.den) = n.den ∧
      (n.den = 0 → ds = []) ∧
      (n.den ≠ 0 → (∃ d, ds.getLast? = some d ∧ d.den ≠ 0) ∧
        b.den.natAbs ^ (ds.length - 1) ≤ n.den.natAbs ∧ n.den.natAbs < b.den.natAbs ^ ds.length) := by
  obtain ⟨ds, h1, h2, h3, h4⟩ := Digits.digits_ind n b hn hb hb2
    (fun n ds => Digits.horner b.den (ds.map LB.den) = n ∧ CanonLen b.den.natAbs n.natAbs ds)
    ⟨rfl, fun _ => rfl, fun h => absurd rfl h⟩
    fun n ds hn0 ⟨hh, hc⟩ => ⟨Digits.horner_step b.den n ds hh, canonLen_step b.den n hb2 ds hn0 hc⟩
  exact ⟨ds, h1, h2, fun h => h3 (by omega), fun h => h4 (by omega)⟩

example : IntB.digits (LB.ofInt 7000000000000000005) (LB.ofInt 10) =
    .ints ([LB.short 5] ++ List.replicate 17 (LB.short 0) ++ [LB.short 7]) := by decide +kernel

/-! ### JSON strings -/

/-- the text `serialize` writes for a string reads back as the same string, for every string (quotes,
backslashes, control characters, non-BMP characters) -/
theorem unescape_escape (s : List Nat) : unescapeStr (escapeStr s) = some s := by
  unfold unescapeStr
  rw [← List.append_nil (escapeStr s), escapeStr_append]
  simp only [read_body, List.reverse_nil, List.nil_append]

/-- a whole document: the text the serialiser of include.rs (`serialize`) writes for a JSON value reads back, with the
recursive-descent reader, as the same value — any nesting, any strings, empty arrays/objects, number tokens kept
verbatim (`WF`: a number token is a non-empty run of `0-9 + - . e E`, which is what float `to_str` writes) -/
theorem parse_ser (j : J) (h : WF j) : parseJson (ser j) = some j := by
  have hv := (all_ok ((ser j).length + 1)).1 j [] (by have := size_le j h; omega) h (by intro c t e; cases e)
  unfold parseJson
  rw [List.append_nil] at hv
  rw [hv]

example : WF (.arr [.num [49, 46, 53], .obj [([107], .str [34, 10]), ([], .arr [])], .null, .bool true]) := by
  simp [WF, WFL, WFF, isNumChar]

/-- escaped text contains no raw control character -/
theorem escape_no_controls (c : Nat) : ∀ x ∈ escapeChar c, 32 ≤ x := by
  unfold escapeChar
  -- the seven two-character escapes are literal lists
  iterate 7 refine forall_mem_ite (by decide) fun _ => ?_
  refine forall_mem_ite ?_ fun h => ?_
  · have h1 := hexDigit_ge (c / 16)
    have h2 := hexDigit_ge (c % 16)
    intro x hx
    simp only [List.mem_cons, List.mem_nil_iff, or_false] at hx
    omega
  · intro x hx
    rw [List.mem_singleton] at hx
    omega

end XrayModel.C20
