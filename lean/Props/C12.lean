/-
C12 — Compilation is total, effect-free and deterministic.
Property theorems over the hand-written lexical handlers (XrayModel/Lex.lean) and over the table of grammar
rules vs. `match` arms generated from src/xray.pest and src/parser.rs (Generated/Rules.lean, rewritten on
every run).  Helper lemmas: XrayProofs/Lex.lean.  The pest engine itself is not modelled; what is proved here is
that the places where the compiler can panic by construction (`unreachable!`, `panic!`, `unwrap` in the
handlers) are not reachable, the rest of the statement is carried by the tie (checklib/c12.py).
-/
import XrayProofs.Lex
import Generated.Rules
import Generated.HashIter
namespace XrayModel.C12
open XrayModel.Lex XrayModel.Generated.Rules

/-- every grammar rule that can arrive at a `match ….as_rule()` of the parser is named by one of its arms, or
the match has a wildcard arm that handles it (not `unreachable!`/`panic!`) -/
theorem arms_cover :
    ∀ s ∈ sites, s.wildcardHandles = true ∨ ∀ r ∈ s.required, r ∈ s.arms := by decide +kernel

/-- the table is not empty: the eight match sites of parser.rs over the grammar's rules -/
theorem arms_table_nonempty : sites.length = 8 ∧ 80 ≤ ruleCount := by decide +kernel

/-- determinism hazard table: std's HashMap/HashSet iterate in a per-instance random order, so every iteration over
one in the compile path (parser, compilation_scope, xtype, compile_err, root_compilation_scope; found by
translate/hashiter.py on every run) must be a reviewed one, whose result does not depend on the order (each entry of
`reviewed` says why); a new iteration site, or a reviewed one that vanished, breaks this theorem -/
theorem hash_iteration_sites_reviewed :
    (∀ s ∈ Generated.HashIter.found, s ∈ Generated.HashIter.reviewed.map Prod.fst) ∧
    (∀ r ∈ Generated.HashIter.reviewed.map Prod.fst, r ∈ Generated.HashIter.found) := by decide +kernel

/-- `apply_escapes` never panics, whatever the text between the quotes -/
theorem escapes_total (cs : List Char) : ¬ (applyEscapes cs).isPanic :=
  applyEscapesAux_no_panic _ cs

/-- a text without backslashes denotes itself -/
theorem escapes_plain (cs : List Char) (h : ∀ c ∈ cs, c ≠ '\\') : applyEscapes cs = .ok cs :=
  applyEscapes_plain cs h

/-- every token text the grammar rule `NUMBER_ANY` can produce (hex, binary, decimal with fraction and
exponent, `_` separators anywhere the grammar allows them) is handled by the number-literal handler without
reaching its `panic!("… is not a number")` -/
theorem number_total (s : List Char) (h : isNumberAny s = true) : ¬ (numberLiteral s).isPanic :=
  numberLiteral_total s h

example : isNumberAny "0x_1F".toList = true ∧ isNumberAny "1_0._5e-0_3".toList = true := by decide +kernel

/-- an integer-shaped literal (digits with `_` separators) is an int — never a float, never a panic —
whose value is that of its digits, whatever its magnitude -/
theorem number_int_stays_int (d : Char) (rest : List Char) (hd : isDigit d = true)
    (hr : rest.all isNumDigit = true) :
    numberLiteral (d :: rest) = .ok (.int (radixVal 10 (stripUs (d :: rest)))) :=
  number_int d rest hd hr

/-- … where the value is positional: appending a digit multiplies by the radix and adds the digit -/
theorem number_value (radix : Nat) (ds : List Char) (c : Char) :
    radixVal radix (ds ++ [c]) = radixVal radix ds * radix + hexVal c := radixVal_snoc radix ds c

/-- distinct spellings never share a symbol (`item1a`, `item01`, `item1` are three identifiers) -/
theorem intern_injective (s1 s2 : List Char) (h : s1 ≠ s2) : intern s1 ≠ intern s2 :=
  fun e => h (intern_inj s1 s2 e)

/-- only the canonical spellings `item<n>`, `n ≤ 65536`, are tuple-item symbols; the index never exceeds the
bound (no parse overflow, no unbounded table growth) -/
theorem intern_total (s : List Char) (i : Nat) (h : intern s = .item i) : i ≤ maxItemIndex :=
  have ⟨_, _, _, _, hi⟩ := itemIndex_some (intern_item h)
  hi

example : intern "item1a".toList ≠ intern "item1b".toList := by decide +kernel
example : intern "item01".toList ≠ intern "item1".toList := by decide +kernel
example : intern "item99999999999999999999999".toList = .regular "item99999999999999999999999".toList := by decide +kernel
example : numberLiteral "340282366920938463463374607431768211456".toList
    = .ok (.int 340282366920938463463374607431768211456) := by decide +kernel
example : applyEscapes "a\\u{1F600}\\n".toList = .ok ['a', '😀', '\n'] := by decide +kernel

end XrayModel.C12
