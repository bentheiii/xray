/-
C08 — Depth, recursion and call limits are exact and transparent (core evaluator,
XrayModel/Core.lean; the search limit lives in the sequence engines).
-/
import XrayProofs.CoreTco
import XrayProofs.CoreLimitsConv
namespace XrayModel.C08
open XrayModel.Core XrayModel.CoreLimits XrayModel.CoreLimitsSim

/-! ### no limits: no violation, no counting -/

/-- With no depth, call or recursion limit configured, no function of the evaluator ever ends in a
violation — whatever the fuel, the frame, the state — and the call counter does not move (it only
runs when a call limit is configured, `increment_call_limit`). -/
theorem no_limit_no_violation (cfg : Cfg)
    (hc : cfg.depthLimit = none ∧ cfg.callLimit = none ∧ cfg.recLimit = none) (fuel : Nat) :
    (∀ fr e tail st, (∀ k, (eval fuel cfg fr e tail st).1 ≠ .viol k) ∧ (eval fuel cfg fr e tail st).2.calls = st.calls) ∧
    (∀ fr f args tail st, (∀ k, (callNamed fuel cfg fr f args tail st).1 ≠ .viol k) ∧ (callNamed fuel cfg fr f args tail st).2.calls = st.calls) ∧
    (∀ fr c args tail st, (∀ k, (callVal fuel cfg fr c args tail st).1 ≠ .viol k) ∧ (callVal fuel cfg fr c args tail st).2.calls = st.calls) ∧
    (∀ fr es st, (∀ k, (evalList fuel cfg fr es st).1 ≠ .error (.viol k)) ∧ (evalList fuel cfg fr es st).2.calls = st.calls) ∧
    (∀ fr f st, (∀ k, (mkClos fuel cfg fr f st).1 ≠ .viol k) ∧ (mkClos fuel cfg fr f st).2.calls = st.calls) ∧
    (∀ fr ps st, (∀ k, (evalDflts fuel cfg fr ps st).1 ≠ .error (.viol k)) ∧ (evalDflts fuel cfg fr ps st).2.calls = st.calls) ∧
    (∀ h c args st, (∀ k, (callUser fuel cfg h c args st).1 ≠ .viol k) ∧ (callUser fuel cfg h c args st).2.calls = st.calls) ∧
    (∀ h c args rec st, (∀ k, (tramp fuel cfg h c args rec st).1 ≠ .viol k) ∧ (tramp fuel cfg h c args rec st).2.calls = st.calls) ∧
    (∀ fr ds st, (∀ k, (evalDecls fuel cfg fr ds st).1 ≠ .error (.viol k)) ∧ (evalDecls fuel cfg fr ds st).2.calls = st.calls) ∧
    (∀ fr f args tail st, (∀ k, (builtin fuel cfg fr f args tail st).1 ≠ .viol k) ∧ (builtin fuel cfg fr f args tail st).2.calls = st.calls) ∧
    (∀ ds, (∀ k, (runProgram fuel cfg ds).1 ≠ .error (.viol k)) ∧ (runProgram fuel cfg ds).2.calls = 0) := by
  have H := noViolAt cfg hc fuel
  have R {r : Res} {P : Prop} : Res.isViol r = false ∧ P → (∀ k, r ≠ .viol k) ∧ P := And.imp_left (not_viol_iff r).mp
  have X {α} {x : Except Res α} {P : Prop} : exViol x = false ∧ P → (∀ k, x ≠ .error (.viol k)) ∧ P :=
    And.imp_left (ex_not_viol_iff x).mp
  exact ⟨fun fr e tail st => R (H.eval fr e tail st), fun fr f args tail st => R (H.callNamed fr f args tail st),
    fun fr c args tail st => R (H.callVal fr c args tail st), fun fr es st => X (H.evalList fr es st),
    fun fr f st => R (H.mkClos fr f st), fun fr ps st => X (H.evalDflts fr ps st),
    fun h c args st => R (H.callUser h c args st), fun h c args rec st => R (H.tramp h c args rec st),
    fun fr ds st => X (H.evalDecls fr ds st), fun fr f args tail st => R (H.builtin fr f args tail st),
    fun ds => X (H.evalDecls _ ds _)⟩

/-! ### which violation: a violation of kind `k` needs limit `k` -/

/-- A depth / call / recursion violation can only come out of a run whose configuration has the
corresponding limit: each limit is the only source of its violation (so configuring one limit never
produces another kind of violation). -/
theorem violation_needs_its_limit (cfg : Cfg) (fuel : Nat) :
    (∀ fr e tail st,
      ((eval fuel cfg fr e tail st).1 = .viol .depth → cfg.depthLimit ≠ none) ∧
      ((eval fuel cfg fr e tail st).1 = .viol .calls → cfg.callLimit ≠ none) ∧
      ((eval fuel cfg fr e tail st).1 = .viol .recursion → cfg.recLimit ≠ none)) ∧
    (∀ h c args st,
      ((callUser fuel cfg h c args st).1 = .viol .depth → cfg.depthLimit ≠ none) ∧
      ((callUser fuel cfg h c args st).1 = .viol .calls → cfg.callLimit ≠ none) ∧
      ((callUser fuel cfg h c args st).1 = .viol .recursion → cfg.recLimit ≠ none)) ∧
    (∀ ds,
      ((runProgram fuel cfg ds).1 = .error (.viol .depth) → cfg.depthLimit ≠ none) ∧
      ((runProgram fuel cfg ds).1 = .error (.viol .calls) → cfg.callLimit ≠ none) ∧
      ((runProgram fuel cfg ds).1 = .error (.viol .recursion) → cfg.recLimit ≠ none)) := by
  have H := kindAt cfg fuel
  exact ⟨fun fr e tail st => H.eval fr e tail st, fun h c args st => H.callUser h c args st,
    fun ds => H.evalDecls _ ds _⟩

/-! ### the call limit is exact for whole runs -/

/-- Under a call limit `l`, for every run (any expression, any user call, any fuel) started with
the counter below `l`: the counter never decreases; the run ends in the call violation exactly when
the counter reaches `l` (it is then exactly `l`: nothing is counted after the violation), and
otherwise the counter stays below `l`.  "The number of user calls since the last reset reaches L". -/
theorem call_limit_exact_run (cfg : Cfg) (l : Nat) (hl : cfg.callLimit = some l) (fuel : Nat) :
    (∀ fr e tail st, st.calls ≤ (eval fuel cfg fr e tail st).2.calls ∧
      (st.calls < l →
        ((eval fuel cfg fr e tail st).1 = .viol .calls ↔ (eval fuel cfg fr e tail st).2.calls = l) ∧
        ((eval fuel cfg fr e tail st).1 ≠ .viol .calls ↔ (eval fuel cfg fr e tail st).2.calls < l))) ∧
    (∀ h c args st, st.calls ≤ (callUser fuel cfg h c args st).2.calls ∧
      (st.calls < l →
        ((callUser fuel cfg h c args st).1 = .viol .calls ↔ (callUser fuel cfg h c args st).2.calls = l) ∧
        ((callUser fuel cfg h c args st).1 ≠ .viol .calls ↔ (callUser fuel cfg h c args st).2.calls < l))) ∧
    (∀ ds, 0 < l →
        ((runProgram fuel cfg ds).1 = .error (.viol .calls) ↔ (runProgram fuel cfg ds).2.calls = l) ∧
        ((runProgram fuel cfg ds).1 ≠ .error (.viol .calls) ↔ (runProgram fuel cfg ds).2.calls < l)) := by
  have H := callsAt cfg l hl fuel
  exact ⟨fun fr e tail st => (H.eval fr e tail st).imp_right fun h lt => iff_eq_iff_lt (h lt),
    fun h c args st => (H.callUser h c args st).imp_right fun h lt => iff_eq_iff_lt (h lt),
    fun ds hpos => iff_eq_iff_lt ((H.evalDecls _ ds {}).2 hpos)⟩

/-- Without a call limit the counter is never touched, whatever the other limits. -/
theorem calls_not_counted_without_limit (cfg : Cfg) (hl : cfg.callLimit = none) (fuel : Nat) :
    (∀ fr e tail st, (eval fuel cfg fr e tail st).2.calls = st.calls) ∧
    (∀ h c args st, (callUser fuel cfg h c args st).2.calls = st.calls) ∧
    (∀ ds, (runProgram fuel cfg ds).2.calls = 0) := by
  have H := noCountAt cfg hl fuel
  exact ⟨fun fr e tail st => H.eval fr e tail st, fun h c args st => H.callUser h c args st,
    fun ds => H.evalDecls _ ds _⟩

/-! ### the host's reset -/

/-- `Runtime::reset_ud_calls` / `reset_call_limit` (`runtime.rs:131-163`) -/
def reset (st : St) : St := { st with calls := 0 }

/-- Resetting the call counter restores the full budget: whatever the counter was before (even at or
beyond the limit), a run started from the reset state ends in the call violation exactly when it has
itself made `l` user calls, and it leaves the output untouched. -/
theorem reset_restores (cfg : Cfg) (l : Nat) (hl : cfg.callLimit = some l) (hpos : 0 < l) (fuel : Nat)
    (fr : Frame) (e : Core.Expr) (tail : Bool) (st : St) :
    (reset st).out = st.out ∧ (reset st).calls = 0 ∧
    ((eval fuel cfg fr e tail (reset st)).1 = .viol .calls ↔ (eval fuel cfg fr e tail (reset st)).2.calls = l) ∧
    ((eval fuel cfg fr e tail (reset st)).1 ≠ .viol .calls ↔ (eval fuel cfg fr e tail (reset st)).2.calls < l) :=
  ⟨rfl, rfl, iff_eq_iff_lt (((callsAt cfg l hl fuel).eval fr e tail (reset st)).2 hpos)⟩

/-! ### concrete runs: the bounds are attained -/

/-- `fn f(x) = x; let y = f(1);` -/
def progOneCall : List Decl :=
  [.fnD (.mk (some "f") [.mk "x" none] [] (.var "x")), .letD "y" (.call "f" [.int 1])]

example : (runProgram 10 { callLimit := some 1 } progOneCall).1 = .error (.viol .calls) := by rfl
example : (runProgram 10 { callLimit := some 1 } progOneCall).2.calls = 1 := by rfl
example : ∃ fr, (runProgram 10 { callLimit := some 2 } progOneCall).1 = .ok fr := ⟨_, rfl⟩
example : (runProgram 10 { depthLimit := some 1 } progOneCall).1 = .error (.viol .depth) := by rfl
example : ∃ fr, (runProgram 10 { depthLimit := some 2 } progOneCall).1 = .ok fr := ⟨_, rfl⟩

/-- `fn g(n) = if(eq(n, 0), 0, g(sub(n, 1))); let y = g(2);` — two tail iterations -/
def progLoop : List Decl :=
  [.fnD (.mk (some "g") [.mk "n" none] []
      (.call "if" [.call "eq" [.var "n", .int 0], .int 0, .call "g" [.call "sub" [.var "n", .int 1]]])),
   .letD "y" (.call "g" [.int 2])]

example : (runProgram 20 { recLimit := some 1 } progLoop).1 = .error (.viol .recursion) := by rfl
example : ∃ fr, (runProgram 20 { recLimit := some 2 } progLoop).1 = .ok fr := ⟨_, rfl⟩
-- the two tail iterations are not counted as calls: one user call in all
example : (runProgram 20 { callLimit := some 5 } progLoop).2.calls = 1 := by rfl
-- without tail calls the same program makes three user calls and nests three deep
example : (runProgram 40 { callLimit := some 5, tco := false } progLoop).2.calls = 3 := by rfl
example : (runProgram 40 { depthLimit := some 3, tco := false } progLoop).1 = .error (.viol .depth) := by rfl
example : ∃ fr, (runProgram 40 { depthLimit := some 4, tco := false } progLoop).1 = .ok fr := ⟨_, rfl⟩


/-! ### local exactness of the call and the depth check (one step of `callUser` / `tramp`) -/

/-- The call limit is exact: a user call (with error-free arguments) under call limit `l` ends in the
call violation exactly when the number of user calls, this one included, reaches `l`;
otherwise the call proceeds with the counter advanced by one. -/
theorem call_limit_exact (fuel : Nat) (cfg : Cfg) (h : Nat) (c : Val) (args : List Val) (st : St) (l : Nat)
    (hl : cfg.callLimit = some l) (he : firstErr args = none) :
    (st.calls + 1 ≥ l → callUser (fuel + 1) cfg h c args st = (.viol .calls, { st with calls := st.calls + 1 })) ∧
    (st.calls + 1 < l → callUser (fuel + 1) cfg h c args st = tramp fuel cfg h c args 0 { st with calls := st.calls + 1 }) := by
  constructor <;> intro hh <;> simp [callUser, he, hl] <;> omega

/-- Without a call limit the counter is not touched by a call. -/
theorem no_call_limit_no_count (fuel : Nat) (cfg : Cfg) (h : Nat) (c : Val) (args : List Val) (st : St)
    (hl : cfg.callLimit = none) (he : firstErr args = none) :
    callUser (fuel + 1) cfg h c args st = tramp fuel cfg h c args 0 st := by
  simp [callUser, he, hl]

/-- The depth limit is exact: creating the frame of a user function at nesting depth `height + 1`
ends in the depth violation exactly when that depth reaches the limit. -/
theorem depth_limit_exact (fuel : Nat) (cfg : Cfg) (height : Nat) (f : Func) (ds : List Val) (env : List (String × Val))
    (args : List Val) (rec : Nat) (st : St) (l : Nat) (hl : cfg.depthLimit = some l) (hh : height + 1 ≥ l) :
    tramp (fuel + 1) cfg height (.clos f ds env) args rec st = (.viol .depth, st) := by
  simp [tramp, hl, hh]

/-! ### transparency: limits never change a result, they only stop the run

Two runs with the same fuel are compared; `CfgLe cfg cfg'`: same `tco`, every limit of `cfg'` at least
as high as in `cfg` or removed (`optLe`, `none` = ∞); `noLimits cfg`: all three limits removed. -/

/-- **Raising or removing any limit never changes a non-violation result.** Let `cfg'` be weaker
than `cfg` (pointwise, `none` = ∞), and let the two runs start from states with the same output
(the counter of the second not behind the first, and its remaining call budget not smaller, when
both count: trivially so for equal states). If the run under `cfg` ends in anything but a violation
— value, error value, tail call, stuck, out of fuel — the run under `cfg'` with the same fuel ends
in the same result (results carry no counters: literally equal) and the same output; for
expressions, calls of function values, `eval_func_with_values`, the trampoline, declarations. -/
theorem limit_monotone (cfg cfg' : Cfg) (hle : CfgLe cfg cfg') (fuel : Nat) (st st' : St) (ho : st'.out = st.out)
    (hb : ∀ l l', cfg.callLimit = some l → cfg'.callLimit = some l' →
      st.calls ≤ st'.calls ∧ st'.calls + l ≤ st.calls + l') :
    (∀ fr e tail r s, eval fuel cfg fr e tail st = (r, s) → (∀ k, r ≠ .viol k) →
      ∃ s', eval fuel cfg' fr e tail st' = (r, s') ∧ s'.out = s.out) ∧
    (∀ fr c args tail r s, callVal fuel cfg fr c args tail st = (r, s) → (∀ k, r ≠ .viol k) →
      ∃ s', callVal fuel cfg' fr c args tail st' = (r, s') ∧ s'.out = s.out) ∧
    (∀ h c args r s, callUser fuel cfg h c args st = (r, s) → (∀ k, r ≠ .viol k) →
      ∃ s', callUser fuel cfg' h c args st' = (r, s') ∧ s'.out = s.out) ∧
    (∀ h c args rec r s, tramp fuel cfg h c args rec st = (r, s) → (∀ k, r ≠ .viol k) →
      ∃ s', tramp fuel cfg' h c args rec st' = (r, s') ∧ s'.out = s.out) ∧
    (∀ fr ds x s, evalDecls fuel cfg fr ds st = (x, s) → (∀ k, x ≠ .error (.viol k)) →
      ∃ s', evalDecls fuel cfg' fr ds st' = (x, s') ∧ s'.out = s.out) := by
  have L := lock cfg st.calls fuel
  have L' := lock cfg' st'.calls fuel
  have W {s} := Below.weaken hle (fun l l' h h' => (hb l l' h h').2) (s := s)
  exact ⟨fun fr e tail r s h hr => ⟨_, (L.eval fr e tail _).follow (hle.tco ▸ L'.eval fr e tail _) ho W h ((not_viol_iff r).mpr hr), rfl⟩,
    fun fr c args tail r s h hr => ⟨_, (L.callVal fr c args tail _).follow (hle.tco ▸ L'.callVal fr c args tail _) ho W h ((not_viol_iff r).mpr hr), rfl⟩,
    fun hh c args r s h hr => ⟨_, (L.callUser hh c args _).follow (hle.tco ▸ L'.callUser hh c args _) ho W h ((not_viol_iff r).mpr hr), rfl⟩,
    fun hh c args rec r s h hr => ⟨_, (L.tramp hh c args rec _).follow (hle.tco ▸ L'.tramp hh c args rec _) ho W h ((not_viol_iff r).mpr hr), rfl⟩,
    fun fr ds x s h hr => ⟨_, (L.evalDecls fr ds _).follow (hle.tco ▸ L'.evalDecls fr ds _) ho W h ((ex_not_viol_iff x).mpr hr), rfl⟩⟩

/-- The same from one and the same start state, and for whole programs: a program (an expression, a
call) that ends without violation under `cfg` ends in the same result with the same output under
every weaker `cfg'`. -/
theorem limit_monotone_same_start (cfg cfg' : Cfg) (hle : CfgLe cfg cfg') (fuel : Nat) :
    (∀ fr e tail st r s, eval fuel cfg fr e tail st = (r, s) → (∀ k, r ≠ .viol k) →
      ∃ s', eval fuel cfg' fr e tail st = (r, s') ∧ s'.out = s.out) ∧
    (∀ h c args st r s, callUser fuel cfg h c args st = (r, s) → (∀ k, r ≠ .viol k) →
      ∃ s', callUser fuel cfg' h c args st = (r, s') ∧ s'.out = s.out) ∧
    (∀ ds x s, runProgram fuel cfg ds = (x, s) → (∀ k, x ≠ .error (.viol k)) →
      ∃ s', runProgram fuel cfg' ds = (x, s') ∧ s'.out = s.out) := by
  have hb : ∀ st : St, ∀ l l', cfg.callLimit = some l → cfg'.callLimit = some l' →
      st.calls ≤ st.calls ∧ st.calls + l ≤ st.calls + l' := by
    intro st l l' h h'
    have := hle.call
    rw [h, h'] at this
    simp only [optLe] at this
    omega
  refine ⟨?_, ?_, ?_⟩
  · intro fr e tail st r s h hr
    exact (limit_monotone cfg cfg' hle fuel st st rfl (hb st)).1 fr e tail r s h hr
  · intro h c args st r s hh hr
    exact (limit_monotone cfg cfg' hle fuel st st rfl (hb st)).2.2.1 h c args r s hh hr
  · intro ds x s h hr
    exact (limit_monotone cfg cfg' hle fuel {} {} rfl (hb {})).2.2.2.2 _ ds x s h hr

/-- **Limits are transparent.** `noLimits cfg` = `cfg` with all three limits removed. For every
fuel, frame, argument, and states `st`, `st0` with the same output (the counters may differ): if the
run under `cfg` from `st` ends in a result that is not a violation, the run under `noLimits cfg` from
`st0` with the same fuel ends in the very same result, with the same output, its counter untouched. -/
theorem limits_transparent (cfg : Cfg) (fuel : Nat) (st st0 : St) (ho : st0.out = st.out) :
    (∀ fr e tail r s, eval fuel cfg fr e tail st = (r, s) → (∀ k, r ≠ .viol k) →
      eval fuel (noLimits cfg) fr e tail st0 = (r, { out := s.out, calls := st0.calls })) ∧
    (∀ fr c args tail r s, callVal fuel cfg fr c args tail st = (r, s) → (∀ k, r ≠ .viol k) →
      callVal fuel (noLimits cfg) fr c args tail st0 = (r, { out := s.out, calls := st0.calls })) ∧
    (∀ h c args r s, callUser fuel cfg h c args st = (r, s) → (∀ k, r ≠ .viol k) →
      callUser fuel (noLimits cfg) h c args st0 = (r, { out := s.out, calls := st0.calls })) ∧
    (∀ h c args rec r s, tramp fuel cfg h c args rec st = (r, s) → (∀ k, r ≠ .viol k) →
      tramp fuel (noLimits cfg) h c args rec st0 = (r, { out := s.out, calls := st0.calls })) ∧
    (∀ fr ds x s, evalDecls fuel cfg fr ds st = (x, s) → (∀ k, x ≠ .error (.viol k)) →
      evalDecls fuel (noLimits cfg) fr ds st0 = (x, { out := s.out, calls := st0.calls })) := by
  have L := lock cfg st.calls fuel
  have L' := lock (noLimits cfg) st0.calls fuel
  have W {s} := Below.weaken (cfgLe_noLimits cfg) (c0 := st.calls) (c0' := st0.calls) (fun l l' _ h' => nomatch h') (s := s)
  exact ⟨fun fr e tail r s h hr => (L.eval fr e tail _).follow (L'.eval fr e tail _) ho W h ((not_viol_iff r).mpr hr),
    fun fr c args tail r s h hr => (L.callVal fr c args tail _).follow (L'.callVal fr c args tail _) ho W h ((not_viol_iff r).mpr hr),
    fun hh c args r s h hr => (L.callUser hh c args _).follow (L'.callUser hh c args _) ho W h ((not_viol_iff r).mpr hr),
    fun hh c args rec r s h hr => (L.tramp hh c args rec _).follow (L'.tramp hh c args rec _) ho W h ((not_viol_iff r).mpr hr),
    fun fr ds x s h hr => (L.evalDecls fr ds _).follow (L'.evalDecls fr ds _) ho W h ((ex_not_viol_iff x).mpr hr)⟩

/-- Whole programs: a program that ends without violation under `cfg` gives the same bindings and
the same output with every limit removed. -/
theorem limits_transparent_program (cfg : Cfg) (fuel : Nat) (ds : List Decl) (x : Except Res Frame) (s : St)
    (h : runProgram fuel cfg ds = (x, s)) (hr : ∀ k, x ≠ .error (.viol k)) :
    runProgram fuel (noLimits cfg) ds = (x, { out := s.out, calls := 0 }) :=
  (limits_transparent cfg fuel {} {} rfl).2.2.2.2 _ ds x s h hr

-- the hypotheses are satisfiable: the one-call program under call limit 2 and depth limit 2 ends
-- without violation (and so does it with the limits raised or removed, by the theorems)
example : ∃ fr s, runProgram 10 { callLimit := some 2, depthLimit := some 2 } progOneCall = (.ok fr, s) ∧
    CfgLe { callLimit := some 2, depthLimit := some 2 } { callLimit := some 7, depthLimit := none } :=
  ⟨_, _, rfl, ⟨rfl, trivial, trivial, by simp [optLe]⟩⟩
-- and the non-violation hypothesis is needed: under call limit 1 the same program is stopped
example : (runProgram 10 { callLimit := some 1 } progOneCall).1 = .error (.viol .calls) ∧
    ∃ fr, (runProgram 10 (noLimits { callLimit := some 1 }) progOneCall).1 = .ok fr := ⟨rfl, _, rfl⟩

/-! ### calls are counted per user call, not per tail iteration -/

/-- The counter is advanced in exactly one place, `callUser` (`eval_func_with_values` entry), once
per user call and before the trampoline starts; the trampoline itself never touches it: when the body
ends with a tail call at state `st2`, the next iteration starts from exactly `st2` — same counter,
same height `h` — and only the recursion counter grows (it is the recursion limit, `>`, that bounds
the loop). -/
theorem calls_counted_per_user_call_not_per_tail_iteration (fuel : Nat) (cfg : Cfg) (h : Nat) (f : Func)
    (dflts : List Val) (env ps : List (String × Val)) (args newArgs : List Val) (rec : Nat) (st st1 st2 : St)
    (fr' : Frame) (l : Nat) (hl : cfg.callLimit = some l) (he : firstErr args = none)
    (hd : depthOk cfg h) (hb : bindParams f.params args dflts = some ps)
    (hdecl : evalDecls fuel cfg (callFrame h f dflts env ps) f.decls st = (.ok fr', st1))
    (hbody : eval fuel cfg fr' f.body true st1 = (.tail newArgs, st2)) (hr : recOk cfg (rec + 1)) :
    (st.calls + 1 < l → callUser (fuel + 1) cfg h (.clos f dflts env) args st
        = tramp fuel cfg h (.clos f dflts env) args 0 { st with calls := st.calls + 1 }) ∧
    tramp (fuel + 1) cfg h (.clos f dflts env) args rec st
        = tramp fuel cfg h (.clos f dflts env) newArgs (rec + 1) st2 :=
  ⟨(call_limit_exact fuel cfg h _ args st l hl he).2,
   (tramp_body_tail fuel cfg h f dflts env ps args newArgs rec st st1 st2 fr' hd hb hdecl hbody).1 hr⟩

/-- For every iteration count `n`: the accumulator loop `fn f(n, acc) { if(n == 0, acc, f(n-1, acc+n)) }`
called under a call limit `l` (and any depth limit admitting one frame) counts **one** call, whatever
`n`: the final counter is `st.calls + 1` after `n` tail iterations (`n` within the recursion limit). -/
theorem tail_iterations_not_counted (cfg : Cfg) (htco : cfg.tco = true) (h : Nat) (hd : depthOk cfg h)
    (n : Nat) (acc : Int) (st : St) (k l : Nat) (hl : cfg.callLimit = some l) (hc : st.calls + 1 < l)
    (hr : recOk cfg n) :
    (callUser (k + 16 + n) cfg h sumClos [.int n, .int acc] st).2.calls = st.calls + 1 := by
  -- the fuel is that of `sum_call`: 14 for the body, one each for `tramp` and `callUser`, one per iteration
  have := (sum_call cfg htco h hd n acc st k (by intro l' hl'; rw [hl] at hl'; cases hl'; exact hc)).1 hr
  rw [this]
  simp [hl]

/-! ### need-based exactness: a limit above the need never fires

`evalI` (CoreLimits.lean) is the same evaluator without any check, recording the number of user calls
(`calls`), the greatest frame height created (`maxH`) and the greatest tail-iteration count reached by
a trampoline (`maxRec`) — the *need* of a run. `evalI` never ends in a violation (`noViolI`). -/

/-- All three limits set (`cfgL tco Ld Lc Lr`), start state `st`: if the need of the run stays below
the limits — every frame height `< Ld` (depth check `≥`), the calls made on top of `st.calls` `< Lc`
(call check `≥`), every tail-iteration count `≤ Lr` (recursion check `>`) — the limited run is the
instrumented run: same result (never a violation), same output, counter advanced by the calls made. -/
theorem limits_above_need_exact (tco : Bool) (Ld Lc Lr fuel : Nat) (st : St) :
    (∀ fr e tail, let q := evalI fuel tco fr e tail { out := st.out }
      q.2.maxH < Ld → st.calls + q.2.calls < Lc → q.2.maxRec ≤ Lr →
      eval fuel (cfgL tco Ld Lc Lr) fr e tail st = (q.1, { out := q.2.out, calls := st.calls + q.2.calls }) ∧
      ∀ k, q.1 ≠ .viol k) ∧
    (∀ h c args, let q := callUserI fuel tco h c args { out := st.out }
      q.2.maxH < Ld → st.calls + q.2.calls < Lc → q.2.maxRec ≤ Lr →
      callUser fuel (cfgL tco Ld Lc Lr) h c args st = (q.1, { out := q.2.out, calls := st.calls + q.2.calls }) ∧
      ∀ k, q.1 ≠ .viol k) ∧
    (∀ fr ds, let q := evalDeclsI fuel tco fr ds { out := st.out }
      q.2.maxH < Ld → st.calls + q.2.calls < Lc → q.2.maxRec ≤ Lr →
      evalDecls fuel (cfgL tco Ld Lc Lr) fr ds st = (q.1, { out := q.2.out, calls := st.calls + q.2.calls }) ∧
      ∀ k, q.1 ≠ .error (.viol k)) := by
  have H := simI tco Ld Lc Lr st.calls fuel
  have N := noViolI tco fuel
  exact ⟨fun fr e tail h1 h2 h3 => ⟨H.eval fr e tail { out := st.out } ⟨h1, h2, h3⟩, (not_viol_iff _).mp (N.eval fr e tail _)⟩,
    fun h c args h1 h2 h3 => ⟨H.callUser h c args { out := st.out } ⟨h1, h2, h3⟩, (not_viol_iff _).mp (N.callUser h c args _)⟩,
    fun fr ds h1 h2 h3 => ⟨H.evalDecls fr ds { out := st.out } ⟨h1, h2, h3⟩, (ex_not_viol_iff _).mp (N.evalDecls fr ds _)⟩⟩

/-- **A limit above the need never fires**, for any configuration (each limit set or not): if every
configured limit exceeds the need of the run (depth limit `>` greatest frame height; call limit `>`
calls made, counted from `st.calls`; recursion limit `≥` greatest tail-iteration count), the run under
`cfg` ends in the result of the unchecked run — not a violation — with the same output. In particular:
depth limit `>` max height ⇒ no depth violation; recursion limit `≥` max consecutive tail count ⇒ no
recursion violation. -/
theorem no_violation_when_limits_exceed_need (cfg : Cfg) (fuel : Nat) (st : St) :
    (∀ fr e tail, let q := evalI fuel cfg.tco fr e tail { out := st.out }
      (∀ l, cfg.depthLimit = some l → q.2.maxH < l) → (∀ l, cfg.callLimit = some l → st.calls + q.2.calls < l) →
      (∀ l, cfg.recLimit = some l → q.2.maxRec ≤ l) →
      (∃ s', eval fuel cfg fr e tail st = (q.1, s') ∧ s'.out = q.2.out) ∧ ∀ k, q.1 ≠ .viol k) ∧
    (∀ ds, let q := evalDeclsI fuel cfg.tco { env := [], self := none, height := 0 } ds {}
      (∀ l, cfg.depthLimit = some l → q.2.maxH < l) → (∀ l, cfg.callLimit = some l → q.2.calls < l) →
      (∀ l, cfg.recLimit = some l → q.2.maxRec ≤ l) →
      (∃ s', runProgram fuel cfg ds = (q.1, s') ∧ s'.out = q.2.out) ∧ ∀ k, q.1 ≠ .error (.viol k)) := by
  have N := noViolI cfg.tco fuel
  refine ⟨fun fr e tail h1 h2 h3 => ?_, fun ds h1 h2 h3 => ?_⟩
  · have S := ((lock cfg st.calls fuel).eval fr e tail { out := st.out }).sim
      ⟨.inr (optLt_iff.mpr h1), .inr (optLt_iff.mpr h2), optLeN_iff.mpr h3⟩
    rw [TC_start] at S
    exact ⟨⟨_, S, rfl⟩, (not_viol_iff _).mp (N.eval fr e tail _)⟩
  · have S := ((lock cfg 0 fuel).evalDecls { env := [], self := none, height := 0 } ds {}).sim
      ⟨.inr (optLt_iff.mpr h1), .inr (optLt_iff.mpr (by simpa using h2)), optLeN_iff.mpr h3⟩
    rw [TC_start cfg {}] at S
    exact ⟨⟨_, S, rfl⟩, (ex_not_viol_iff _).mp (N.evalDecls _ ds _)⟩

-- the need of the loop program (tco on): one call, frame height 1, two tail iterations;
-- limits just above it do not fire (theorem), limits at it do (`rfl` examples above)
example : (evalDeclsI 20 true { env := [], self := none, height := 0 } progLoop {}).2.calls = 1 ∧
    (evalDeclsI 20 true { env := [], self := none, height := 0 } progLoop {}).2.maxH = 1 ∧
    (evalDeclsI 20 true { env := [], self := none, height := 0 } progLoop {}).2.maxRec = 2 := by decide +kernel

/-! ### the converse: a limit at or below the need fires — whole-run exactness of the depth and the
recursion limit (the call limit has `call_limit_exact_run`)

Helper `vioO` (CoreLimitsConv.lean): depth and recursion limit each set or not (`cfgO tco Ld Lr`, no call
limit); if the instrumented counters are within the limits at the start and not at the end of a run of
`evalI`, the limited run ends in a violation. Up to the first point at which the counters leave the
limits the two runs are in lockstep (`Lock`, CoreLimitsSim.lean); at that point — a frame creation or a
tail iteration — the limited run raises the violation, which every enclosing construct passes on. -/

/-- Depth and recursion limit each set or not, no call limit: if the need of the run (greatest frame
height, greatest tail-iteration count of the unchecked run `evalI`) reaches a configured limit —
height `≥` depth limit or tail count `>` recursion limit — the limited run ends in a violation. -/
theorem limit_at_or_below_need_fires (tco : Bool) (Ld Lr : Option Nat) (fuel : Nat) (st : St)
    (hL : ∀ l, Ld = some l → 1 ≤ l) :
    (∀ fr e tail, ¬ WithinO Ld Lr (evalI fuel tco fr e tail { out := st.out }).2 →
      ∃ k, (eval fuel (cfgO tco Ld Lr) fr e tail st).1 = .viol k) ∧
    (∀ h c args, ¬ WithinO Ld Lr (callUserI fuel tco h c args { out := st.out }).2 →
      ∃ k, (callUser fuel (cfgO tco Ld Lr) h c args st).1 = .viol k) ∧
    (∀ ds, ¬ WithinO Ld Lr (evalDeclsI fuel tco { env := [], self := none, height := 0 } ds {}).2 →
      ∃ k, (runProgram fuel (cfgO tco Ld Lr) ds).1 = .error (.viol k)) := by
  have h0 (o : List String) : WithinO Ld Lr ({ out := o } : StI) :=
    ⟨optLt_iff.mpr hL, optLeN_iff.mpr fun l _ => Nat.zero_le l⟩
  exact ⟨fun fr e tail h => viol_of_isViol ((vioO tco Ld Lr st.calls fuel).eval fr e tail { out := st.out } (h0 _) h),
    fun hh c args h => viol_of_isViol ((vioO tco Ld Lr st.calls fuel).callUser hh c args { out := st.out } (h0 _) h),
    fun ds h => viol_of_exViol ((vioO tco Ld Lr 0 fuel).evalDecls { env := [], self := none, height := 0 } ds {} (h0 _) h)⟩

/-- **The depth limit is exact over whole runs.** Only the depth limit `L ≥ 1` configured. With
`maxH` the greatest frame height created by the unchecked run: the run ends in the depth violation
exactly when `L ≤ maxH`; otherwise (`maxH < L`) it ends in the unchecked run's result, which is not a
violation. For expressions (any frame, start state) and whole programs. -/
theorem depth_limit_exact_run (tco : Bool) (L fuel : Nat) (hL : 1 ≤ L) :
    (∀ fr e tail st,
      let q := evalI fuel tco fr e tail { out := st.out }
      let r := (eval fuel { depthLimit := some L, tco := tco } fr e tail st).1
      (L ≤ q.2.maxH → r = .viol .depth) ∧ (q.2.maxH < L → r = q.1 ∧ ∀ k, r ≠ .viol k) ∧
      (r = .viol .depth ↔ L ≤ q.2.maxH)) ∧
    (∀ ds,
      let q := evalDeclsI fuel tco { env := [], self := none, height := 0 } ds {}
      let r := (runProgram fuel { depthLimit := some L, tco := tco } ds).1
      (L ≤ q.2.maxH → r = .error (.viol .depth)) ∧ (q.2.maxH < L → r = q.1 ∧ ∀ k, r ≠ .error (.viol k)) ∧
      (r = .error (.viol .depth) ↔ L ≤ q.2.maxH)) := by
  have K := kindAt (cfgO tco (some L) none) fuel
  have F := limit_at_or_below_need_fires tco (some L) none fuel
  have Q := no_violation_when_limits_exceed_need (cfgO tco (some L) none) fuel
  have hL' : ∀ l, some L = some l → 1 ≤ l := fun l h => Option.some.inj h ▸ hL
  refine ⟨fun fr e tail st => ?_, fun ds => ?_⟩
  · refine exact_of_fires_quiet (Nat.lt_or_ge _ _) (fun hle => ?_) fun hlt =>
      (Q st).1 fr e tail (fun l h => Option.some.inj h ▸ hlt) (fun l h => nomatch h) (fun l h => nomatch h)
    obtain ⟨k, hk⟩ := (F st hL').1 fr e tail fun hw => Nat.not_lt.mpr hle hw.1
    exact depth_of_kind (K.eval fr e tail st) rfl rfl hk
  · refine exact_of_fires_quiet (inj := fun k => Except.error (Res.viol k)) (Nat.lt_or_ge _ _) (fun hle => ?_) fun hlt =>
      (Q {}).2 ds (fun l h => Option.some.inj h ▸ hlt) (fun l h => nomatch h) (fun l h => nomatch h)
    obtain ⟨k, hk⟩ := (F {} hL').2.2 ds fun hw => Nat.not_lt.mpr hle hw.1
    exact depth_of_kind (inj := fun k => Except.error (Res.viol k)) (K.evalDecls _ ds {}) rfl rfl hk

/-- **The recursion limit is exact over whole runs.** Only the recursion limit `L` configured. With
`maxRec` the greatest number of consecutive tail iterations of one trampoline in the unchecked run: the
run ends in the recursion violation exactly when `L < maxRec`; otherwise it ends in the unchecked run's
result, which is not a violation. -/
theorem recursion_limit_exact_run (tco : Bool) (L fuel : Nat) :
    (∀ fr e tail st,
      let q := evalI fuel tco fr e tail { out := st.out }
      let r := (eval fuel { recLimit := some L, tco := tco } fr e tail st).1
      (L < q.2.maxRec → r = .viol .recursion) ∧ (q.2.maxRec ≤ L → r = q.1 ∧ ∀ k, r ≠ .viol k) ∧
      (r = .viol .recursion ↔ L < q.2.maxRec)) ∧
    (∀ ds,
      let q := evalDeclsI fuel tco { env := [], self := none, height := 0 } ds {}
      let r := (runProgram fuel { recLimit := some L, tco := tco } ds).1
      (L < q.2.maxRec → r = .error (.viol .recursion)) ∧ (q.2.maxRec ≤ L → r = q.1 ∧ ∀ k, r ≠ .error (.viol k)) ∧
      (r = .error (.viol .recursion) ↔ L < q.2.maxRec)) := by
  have K := kindAt (cfgO tco none (some L)) fuel
  have F := limit_at_or_below_need_fires tco none (some L) fuel
  have Q := no_violation_when_limits_exceed_need (cfgO tco none (some L)) fuel
  refine ⟨fun fr e tail st => ?_, fun ds => ?_⟩
  · refine exact_of_fires_quiet (Nat.lt_or_ge _ _).symm (fun hlt => ?_) fun hle =>
      (Q st).1 fr e tail (fun l h => nomatch h) (fun l h => nomatch h) (fun l h => Option.some.inj h ▸ hle)
    obtain ⟨k, hk⟩ := (F st fun l h => nomatch h).1 fr e tail fun hw => Nat.not_le.mpr hlt hw.2
    exact recursion_of_kind (K.eval fr e tail st) rfl rfl hk
  · refine exact_of_fires_quiet (inj := fun k => Except.error (Res.viol k)) (Nat.lt_or_ge _ _).symm (fun hlt => ?_) fun hle =>
      (Q {}).2 ds (fun l h => nomatch h) (fun l h => nomatch h) (fun l h => Option.some.inj h ▸ hle)
    obtain ⟨k, hk⟩ := (F {} fun l h => nomatch h).2.2 ds fun hw => Nat.not_le.mpr hlt hw.2
    exact recursion_of_kind (inj := fun k => Except.error (Res.viol k)) (K.evalDecls _ ds {}) rfl rfl hk

-- the loop program (tco on) needs height 1 and 2 tail iterations: depth limit 1 fires, 2 does not;
-- recursion limit 1 fires, 2 does not (the `rfl` examples above are these instances)
example : (runProgram 20 { depthLimit := some 1 } progLoop).1 = .error (.viol .depth) :=
  ((depth_limit_exact_run true 1 20 (Nat.le_refl 1)).2 progLoop).1 (by decide +kernel)
example : (runProgram 20 { recLimit := some 1 } progLoop).1 = .error (.viol .recursion) :=
  ((recursion_limit_exact_run true 1 20).2 progLoop).1 (by decide +kernel)

end XrayModel.C08
